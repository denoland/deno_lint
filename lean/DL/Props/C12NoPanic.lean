import DL.Lemmas.RxPattern

/-!
# C12 (panic-freedom) — the regular-expression validator never panics

For EVERY initial validator state (the rule reuses one validator for all regexes of a file, also after an `Err`),
every source (any list of `Nat`s — not even restricted to Unicode scalar values), both modes, every fuel, both
overflow profiles: `validate_pattern` does not reach any of the panic sites of the model

* `Reader::at`: `src.chars().nth(i).unwrap()` / `src.encode_utf16().nth(i).unwrap()`
  — reader invariant `end ≤ #units`, established by `reset`, `DL.Rx.readerAt_ok`;
* `is_in_range` (`unicode.rs`): `ranges[2*i]`, `ranges[2*i+1]` — `l ≤ i < r ≤ len/2`, `DL.Rx.isInRangeLoop_tests` (any table);
* `to_digit(r).unwrap()` in `eat_fixed_hex_digits`, `eat_octal_digit`, `eat_hex_digits`, `eat_decimal_digits` and
  `eat_decimal_escape` — guarded by `is_ascii_hexdigit` / `is_digit(8)` / `is_ascii_digit`;
* `eat_decimal_digits`: `code_point_with_offset(0).unwrap()` — same state as the `while let Some(..)`;
* `eat_fixed_hex_digits`: `16 * last_int_value + d` — at most 4 digits from 0, `DL.Rx.eatFixedHexDigitsLoop_safe`;
* `eat_decimal_escape`: `10 * last_int_value + d` — right after `last_int_value = 0`;
* `eat_unicode_property_name/value`: `to_char().unwrap()` — ASCII letters, digits, `_`;
* `eat_regexp_identifier_name`: `char::from_u32(last_int_value as u32).unwrap()` — `is_regexp_identifier_start/part`
  accepted the value, and every range of the ID_Start / ID_Continue tables lies inside the scalar values
  (`DL.Rx.largeIdStart_chars`, `DL.Rx.largeIdContinue_chars`, kernel evaluation of the tables).

No hypothesis is needed.
-/
namespace DL.Props.C12
open DL.Rx

theorem not_panic_of_safe {α : Type} {m : M α} {Q : α → St → Prop} (h : Safe (fun _ => True) m Q) (st : St) :
    ∀ why s', m st ≠ .panic why s' := by
  intro why s' he
  have := h st trivial
  rw [he] at this
  exact this

theorem validatePattern_never_panics (fuel : Nat) (source : List Nat) (uFlag : Bool) (st : St) :
    ∀ why s', validatePattern fuel source uFlag st ≠ .panic why s' :=
  not_panic_of_safe (validatePattern_safe fuel source uFlag) st

theorem validatePattern_ok_inv (fuel : Nat) (source : List Nat) (uFlag : Bool) (st : St) (s' : St)
    (h : validatePattern fuel source uFlag st = .ok () s') : Inv s' := by
  have := validatePattern_safe fuel source uFlag st trivial
  rw [h] at this
  exact this

theorem checkForInvalidPattern_never_panics (fuel : Nat) (source : List Nat) (uFlag : Bool) (st : St) :
    ∀ why s', checkForInvalidPattern fuel source uFlag st ≠ .panic why s' := by
  intro why s'
  unfold checkForInvalidPattern
  have h := validatePattern_never_panics fuel source uFlag st
  cases hv : validatePattern fuel source uFlag st with
  | ok _ _ => intro he; cases he
  | err _ _ => intro he; cases he
  | panic m s'' => exact absurd hv (h m s'')
  | outOfFuel _ => intro he; cases he

theorem checkRegex_eq (fuel : Nat) (pattern flags : List Nat) :
    checkRegex fuel pattern flags =
      if checkForInvalidFlags flags = true then (pure true : M Bool)
      else checkForInvalidPattern fuel pattern (flags.contains (ch 'u')) := rfl

/-- the outcomes of `check_regex`: a verdict, or the model's fuel ran out — never a panic, never an escaped `Err` -/
theorem checkRegex_outcome (fuel : Nat) (pattern flags : List Nat) (st : St) :
    (∃ b s', checkRegex fuel pattern flags st = .ok b s') ∨ (∃ s', checkRegex fuel pattern flags st = .outOfFuel s') := by
  rw [checkRegex_eq]
  by_cases hf : checkForInvalidFlags flags = true
  · rw [if_pos hf]; exact .inl ⟨true, st, rfl⟩
  · rw [if_neg hf]
    unfold checkForInvalidPattern
    have h := validatePattern_never_panics fuel pattern (flags.contains (ch 'u')) st
    cases hv : validatePattern fuel pattern (flags.contains (ch 'u')) st with
    | ok _ s' => exact .inl ⟨false, s', rfl⟩
    | err _ s' => exact .inl ⟨true, s', rfl⟩
    | panic m s'' => exact absurd hv (h m s'')
    | outOfFuel s' => exact .inr ⟨s', rfl⟩

theorem checkRegex_never_panics (fuel : Nat) (pattern flags : List Nat) (st : St) :
    ∀ why s', checkRegex fuel pattern flags st ≠ .panic why s' := by
  intro why s' he
  rcases checkRegex_outcome fuel pattern flags st with ⟨b, s'', h⟩ | ⟨s'', h⟩ <;> rw [h] at he <;> cases he

/-- a whole file (all its regexes in source order, one validator): `lint_file` does not unwind -/
theorem runSeqAux_no_panic : ∀ (seq : List (List Nat × List Nat)) (st : St), (runSeqAux seq st).panic = false
  | [], _ => rfl
  | (p, f) :: rest, st => by
    unfold runSeqAux
    rcases checkRegex_outcome (defaultFuel p) p f st with ⟨b, s', h⟩ | ⟨s', h⟩
    · rw [h]; exact runSeqAux_no_panic rest s'
    · rw [h]

theorem runSeq_no_panic (seq : List (List Nat × List Nat)) (st : St) : (runSeq seq st).panic = false := by
  unfold runSeq
  have h := runSeqAux_no_panic seq st
  by_cases hc : ((runSeqAux seq st).panic || (runSeqAux seq st).fuel) = true
  · rw [if_pos hc]; exact h
  · rw [if_neg hc]; exact h

/-! ### the panic sites of the model are live: the reader invariant is what excludes them

A `Reader` whose `end` exceeds its unit list does panic in `at` (so `Res.panic` is not vacuous in the model), and
`validate_pattern` started in that very state does not, because `reset` re-establishes the invariant. -/
def badState : St := { reader := { end_ := 2, cps := [97] } }

example : ¬ Inv badState := by decide
example : ∃ why s', advance badState = .panic why s' := ⟨_, _, rfl⟩
example : ∃ why s', rewind 0 badState = .panic why s' := ⟨_, _, rfl⟩
example : ∀ why s', validatePattern 100 [97] false badState ≠ .panic why s' :=
  validatePattern_never_panics 100 [97] false badState

end DL.Props.C12

