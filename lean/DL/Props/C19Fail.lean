import DL.Model.Sched2
import DL.Props.C19

/-!
# C19, second half — schedule independence of dlint when files fail to be read or parsed

For **every** list of worker outcomes with pairwise distinct paths and **every** schedule: the map of failures, the
collected good results, what is printed and the exit status are the same; the failure that ends the run is the one
with the least path; without failures everything is as in `C19`.
-/
namespace DL.Props.C19Fail
open DL.Sched DL.Props.C19

def goods (s : List Outcome) : List FileResult := s.filterMap (fun | .ok r => some r | .fail .. => none)
def fails (s : List Outcome) : List (String × String) := s.filterMap (fun | .fail p e => some (p, e) | .ok _ => none)

@[simp] theorem goods_nil : goods [] = [] := rfl
@[simp] theorem fails_nil : fails [] = [] := rfl
@[simp] theorem goods_ok (r : FileResult) (s : List Outcome) : goods (.ok r :: s) = r :: goods s := rfl
@[simp] theorem goods_fail (p e : String) (s : List Outcome) : goods (.fail p e :: s) = goods s := rfl
@[simp] theorem fails_ok (r : FileResult) (s : List Outcome) : fails (.ok r :: s) = fails s := rfl
@[simp] theorem fails_fail (p e : String) (s : List Outcome) : fails (.fail p e :: s) = (p, e) :: fails s := rfl

theorem mem_fails {s : List Outcome} {p e : String} : (p, e) ∈ fails s ↔ Outcome.fail p e ∈ s := by
  induction s with
  | nil => simp
  | cons o r ih =>
    cases o with
    | ok r' => simp [ih]
    | fail p' e' => simp [ih]

theorem mem_goods {s : List Outcome} {r : FileResult} : r ∈ goods s ↔ Outcome.ok r ∈ s := by
  induction s with
  | nil => simp
  | cons o r' ih =>
    cases o with
    | ok r'' => simp [ih]
    | fail p' e' => simp [ih]

theorem fails_keys_sublist : ∀ (s : List Outcome), ((fails s).map (·.1)).Sublist (s.map Outcome.path)
  | [] => List.Sublist.slnil
  | .ok r :: s => by
    simp only [fails_ok, List.map_cons]
    exact (fails_keys_sublist s).cons _
  | .fail p e :: s => by
    simp only [fails_fail, List.map_cons, Outcome.path]
    exact (fails_keys_sublist s).cons_cons _

theorem goods_paths_sublist : ∀ (s : List Outcome), ((goods s).map (·.path)).Sublist (s.map Outcome.path)
  | [] => List.Sublist.slnil
  | .ok r :: s => by
    simp only [goods_ok, List.map_cons, Outcome.path]
    exact (goods_paths_sublist s).cons_cons _
  | .fail p e :: s => by
    simp only [goods_fail, List.map_cons]
    exact (goods_paths_sublist s).cons _

theorem fails_perm {s1 s2 : List Outcome} (hp : s1.Perm s2) : (fails s1).Perm (fails s2) := hp.filterMap _
theorem goods_perm {s1 s2 : List Outcome} (hp : s1.Perm s2) : (goods s1).Perm (goods s2) := hp.filterMap _

theorem foldl_step2 : ∀ (s : List Outcome) (st : St2),
    (s.foldl step2 st).good = (goods s).foldl step st.good ∧
    (s.foldl step2 st).failures = insertAll (fails s) st.failures
  | [], st => ⟨rfl, rfl⟩
  | .ok r :: s, st => foldl_step2 s (step2 st (.ok r))
  | .fail p e :: s, st => by
    have ih := foldl_step2 s (step2 st (.fail p e))
    refine ⟨ih.1, ih.2.trans ?_⟩
    rw [step2, errInsert_eq]; rfl

theorem run2_good (s : List Outcome) : (run2 s).good = run (goods s) := (foldl_step2 s _).1

theorem run2_failures (s : List Outcome) : (run2 s).failures = insertAll (fails s) [] := (foldl_step2 s _).2

theorem fails_keys_nodup {s : List Outcome} (hnd : (s.map Outcome.path).Nodup) : ((fails s).map (·.1)).Nodup :=
  (fails_keys_sublist s).nodup hnd

theorem goods_paths_nodup {s : List Outcome} (hnd : (s.map Outcome.path).Nodup) : ((goods s).map (·.path)).Nodup :=
  (goods_paths_sublist s).nodup hnd

/-- the final map of failures: sorted by path, and exactly the failures -/
theorem run2_failures_facts (s : List Outcome) (hnd : (s.map Outcome.path).Nodup) :
    SortedK (run2 s).failures ∧ (run2 s).failures.Perm (fails s) := by
  have h := insertAll_facts (fails s) [] List.Pairwise.nil (fun _ _ _ h => by cases h) (fails_keys_nodup hnd)
  rwa [List.append_nil, ← run2_failures] at h

theorem failures_schedule_independent (s1 s2 : List Outcome) (hp : s1.Perm s2)
    (hnd : (s1.map Outcome.path).Nodup) : (run2 s1).failures = (run2 s2).failures := by
  have h1 := run2_failures_facts s1 hnd
  have h2 := run2_failures_facts s2 ((hp.map _).nodup_iff.mp hnd)
  exact SortedK.eq_of_perm h1.1 h2.1 (h1.2.trans ((fails_perm hp).trans h2.2.symm))

theorem good_schedule_independent (s1 s2 : List Outcome) (hp : s1.Perm s2)
    (hnd : (s1.map Outcome.path).Nodup) : (run2 s1).good = (run2 s2).good := by
  rw [run2_good, run2_good]
  obtain ⟨hm, hc⟩ := final_state_schedule_independent (goods s1) (goods s2) (goods_perm hp) (goods_paths_nodup hnd)
  cases h1 : run (goods s1) with
  | mk m1 c1 =>
    cases h2 : run (goods s2) with
    | mk m2 c2 =>
      rw [h1, h2] at hm hc
      simp only at hm hc
      rw [hm, hc]

/-- what dlint prints and its exit status do not depend on the schedule, also when files fail -/
theorem finish_schedule_independent (s1 s2 : List Outcome) (hp : s1.Perm s2)
    (hnd : (s1.map Outcome.path).Nodup) : finish (run2 s1) = finish (run2 s2) := by
  unfold finish
  rw [failures_schedule_independent s1 s2 hp hnd, good_schedule_independent s1 s2 hp hnd]

/-- the failure that ends the run is the one with the least path (`String`'s `≤`, i.e. `¬ p' < p`) -/
theorem failure_reported_is_least (s : List Outcome) (hnd : (s.map Outcome.path).Nodup) (p e : String)
    (h : Outcome.fail p e ∈ s) (hmin : ∀ p' e', Outcome.fail p' e' ∈ s → p ≤ p') :
    finish (run2 s) = ([s!"Error: {e}"], 1) := by
  obtain ⟨hsorted, hperm⟩ := run2_failures_facts s hnd
  have hmem : (p, e) ∈ (run2 s).failures := hperm.mem_iff.mpr (mem_fails.mpr h)
  unfold finish
  cases hf : (run2 s).failures with
  | nil => rw [hf] at hmem; cases hmem
  | cons kv rest =>
    obtain ⟨k, v⟩ := kv
    rw [hf] at hmem hsorted hperm
    have hkv : Outcome.fail k v ∈ s := mem_fails.mp (hperm.mem_iff.mp List.mem_cons_self)
    have hle : p ≤ k := hmin k v hkv
    rcases List.mem_cons.mp hmem with heq | hin
    · cases heq; rfl
    · have hlt : k < p := (List.pairwise_cons.mp hsorted).1 (p, e) hin
      exact absurd hlt (String.not_lt.mpr hle)

theorem no_failure_same_as_before (s : List Outcome) (h : fails s = []) :
    finish (run2 s) = (report (run (goods s)), exitStatus (run (goods s))) := by
  have hf : (run2 s).failures = [] := by rw [run2_failures, h]; rfl
  unfold finish
  rw [hf, run2_good]

theorem run2_failures_ne_nil (s : List Outcome) (p e : String) (h : Outcome.fail p e ∈ s) :
    (run2 s).failures ≠ [] := by
  rw [run2_failures]
  have hm : (p, e) ∈ fails s := mem_fails.mpr h
  cases hf : fails s with
  | nil => rw [hf] at hm; cases hm
  | cons x r => exact insertAll_ne_nil r _ (insertKV_ne_nil _ _ _)

theorem failure_exit_status (s : List Outcome) (p e : String) (h : Outcome.fail p e ∈ s) :
    (finish (run2 s)).2 = 1 := by
  have hne := run2_failures_ne_nil s p e h
  unfold finish
  cases hf : (run2 s).failures with
  | nil => exact absurd hf hne
  | cons kv rest => rfl

/-! two failing files and one good file, in two different orders -/
example :
    finish (run2 [.fail "z.ts" "cannot read", .ok ⟨"m.ts", ["no-var"], []⟩, .fail "b.ts" "parse error"]) =
      finish (run2 [.ok ⟨"m.ts", ["no-var"], []⟩, .fail "b.ts" "parse error", .fail "z.ts" "cannot read"]) ∧
    finish (run2 [.fail "z.ts" "cannot read", .ok ⟨"m.ts", ["no-var"], []⟩, .fail "b.ts" "parse error"]) =
      (["Error: parse error"], 1) := by decide +kernel

end DL.Props.C19Fail
