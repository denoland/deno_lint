import DL.Props.C13Imp
import DL.Lemmas.ImpReal
import DL.Lemmas.Rounds
/-!
# C13 for the import fixes, faithful step: the rules' *own* repair sequence terminates

`fixReal` (`DL/Lemmas/ImpReal.lean`) is `applyFix` at the position `wheres` computes, plus the detail `applyFix` leaves
out: in case `Where.sameLine` the line of the most recent import (`recentPos`) gets one more `.imp false` item.

* `kept_fixReal`: the extra item does not change the reports;
* `wf_fixReal`: the fixed file is well-formed again, with the first token's line `firstAfter`;
* `real_repair_terminates`: fixing the first report again and again, each time at the position the rule offers on the
  file as it then is, leaves no report after at most `(kept f).length` rounds;
* `fixReal_sameLine_spec`: in case `sameLine`, `recentPos` is defined and points at an `.imp false` item, so the `none`
  branch of `fixReal` is dead;

and the rounds on `fA`, evaluated by the kernel.
-/
namespace DL.Imp

/-- `hwf` is not used: the extra item is invisible to the reports on any file -/
theorem kept_fixReal (f : File) (first i : Nat) (hwf : WF f first) (hi : i < (raw f).length) :
    kept (fixReal f first i) =
      kept (applyFix f ((raw f)[i]).2 ((wheres f first)[i]'(by rw [wheres_length]; exact hi))) := by
  have hi' : i < (wheres f first).length := by rw [wheres_length]; exact hi
  have h1 : (raw f)[i]? = some (raw f)[i] := List.getElem?_eq_getElem hi
  have h2 : (wheres f first)[i]? = some (wheres f first)[i] := List.getElem?_eq_getElem hi'
  cases hw : (wheres f first)[i] with
  | newLineAt k =>
    rw [hw] at h2
    rw [fixReal_newLine h1 h2]
    rfl
  | sameLine =>
    rw [hw] at h2
    rw [fixReal_sameLine h1 h2]
    show _ = kept (dropName f ((raw f)[i]).2)
    cases recentPos f i with
    | none => rfl
    | some p =>
      obtain ⟨l, j⟩ := p
      exact kept_insertImpAfter _ l j

theorem wf_fixReal (f : File) (first i : Nat) (hwf : WF f first) (hi : i < (raw f).length) :
    WF (fixReal f first i) (firstAfter f first i) := by
  have hi' : i < (wheres f first).length := by rw [wheres_length]; exact hi
  have h1 : (raw f)[i]? = some (raw f)[i] := List.getElem?_eq_getElem hi
  have h2 : (wheres f first)[i]? = some (wheres f first)[i] := List.getElem?_eq_getElem hi'
  have hsafe : Safe f (wheres f first)[i] := wheres_safe f first hwf _ (List.getElem_mem _)
  cases hw : (wheres f first)[i] with
  | newLineAt k =>
    rw [hw] at h2 hsafe
    rw [fixReal_newLine h1 h2, firstAfter_newLine h2]
    exact wf_insertLine (wf_dropName hwf _) k (by rw [length_dropName]; exact hsafe.1)
  | sameLine =>
    rw [hw] at h2
    rw [fixReal_sameLine h1 h2, firstAfter_sameLine h2]
    cases hp : recentPos f i with
    | none => exact wf_dropName hwf _
    | some p =>
      obtain ⟨l, j⟩ := p
      exact wf_insertImpAfter (wf_dropName hwf _) l j (recentPos_first_le hwf h2 hp)

theorem fixReal_sameLine_spec (f : File) (first i : Nat) (hi : i < (raw f).length)
    (hw : (wheres f first)[i]? = some .sameLine) :
    ∃ l j ln, recentPos f i = some (l, j) ∧ f[l]? = some ln ∧ ln.items[j]? = some (Item.imp false) ∧
      fixReal f first i = insertImpAfter (dropName f ((raw f)[i]).2) l j := by
  obtain ⟨l, j, ln, hp, hl, hj⟩ := recentPos_of_sameLine hw
  refine ⟨l, j, ln, hp, hl, hj, ?_⟩
  rw [fixReal_sameLine (List.getElem?_eq_getElem hi) hw, hp]

example : (wheres fA 1)[2]? = some .sameLine ∧ recentPos fA 2 = some (4, 0) ∧
    fixReal fA 1 2 = insertImpAfter (dropName fA 3) 4 0 ∧
    (fixReal fA 1 2)[4]? = some ⟨false, false, [.imp false, .imp false, .ref 2]⟩ := by decide +kernel

/-- index in `raw f` of the first reported diagnostic -/
def firstKeptIdx (f : File) : Option Nat := (raw f).findIdx? (fun d => !suppressed f d.1)

/-- one round: take the fix the rule offers for the first report (state: the file and its first token's line) -/
def realStep (s : File × Nat) : File × Nat :=
  match firstKeptIdx s.1 with
  | some i => (fixReal s.1 s.2 i, firstAfter s.1 s.2 i)
  | none => s

def realN : Nat → File × Nat → File × Nat
  | 0, s => s
  | n + 1, s => realN n (realStep s)

theorem firstKeptIdx_some {f : File} {i : Nat} (h : firstKeptIdx f = some i) :
    ∃ hi : i < (raw f).length, (raw f)[i] ∈ kept f := by
  unfold firstKeptIdx at h
  obtain ⟨hi, hp, _⟩ := List.findIdx?_eq_some_iff_getElem.mp h
  exact ⟨hi, List.mem_filter.mpr ⟨List.getElem_mem _, hp⟩⟩

theorem firstKeptIdx_none {f : File} (h : firstKeptIdx f = none) : kept f = [] := by
  unfold firstKeptIdx at h
  unfold kept
  rw [List.filter_eq_nil_iff]
  intro d hd
  rw [List.findIdx?_eq_none_iff.mp h d hd]
  exact Bool.false_ne_true

theorem realStep_some {s : File × Nat} {i : Nat} (h : firstKeptIdx s.1 = some i) :
    realStep s = (fixReal s.1 s.2 i, firstAfter s.1 s.2 i) := by
  unfold realStep; rw [h]

theorem realStep_none {s : File × Nat} (h : firstKeptIdx s.1 = none) : realStep s = s := by
  unfold realStep; rw [h]

theorem wf_realStep {s : File × Nat} (hwf : WF s.1 s.2) : WF (realStep s).1 (realStep s).2 := by
  cases h : firstKeptIdx s.1 with
  | none => rw [realStep_none h]; exact hwf
  | some i =>
    rw [realStep_some h]
    obtain ⟨hi, _⟩ := firstKeptIdx_some h
    exact wf_fixReal s.1 s.2 i hwf hi

theorem realStep_fewer {s : File × Nat} (hwf : WF s.1 s.2) (hne : kept s.1 ≠ []) :
    (kept (realStep s).1).length < (kept s.1).length := by
  cases h : firstKeptIdx s.1 with
  | none => exact absurd (firstKeptIdx_none h) hne
  | some i =>
    rw [realStep_some h]
    obtain ⟨hi, hk⟩ := firstKeptIdx_some h
    show (kept (fixReal s.1 s.2 i)).length < _
    rw [kept_fixReal s.1 s.2 i hwf hi]
    exact real_fix_strictly_fewer s.1 s.2 hwf i hi hk

theorem wf_realN (n : Nat) : ∀ {s : File × Nat}, WF s.1 s.2 → WF (realN n s).1 (realN n s).2 := by
  induction n with
  | zero => intro s h; exact h
  | succ n ih => intro s h; exact ih (wf_realStep h)

theorem realN_done (n : Nat) (s : File × Nat) (hwf : WF s.1 s.2) (h : (kept s.1).length ≤ n) :
    kept (realN n s).1 = [] := by
  refine List.eq_nil_of_length_eq_zero (Rounds.iterate_reaches_zero realStep realN (fun _ => rfl) (fun _ _ => rfl)
    (fun s => WF s.1 s.2) (fun s => (kept s.1).length) (fun _ => wf_realStep) ?_ ?_ n s hwf h)
  · exact fun s hwf hne => realStep_fewer hwf fun h0 => hne (h0 ▸ rfl)
  · intro s hz
    cases h : firstKeptIdx s.1 with
    | none => exact realStep_none h
    | some i =>
      obtain ⟨_, hk⟩ := firstKeptIdx_some h
      rw [List.eq_nil_of_length_eq_zero hz] at hk
      cases hk

theorem real_repair_terminates (f : File) (first : Nat) (hwf : WF f first) :
    kept (realN (kept f).length (f, first)).1 = [] :=
  realN_done _ (f, first) hwf (Nat.le_refl _)

theorem real_repair_wf (f : File) (first : Nat) (hwf : WF f first) (n : Nat) :
    WF (realN n (f, first)).1 (realN n (f, first)).2 :=
  wf_realN n (s := (f, first)) hwf

/-! the rounds on `fA` (`first = 1`, `WF` by `fA_wf`) -/

/-- `fA` has 3 reports; the positions of the most recent import of its 4 raw diagnostics -/
example : (kept fA).length = 3 ∧ firstKeptIdx fA = some 1 ∧
    recentPosAll fA = [none, some (2, 0), some (4, 0), some (4, 0)] ∧
    wheres fA 1 = [.newLineAt 0, .newLineAt 3, .sameLine, .sameLine] := by decide +kernel

/-- round 1: the report `(3, 2)` is fixed by a new line 3 (after the import ending line 2); name 2 is gone everywhere;
    the first token stays on line 1 -/
theorem realN_fA_1 : realN 1 (fA, 1) =
    ([⟨true, true, []⟩, ⟨false, false, [.ref 1]⟩, ⟨false, false, [.imp true]⟩, ⟨false, false, [.imp true]⟩,
      ⟨false, false, []⟩, ⟨false, false, [.imp false, .ref 3]⟩], 1) := by decide

/-- round 2: the report `(5, 3)` is fixed on the line of the import of line 5 (`sameLine`): that line gets the extra
    `.imp false` right after item 0 -/
theorem realN_fA_2 : realN 2 (fA, 1) =
    ([⟨true, true, []⟩, ⟨false, false, [.ref 1]⟩, ⟨false, false, [.imp true]⟩, ⟨false, false, [.imp true]⟩,
      ⟨false, false, []⟩, ⟨false, false, [.imp false, .imp false]⟩], 1) := by
  show realStep (realN 1 (fA, 1)) = _
  rw [realN_fA_1]; decide

/-- round 3 changes nothing: no report is left (the reference to 1 is covered by the directive on line 0) -/
theorem realN_fA_3 : realN 3 (fA, 1) = realN 2 (fA, 1) ∧ kept (realN 3 (fA, 1)).1 = [] ∧
    raw (realN 3 (fA, 1)).1 = [(1, 1)] := by
  have h : realN 3 (fA, 1) = realN 2 (fA, 1) := by
    show realStep (realN 2 (fA, 1)) = _
    rw [realN_fA_2]; decide
  rw [h, realN_fA_2]; decide

theorem realN_fA_kept : kept (realN 1 (fA, 1)).1 = [(5, 3)] ∧ kept (realN 2 (fA, 1)).1 = [] ∧
    kept (realN (kept fA).length (fA, 1)).1 = [] := by
  rw [show (kept fA).length = 3 by decide, realN_fA_3.1, realN_fA_1, realN_fA_2]; decide

theorem realN_fA_wfB : wfB (realN 1 (fA, 1)).1 (realN 1 (fA, 1)).2 = true ∧
    wfB (realN 2 (fA, 1)).1 (realN 2 (fA, 1)).2 = true ∧
    wfB (realN 3 (fA, 1)).1 (realN 3 (fA, 1)).2 = true := by
  rw [realN_fA_3.1, realN_fA_1, realN_fA_2]; decide

example : kept (realN (kept fA).length (fA, 1)).1 = [] := real_repair_terminates fA 1 fA_wf

/-- a fix at `k ≤ first` moves the first token's line: on `fA` the fix for raw diagnostic 0 (the covered reference to 1)
    goes to a new line 0 above the directive line, which becomes the first token's line; the result is well-formed -/
example : (wheres fA 1)[0]? = some (.newLineAt 0) ∧ firstAfter fA 1 0 = 0 ∧
    fixReal fA 1 0 = newLine :: dropName fA 1 ∧ wfB (fixReal fA 1 0) (firstAfter fA 1 0) = true ∧
    wfB (fixReal fA 1 0) 1 = false := by decide +kernel

end DL.Imp
