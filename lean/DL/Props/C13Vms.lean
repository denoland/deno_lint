import DL.Lemmas.Vms
import DL.Lemmas.Rounds
/-!
# C13 for `verbatim-module-syntax` (model M-VMS)

Property C13: *applying any one fix of a diagnostic yields a file in which the rule reports strictly fewer diagnostics
than before, the fixed one being gone; repeatedly applying the first available fix therefore terminates with none left.*

Stated here for every abstract module (`DL.Vms.Module`): any value-usage set, any number of import / export
declarations with any specifiers (also ill-formed ones: the same local imported twice, exports of names that are not
imported, inline `type` on default specifiers, …).

The proof (in `DL/Lemmas/Vms.lean`): the number of diagnostics is a sum of per-item counts
(`itemsDiags_length`); the count of an item depends on the module only through `hasImportIdent` / `hasExportIdent` at the
names of its own value specifiers (`itemCnt_congr`); a fix removes from `importValue` / `exportValue` only names that
were "only used in types" (`value_fix_lost`), hence the two predicates are unchanged where they matter (`has_stable`) and
all other items keep their counts; the fixed item loses one (`fix_local_lt`).
-/
namespace DL.Props.C13Vms
open DL.Vms

/-- **C13, strictly fewer**: the fix of any reported diagnostic leaves strictly fewer diagnostics -/
theorem fix_strictly_fewer (m : Module) (d : Diag) (h : d ∈ diags m) :
    (diags (applyFix m d)).length < (diags m).length :=
  length_diags_applyFix_lt m d h

/-- **C13, the fixed one is gone**: the diagnostic whose fix was applied is not reported for the fixed module.
(For the fix that moves a default / namespace binding to an `import type` declaration of its own the item indices after
it shift by one; position `d.item` is then the new type-only declaration, which reports nothing.) -/
theorem fixed_diag_gone (m : Module) (d : Diag) (h : d ∈ diags m) : d ∉ diags (applyFix m d) :=
  not_mem_diags_applyFix m d h

/-- what is left after a fix was reported before, up to the shift of item indices: there are no more diagnostics than
before minus one -/
theorem fix_at_most_pred (m : Module) (d : Diag) (h : d ∈ diags m) :
    (diags (applyFix m d)).length ≤ (diags m).length - 1 := by
  have := fix_strictly_fewer m d h; omega

def repair : Nat → Module → Module
  | 0, m => m
  | fuel + 1, m =>
    match diags m with
    | [] => m
    | d :: _ => repair fuel (applyFix m d)

theorem repair_of_le (fuel : Nat) (m : Module) (h : (diags m).length ≤ fuel) : diags (repair fuel m) = [] :=
  Rounds.repair_nil diags applyFix repair (fun _ => rfl) (fun _ m h => by simp only [repair, h])
    (fun _ m d r h => by simp only [repair, h]) fix_strictly_fewer fuel m h

/-- **C13, termination**: as many rounds as there are diagnostics suffice to remove them all -/
theorem repair_terminates (m : Module) : diags (repair (diags m).length m) = [] :=
  repair_of_le _ m (Nat.le_refl _)

theorem repair_used (fuel : Nat) (m : Module) : (repair fuel m).used = m.used := by
  induction fuel generalizing m with
  | zero => rfl
  | succ fuel ih =>
    simp only [repair]
    split
    · rfl
    · rw [ih]; rfl

/-! Concrete modules.  Names: `A = 0`, `b = 1`, `C = 2`, `d = 3`.

```ts
import A, { b, type C } from "x";   // A is only used in types
export { b, d };                     // d is a type declared in the file
let v: A = b;
```
-/

def ex1 : Module :=
  { used := [1]
    items :=
      [ .imp ⟨false, [⟨.dflt, 0, false⟩, ⟨.named, 1, false⟩, ⟨.named, 2, true⟩]⟩,
        .exp ⟨false, false, [⟨1, false⟩, ⟨3, false⟩]⟩ ] }

example : diags ex1 = [⟨0, .spec 0⟩, ⟨1, .spec 1⟩] := by decide +kernel

/-- the default binding moves to `import type A from "x"`; the export declaration is item 2 now -/
example : applyFix ex1 ⟨0, .spec 0⟩ =
    { used := [1]
      items :=
        [ .imp ⟨true, [⟨.dflt, 0, false⟩]⟩,
          .imp ⟨false, [⟨.named, 1, false⟩, ⟨.named, 2, true⟩]⟩,
          .exp ⟨false, false, [⟨1, false⟩, ⟨3, false⟩]⟩ ] } := by decide +kernel

example : diags (applyFix ex1 ⟨0, .spec 0⟩) = [⟨2, .spec 1⟩] := by decide +kernel
example : diags (applyFix ex1 ⟨1, .spec 1⟩) = [⟨0, .spec 0⟩] := by decide +kernel

example : (diags (applyFix ex1 ⟨0, .spec 0⟩)).length < (diags ex1).length :=
  fix_strictly_fewer ex1 _ (by decide)

example : repair 2 ex1 =
    { used := [1]
      items :=
        [ .imp ⟨true, [⟨.dflt, 0, false⟩]⟩,
          .imp ⟨false, [⟨.named, 1, false⟩, ⟨.named, 2, true⟩]⟩,
          .exp ⟨false, false, [⟨1, false⟩, ⟨3, true⟩]⟩ ] } := by decide +kernel

example : diags (repair 2 ex1) = [] := repair_terminates ex1

/-! Whole-declaration diagnostics, and the interplay of the two derived sets:

```ts
import { a, type T } from "x";   // a only used in types: `import type { a, T }`
import { c } from "y";           // c is re-exported as a value below: nothing to report
export { c, type a };
export { e, f };                 // both are types: `export type { e, f }`
```
names: `a = 0`, `T = 1`, `c = 2`, `e = 3`, `f = 4`. -/

def ex2 : Module :=
  { used := []
    items :=
      [ .imp ⟨false, [⟨.named, 0, false⟩, ⟨.named, 1, true⟩]⟩,
        .imp ⟨false, [⟨.named, 2, false⟩]⟩,
        .exp ⟨false, false, [⟨2, false⟩, ⟨0, true⟩]⟩,
        .exp ⟨false, false, [⟨3, false⟩, ⟨4, false⟩]⟩ ] }

example : diags ex2 = [⟨0, .all⟩, ⟨3, .all⟩] := by decide +kernel
example : diags (applyFix ex2 ⟨0, .all⟩) = [⟨3, .all⟩] := by decide +kernel
example : diags (applyFix ex2 ⟨3, .all⟩) = [⟨0, .all⟩] := by decide +kernel
example : (applyFix ex2 ⟨0, .all⟩).items[0]? = some (.imp ⟨true, [⟨.named, 0, false⟩, ⟨.named, 1, false⟩]⟩) := by decide +kernel
example : diags (repair 2 ex2) = [] := repair_terminates ex2

/-- a fix can make a *different* diagnostic appear at the same specifier index of the shifted declaration: here both the
default binding `A` and the named binding `b` of `import A, { b, c } from "x"` are only used in types; after moving `A`
to a declaration of its own, `b` is specifier 0 of item 1 -/
def ex3 : Module := { used := [], items := [ .imp ⟨false, [⟨.dflt, 0, false⟩, ⟨.named, 1, false⟩, ⟨.named, 2, false⟩]⟩,
                                            .exp ⟨false, false, [⟨2, false⟩]⟩ ] }

example : diags ex3 = [⟨0, .spec 0⟩, ⟨0, .spec 1⟩] := by decide +kernel
example : diags (applyFix ex3 ⟨0, .spec 0⟩) = [⟨1, .spec 0⟩] := by decide +kernel

end DL.Props.C13Vms
