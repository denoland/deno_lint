import DL.Props.C09

/-!
# C09 (generalised) — the directive pipeline commutes with every strictly monotone re-positioning

The byte translation `· + k` of `DL.Props.C09` is replaced by an arbitrary strictly monotone map `φ : Nat → Nat` (lines
are still translated by `j`).  The only place where the shape of `φ` matters is the comparator of the final stable sort:
`φ a < φ b ↔ a < b` and `φ a = φ b ↔ a = b`.  The proofs are in `DL/Lemmas/PipeRemap.lean`.

* `collect_remap`, `lintInner_remap`, `lintInner_remap_opt`: the generalised equivariance;
* `remapDir_add`, `collect_shift'`, `lintInner_shift'`: the uniform shift is the instance `· + k`;
* `crlfMap`, `crlfMap_strictMono`, `lintInner_crlf`: the LF→CRLF re-positioning.
-/
namespace DL.Props.C09Mono
open DL.Pipe DL.Props.C09

def StrictMonoN (φ : Nat → Nat) : Prop := ∀ a b, a < b → φ a < φ b

def remapPos (φ : Nat → Nat) (j : Nat) : Option (Nat × Nat) → Option (Nat × Nat)
  | none => none
  | some (s, l) => some (φ s, l + j)
def remapDiag (φ : Nat → Nat) (j : Nat) (d : Diag) : Diag := { d with pos := remapPos φ j d.pos }
def remapDir (φ : Nat → Nat) (j : Nat) (d : Dir) : Dir := { d with start := φ d.start, line := d.line + j }
def remapSt (φ : Nat → Nat) (j : Nat) (st : St) : St :=
  { file := st.file.map (remapDir φ j),
    lines := st.lines.map (fun kd => (kd.1 + j, remapDir φ j kd.2)),
    marks := st.marks.map (fun m => (shiftKey j m.1, m.2)) }

/-! The four definitions are those of `DL/Lemmas/PipeRemap.lean` (`rePos`, `reDiag`, `reDir`, `reSt`) by unfolding, and
`shiftKey` is `reKey`; the theorems below are the ones proved there. -/

/-- the one place where the shape of `φ` matters: the comparator of the final sort cannot tell a strictly monotone
re-positioning from the identity -/
theorem diagLe_remap (φ : Nat → Nat) (hφ : StrictMonoN φ) (j : Nat) (a b : Diag) :
    diagLe (remapDiag φ j a) (remapDiag φ j b) = diagLe a b :=
  diagLe_re j hφ a b

/-- the final stable sort commutes with a strictly monotone re-positioning -/
theorem mergeSort_remap (φ : Nat → Nat) (hφ : StrictMonoN φ) (j : Nat) (l : List Diag) :
    (l.map (remapDiag φ j)).mergeSort diagLe = (l.mergeSort diagLe).map (remapDiag φ j) :=
  mergeSort_re j hφ l

/-- **equivariance of the pipeline, generalised**: re-positioning every raw diagnostic and every directive by a strictly
monotone `φ` on bytes and by `+ j` on lines re-positions the result, and changes nothing else -/
theorem collect_remap (φ : Nat → Nat) (hφ : StrictMonoN φ) (j : Nat) (cfg : Cfg) (extCodes : List String) (st : St)
    (raw : List Diag) :
    collect cfg extCodes (remapSt φ j st) (raw.map (remapDiag φ j)) =
      (collect cfg extCodes st raw).map (remapDiag φ j) :=
  collect_re j hφ cfg extCodes st raw

/-- with or without an external linter's result `ext`: its diagnostics are re-positioned, its codes are unchanged -/
theorem lintInner_remap_opt (φ : Nat → Nat) (hφ : StrictMonoN φ) (j : Nat) (cfg : Cfg) (st : St)
    (ruleDiags : List Diag) (ext : Option (List Diag × List String)) :
    lintInner cfg (remapSt φ j st) (ruleDiags.map (remapDiag φ j))
        (ext.map fun e => (e.1.map (remapDiag φ j), e.2)) =
      (lintInner cfg st ruleDiags ext).map (remapDiag φ j) :=
  lintInner_re j hφ cfg st ruleDiags ext

theorem lintInner_remap (φ : Nat → Nat) (hφ : StrictMonoN φ) (j : Nat) (cfg : Cfg) (st : St) (ruleDiags : List Diag) :
    lintInner cfg (remapSt φ j st) (ruleDiags.map (remapDiag φ j)) none =
      (lintInner cfg st ruleDiags none).map (remapDiag φ j) :=
  lintInner_remap_opt φ hφ j cfg st ruleDiags none

/-! ### the uniform shift of `DL.Props.C09` is the instance `· + k` -/

theorem remapDir_add (k j : Nat) : remapDir (· + k) j = shiftDir k j := rfl

theorem collect_shift' (k j : Nat) (cfg : Cfg) (extCodes : List String) (st : St) (raw : List Diag) :
    collect cfg extCodes (shiftSt k j st) (raw.map (shiftDiag k j)) =
      (collect cfg extCodes st raw).map (shiftDiag k j) :=
  collect_shift k j cfg extCodes st raw

theorem lintInner_shift' (k j : Nat) (cfg : Cfg) (st : St) (ruleDiags : List Diag) :
    lintInner cfg (shiftSt k j st) (ruleDiags.map (shiftDiag k j)) none =
      (lintInner cfg st ruleDiags none).map (shiftDiag k j) :=
  lintInner_shift k j cfg st ruleDiags

/-- `nls`: the byte offsets of the line feeds of a text.  Converting every `\n` to `\r\n` moves the byte at offset `o`
by the number of line feeds strictly before it. -/
def crlfMap (nls : List Nat) (o : Nat) : Nat := o + (nls.filter (· < o)).length

theorem crlfMap_mono_count (nls : List Nat) (a b : Nat) (h : a ≤ b) :
    (nls.filter (· < a)).length ≤ (nls.filter (· < b)).length := by
  induction nls with
  | nil => exact Nat.le_refl _
  | cons n r ih =>
    simp only [List.filter_cons]
    by_cases ha : n < a
    · have hb : n < b := Nat.lt_of_lt_of_le ha h
      simp only [ha, hb, decide_true, if_true, List.length_cons]
      omega
    · by_cases hb : n < b
      · simp only [ha, hb, decide_true, decide_false, if_true, Bool.false_eq_true, if_false, List.length_cons]
        omega
      · simp only [ha, hb, decide_false, Bool.false_eq_true, if_false]
        exact ih

theorem crlfMap_strictMono (nls : List Nat) : StrictMonoN (crlfMap nls) := by
  intro a b h
  unfold crlfMap
  have := crlfMap_mono_count nls a b (Nat.le_of_lt h)
  omega

/-- **the pipeline commutes with LF→CRLF**: line numbers do not change (`j = 0`), positions move monotonically -/
theorem lintInner_crlf (nls : List Nat) (cfg : Cfg) (st : St) (ruleDiags : List Diag) :
    lintInner cfg (remapSt (crlfMap nls) 0 st) (ruleDiags.map (remapDiag (crlfMap nls) 0)) none =
      (lintInner cfg st ruleDiags none).map (remapDiag (crlfMap nls) 0) :=
  lintInner_remap (crlfMap nls) (crlfMap_strictMono nls) 0 cfg st ruleDiags

theorem collect_crlf (nls : List Nat) (cfg : Cfg) (extCodes : List String) (st : St) (raw : List Diag) :
    collect cfg extCodes (remapSt (crlfMap nls) 0 st) (raw.map (remapDiag (crlfMap nls) 0)) =
      (collect cfg extCodes st raw).map (remapDiag (crlfMap nls) 0) :=
  collect_remap (crlfMap nls) (crlfMap_strictMono nls) 0 cfg extCodes st raw

example : crlfMap [3, 10] 3 = 3 ∧ crlfMap [3, 10] 4 = 5 ∧ crlfMap [3, 10] 12 = 14 := by decide +kernel

/-- text `abc\n// deno-lint-ignore r1 r9\n…` (line feeds at bytes 3 and 10): one line directive on line 1 (byte 4) naming
`r1` and `r9`; a raw `r1` diagnostic on line 2 (byte 12, suppressed by the previous line), a raw `r3` diagnostic on line 2
(byte 11, kept) and a raw `r2` diagnostic on line 0 (byte 1, kept, sorted to the front); `ban-unused-ignore` reports `r9`
at the directive -/
def exSt : St := { file := none, lines := [(1, ⟨4, 1, ["r1", "r9"]⟩)] }
def exRaw : List Diag := [⟨"r1", some (12, 2), .raw 0⟩, ⟨"r3", some (11, 2), .raw 2⟩, ⟨"r2", some (1, 0), .raw 1⟩]
def exCfg : Cfg :=
  { configured := ["r1", "r2", "r3", "r9", "ban-unused-ignore"], allCodes := ["r1", "r2", "r3", "r9", "ban-unused-ignore"] }

example : remapSt (crlfMap [3, 10]) 0 exSt = { file := none, lines := [(1, ⟨5, 1, ["r1", "r9"]⟩)] } := by decide +kernel
example : exRaw.map (remapDiag (crlfMap [3, 10]) 0) =
    [⟨"r1", some (14, 2), .raw 0⟩, ⟨"r3", some (13, 2), .raw 2⟩, ⟨"r2", some (1, 0), .raw 1⟩] := by decide +kernel

/-- the expected result: `r2` first (byte 1), then the accounting diagnostic at the moved directive (byte 4 ↦ 5), then `r3`
(byte 11 ↦ 13); the suppressed `r1` is gone -/
def exOut : List Diag :=
  [⟨"r2", some (1, 0), .raw 1⟩, ⟨cUnused, some (5, 1), .unused "r9"⟩, ⟨"r3", some (13, 2), .raw 2⟩]

set_option linter.unusedSimpArgs false in
/-- both sides of `collect_remap` at the concrete data, evaluated independently of the theorem -/
example :
    collect exCfg [] (remapSt (crlfMap [3, 10]) 0 exSt) (exRaw.map (remapDiag (crlfMap [3, 10]) 0)) = exOut
    ∧ (collect exCfg [] exSt exRaw).map (remapDiag (crlfMap [3, 10]) 0) = exOut := by
  constructor <;>
  simp [collect, exCfg, exSt, exRaw, exOut, checkUsage, stepUsage, stepLine, fileNames, lineNamesAt, lookupLine,
    Dir.hasCode, St.mark, banUnknown, banUnused, allDirDiags, dirDiags, unknownP, unusedP, St.used, Cfg.checkUnknown,
    cUnknown, cUnused, markFile, diagLe, remapSt, remapDiag, remapDir, remapPos, crlfMap, shiftKey,
    List.mergeSort, List.MergeSort.Internal.splitInTwo, List.merge]

/-- … and the theorem's instance at the same data -/
example :
    collect exCfg [] (remapSt (crlfMap [3, 10]) 0 exSt) (exRaw.map (remapDiag (crlfMap [3, 10]) 0)) =
      (collect exCfg [] exSt exRaw).map (remapDiag (crlfMap [3, 10]) 0) :=
  collect_remap _ (crlfMap_strictMono [3, 10]) 0 exCfg [] exSt exRaw

/-- strict monotonicity is needed: a non-monotone `φ` (swap bytes 1 and 11) changes the comparator's verdict -/
example : diagLe (remapDiag (fun o => if o = 1 then 11 else if o = 11 then 1 else o) 0 ⟨"r2", some (1, 0), .raw 1⟩)
      (remapDiag (fun o => if o = 1 then 11 else if o = 11 then 1 else o) 0 ⟨"r3", some (11, 2), .raw 2⟩) = false
    ∧ diagLe ⟨"r2", some (1, 0), .raw 1⟩ ⟨"r3", some (11, 2), .raw 2⟩ = true := by
  constructor <;> simp [diagLe, remapDiag, remapPos]

end DL.Props.C09Mono
