import DL.Lemmas.Dir
import DL.Lemmas.Pipe

/-!
# C01 — linting is total: no panic, no hang (the repository's own kernels)

The places where the repository's *own* framework code can abort or loop, and what is proved about each:

* directive parsing: `strip_prefix(..).unwrap()` is guarded (`parseIgnore_never_panics`); the parser is a total
  structural recursion;
* the diagnostic pipeline: `diagnostic_line - 1` is guarded by `diagnostic_line > 0`; every pass is a structural
  recursion over finite lists (totality is by construction of the Lean definitions: Lean accepts no partial function);
  `pipeline_output_bounded` bounds the size of the result;
* the traversal's stop flag: `DL.Props.C08`; the regex validator: `DL.Props.C12NoPanic` (no panic), `DL.Props.C12Fuel` (no hang).
The swc parser and the ~120 rule bodies are *not* modelled: for them only the search step (fuzzing over generated and
corpus programs under `catch_unwind`, every media type) speaks.
-/
namespace DL.Props.C01
open DL.Pipe

/-- no directive comment can make `parse_ignore_comment` panic -/
theorem directive_parser_never_panics (word : List Char) (kind : DL.Dir.Kind) (text : List Char) :
    DL.Dir.parseIgnorePanics word kind text = false := DL.Dir.parseIgnore_never_panics word kind text

/-- the subtraction in `get_mut(&(diagnostic_line - 1))` happens only for `diagnostic_line > 0`: a hit on a line
directive always comes from a positive line, so `usize` underflow is impossible -/
theorem line_lookup_never_underflows (st : St) (d : Diag) (k : Nat) (c : String)
    (h : hits st d = some (some k, c)) : ∃ s line, d.pos = some (s, line) ∧ line > 0 ∧ k = line - 1 := by
  rcases (hits_some h).2 with hk | ⟨s, line, hp, hl, hk⟩
  · cases hk
  · exact ⟨s, line, hp, hl, Option.some.inj hk⟩

/-- the result is never longer than the input diagnostics plus one accounting diagnostic per (directive, code) and
accounting rule: no pass can blow up -/
theorem pipeline_output_bounded (cfg : Cfg) (extCodes : List String) (st : St) (raw : List Diag) :
    (collect cfg extCodes st raw).length ≤
      raw.length + 2 * ((match st.file with | some f => f.codes.length | none => 0) +
        (st.lines.map (fun kd => kd.2.codes.length)).sum) := by
  -- one accounting pass yields at most one diagnostic per code of a directive; `collect` is the unsuppressed part of
  -- `raw` followed by at most two such passes, sorted
  have hdir : ∀ code mk p (d : Dir), (dirDiags code mk p d).length ≤ d.codes.length := by
    intro code mk p d; simp only [dirDiags, List.length_map, List.length_mergeSort]; exact List.length_filter_le _ _
  have hall : ∀ code mk p, (allDirDiags code mk p st).length ≤
      (match st.file with | some f => f.codes.length | none => 0) + (st.lines.map (fun kd => kd.2.codes.length)).sum := by
    intro code mk p
    unfold allDirDiags
    rw [List.length_append]
    apply Nat.add_le_add
    · cases st.file with
      | none => simp
      | some f => exact hdir _ _ _ f
    · induction st.lines with
      | nil => simp
      | cons kd r ih =>
        simp only [List.flatMap_cons, List.length_append, List.map_cons, List.sum_cons]
        exact Nat.add_le_add (hdir _ _ _ kd.2) ih
  rw [collect_closed, List.length_mergeSort, List.length_append, List.length_append]
  have h1 := List.length_filter_le (fun d => !suppressed st d) raw
  have h2 := hall cUnknown .unknown (unknownSel cfg extCodes st)
  have h3 := hall cUnused .unused (unusedSel cfg extCodes st raw)
  omega

example : DL.Dir.parseIgnore (chars! "w") .line (chars! "  w a,b") = some [chars! "a", chars! "b"] := by decide +kernel

end DL.Props.C01
