import DL.Props.C06
import DL.Gen.EntryPoints

/-!
# C16 — both entry points and the external-linter hook behave identically

`lint_file` is `parse_program` followed by `lint_inner`; `lint_with_ast` is `lint_inner` (`linter.rs`): in the
model both are the one function `lintInner`, so entry-point agreement is `rfl` once parsing is fixed; the
correspondence run checks that on the real code.  The theorems below are about the external-linter hook.
-/
namespace DL.Props.C16
open DL.Pipe DL.Props.C06

/-- the two entry points, as the code has them: `lint_file = lint_inner ∘ parse`, `lint_with_ast = lint_inner` -/
def lintFile {Src AST : Type} (parse : Src → Option AST) (run : AST → List Diag) (s : Src) : Option (List Diag) :=
  (parse s).map run
def lintWithAst {AST : Type} (run : AST → List Diag) (a : AST) : List Diag := run a

theorem entry_points_agree {Src AST : Type} (parse : Src → Option AST) (run : AST → List Diag) (s : Src) (a : AST)
    (h : parse s = some a) : lintFile parse run s = some (lintWithAst run a) := by
  simp [lintFile, lintWithAst, h]

/-- external diagnostics are appended to the rules' diagnostics and go through exactly the same filtering,
accounting and ordering; the declared codes count as known *and* enabled -/
theorem external_uniform (cfg : Cfg) (st : St) (ruleDiags extDiags : List Diag) (extCodes : List String)
    (h : ∀ f, st.file = some f → f.codes ≠ []) :
    lintInner cfg st ruleDiags (some (extDiags, extCodes)) = collect cfg extCodes st (ruleDiags ++ extDiags) := by
  simp [lintInner_eq, ignoreAll_eq_false h]

/-- a callback that declines (returns `None`) changes nothing -/
theorem external_none_noop (cfg : Cfg) (st : St) (ruleDiags : List Diag) :
    lintInner cfg st ruleDiags none = lintInner cfg st ruleDiags (some ([], [])) := by
  rw [lintInner_eq, lintInner_eq]; rfl

/-- an external diagnostic is kept iff no directive names it — the same predicate as for built-in ones
(in particular a range-less one is kept unless the file-level directive names its code) -/
theorem external_kept_iff (cfg : Cfg) (st : St) (ruleDiags extDiags : List Diag) (extCodes : List String)
    (h : ∀ f, st.file = some f → f.codes ≠ []) (d : Diag) (hd : Diag.isRaw d = true) :
    d ∈ lintInner cfg st ruleDiags (some (extDiags, extCodes)) ↔
      (d ∈ ruleDiags ∨ d ∈ extDiags) ∧ suppressed st d = false := by
  rw [external_uniform cfg st ruleDiags extDiags extCodes h, raw_mem_collect _ _ _ _ _ hd, List.mem_append]

theorem rangeless_kept (cfg : Cfg) (st : St) (ruleDiags extDiags : List Diag) (extCodes : List String)
    (h : ∀ f, st.file = some f → f.codes ≠ []) (d : Diag) (hd : Diag.isRaw d = true) (hp : d.pos = none)
    (hmem : d ∈ extDiags) (hfile : fileNames st d.code = false) :
    d ∈ lintInner cfg st ruleDiags (some (extDiags, extCodes)) := by
  rw [external_kept_iff cfg st ruleDiags extDiags extCodes h d hd]
  exact ⟨Or.inr hmem, by simp [suppressed, hfile, hp]⟩

/-- the ordering is the same total preorder for everything in the result -/
theorem result_sorted (cfg : Cfg) (st : St) (ruleDiags : List Diag) (ext : Option (List Diag × List String)) :
    (lintInner cfg st ruleDiags ext).Pairwise (fun a b => diagLe a b = true) := by
  rw [lintInner_eq]
  split
  · exact List.Pairwise.nil
  · exact List.pairwise_mergeSort diagLe_trans diagLe_total _

example : lintInner ⟨["a"], ["a"]⟩ { file := none, lines := [] } [⟨"a", some (5, 0), .raw 0⟩]
    (some ([⟨"x", none, .raw 1⟩], ["x"])) = [⟨"x", none, .raw 1⟩, ⟨"a", some (5, 0), .raw 0⟩] := by
  simp [lintInner, ignoreAll, collect, checkUsage, stepUsage, stepLine, fileNames, banUnknown, allDirDiags,
    Cfg.checkUnknown, cUnknown, cUnused, List.mergeSort, diagLe]

/-! ## the shape of the two entry points, read off the source on every run

`Gen/EntryPoints.lean` (syn translator) lists every call in the bodies of `Linter::lint_file` and
`Linter::lint_with_ast` and the argument expressions each hands to `lint_inner`.  Re-decided on every run: `lint_file`
is `parse_program` followed by one `lint_inner` call (plus two performance marks and the `Ok` wrapper), `lint_with_ast`
is one `lint_inner` call (plus one mark) — nothing else, no macro — and both hand over the same four things in the same
order: the parsed source, the default JSX factory, the default JSX fragment factory, the external linter.  This is the
premise under which `entry_points_agree` speaks about the code (a swapped pair of factories, a configuration that is
rewritten on the way, a second pass in one of the entry points, each makes it false). -/
theorem entry_points_as_modelled :
    DL.Gen.entryCalls =
      [("lint_file", ["PerformanceMark::new", "PerformanceMark::new", "parse_program", "self.lint_inner", "Ok"]),
       ("lint_with_ast", ["PerformanceMark::new", "self.lint_inner"])]
    ∧ DL.Gen.lintInnerArgs =
      [("lint_file", ["&parsed_source", "options.config.default_jsx_factory", "options.config.default_jsx_fragment_factory",
          "options.external_linter"]),
       ("lint_with_ast", ["parsed_source", "config.default_jsx_factory", "config.default_jsx_fragment_factory",
          "maybe_external_linter"])] :=
  ⟨rfl, rfl⟩

end DL.Props.C16
