import DL.Lemmas.RxFuPattern
import DL.Props.C12History

/-!
# C12 (fuel adequacy) — the validator terminates within a fuel linear in the pattern length

`fuel` in the model bounds the depth of the call chain, loop iterations counted as depth.  With `L` the number of
units the reader indexes (scalar values with the `u` flag, UTF-16 code units without), `5 L + 15` is enough for
`validate_pattern` from ANY state: every loop iteration and every recursive descent through a group consumes at least
one unit (`DL.Rx.Fu`: a Hoare logic whose assertion is a lower bound on the reader position, plus "the look-ahead
buffer is non-empty"; one lemma `DL.Rx.F.f` per function).  `defaultFuel` (used by `runSeq` and by the differential
harness) is far above that, so `outOfFuel` never shows up there, and the history-independence statement for whole
files becomes unconditional.
-/
namespace DL.Props.C12
open DL.Rx

/-- the number of units the reader indexes = the `end` passed to `reset` -/
def unitCount (source : List Nat) (uFlag : Bool) : Nat :=
  if uFlag then source.length else (encodeUtf16 source).length

theorem afterPrep_eq (fuel : Nat) : afterPrep fuel = (rewindLoop 0 4 0 >>= fun _ => afterReset fuel) := rfl

theorem validatePattern_fuel (fuel : Nat) (source : List Nat) (uFlag : Bool) (st : St)
    (h : 5 * unitCount source uFlag + 15 ≤ fuel) : ∀ s', validatePattern fuel source uFlag st ≠ .outOfFuel s' := by
  intro s'
  rw [validatePattern_eq, afterPrep_eq]
  have hr := rewindLoop_spec (E := unitCount source uFlag) 0 4 0 (prep source uFlag st) rfl rfl rfl (Nat.zero_le _)
  show M.bind (rewindLoop 0 4 0) (fun _ => afterReset fuel) (prep source uFlag st) ≠ _
  unfold M.bind
  cases h1 : rewindLoop 0 4 0 (prep source uFlag st) with
  | ok a s1 =>
    rw [h1] at hr
    have hA : A (unitCount source uFlag) 0 false s1 :=
      ⟨hr.1, by rw [hr.2.1]; exact hr.2.2.1, Nat.zero_le _, fun h => nomatch h⟩
    have hp := F.afterReset (E := unitCount source uFlag) (ne := false) fuel h s1 hA
    intro he
    have he' : afterReset fuel s1 = .outOfFuel s' := he
    rw [he'] at hp
    exact hp
  | err _ _ => intro he; cases he
  | panic _ _ => intro he; cases he
  | outOfFuel _ => rw [h1] at hr; exact hr.elim

theorem encodeUtf16_length_le (s : List Nat) : (encodeUtf16 s).length ≤ 2 * s.length := by
  induction s with
  | nil => exact Nat.le_refl _
  | cons c r ih =>
    simp only [encodeUtf16]
    split <;> simp only [List.length_cons] <;> omega

theorem length_le_encodeUtf16 (s : List Nat) : s.length ≤ (encodeUtf16 s).length := by
  induction s with
  | nil => exact Nat.le_refl _
  | cons c r ih =>
    simp only [encodeUtf16]
    split <;> simp only [List.length_cons] <;> omega

theorem unitCount_le (source : List Nat) (uFlag : Bool) : unitCount source uFlag ≤ 2 * source.length := by
  unfold unitCount
  cases uFlag
  · exact encodeUtf16_length_le source
  · show source.length ≤ _; omega

theorem unitCount_le_utf16 (source : List Nat) (uFlag : Bool) : unitCount source uFlag ≤ (encodeUtf16 source).length := by
  unfold unitCount
  cases uFlag
  · exact Nat.le_refl _
  · exact length_le_encodeUtf16 source

/-- a bound in the length of the source: `unitCount ≤ 2 · len` (a scalar value is at most two UTF-16 units), so
`5 · unitCount + 15 ≤ 10 · len + 15` -/
def fuelBound (len : Nat) : Nat := 10 * len + 15

theorem validatePattern_terminates :
    ∀ (fuel : Nat) (source : List Nat) (uFlag : Bool) (st : St), fuelBound source.length ≤ fuel →
      ∀ s', validatePattern fuel source uFlag st ≠ .outOfFuel s' := by
  intro fuel source uFlag st h
  refine validatePattern_fuel fuel source uFlag st ?_
  have := unitCount_le source uFlag
  unfold fuelBound at h
  omega

theorem checkRegex_fuel (fuel : Nat) (pattern flags : List Nat) (st : St)
    (h : 5 * (encodeUtf16 pattern).length + 15 ≤ fuel) : ∃ b s', checkRegex fuel pattern flags st = .ok b s' := by
  rcases checkRegex_outcome fuel pattern flags st with hok | ⟨s', hoof⟩
  · exact hok
  · exfalso
    rw [checkRegex_eq] at hoof
    by_cases hf : checkForInvalidFlags flags = true
    · rw [if_pos hf] at hoof; cases hoof
    · rw [if_neg hf] at hoof
      unfold checkForInvalidPattern at hoof
      have hv := validatePattern_fuel fuel pattern (flags.contains (ch 'u')) st (by
        have := unitCount_le_utf16 pattern (flags.contains (ch 'u')); omega)
      cases hr : validatePattern fuel pattern (flags.contains (ch 'u')) st with
      | ok _ _ => rw [hr] at hoof; cases hoof
      | err _ _ => rw [hr] at hoof; cases hoof
      | panic _ _ => rw [hr] at hoof; cases hoof
      | outOfFuel s'' => exact hv s'' hr

/-- with the fuel the sequence runner (and the differential harness) uses, `check_regex` always delivers a verdict -/
theorem checkRegex_defaultFuel (pattern flags : List Nat) (st : St) :
    ∃ b s', checkRegex (defaultFuel pattern) pattern flags st = .ok b s' :=
  checkRegex_fuel _ pattern flags st (by unfold defaultFuel; omega)

theorem runSeqAux_fuel : ∀ (seq : List (List Nat × List Nat)) (st : St), (runSeqAux seq st).fuel = false
  | [], _ => rfl
  | (p, f) :: rest, st => by
    unfold runSeqAux
    obtain ⟨b, s', h⟩ := checkRegex_defaultFuel p f st
    rw [h]; exact runSeqAux_fuel rest s'

theorem runSeq_fuel (seq : List (List Nat × List Nat)) (st : St) : (runSeq seq st).fuel = false := by
  unfold runSeq
  by_cases hc : ((runSeqAux seq st).panic || (runSeqAux seq st).fuel) = true
  · rw [if_pos hc]; exact runSeqAux_fuel seq st
  · rw [if_neg hc]; exact runSeqAux_fuel seq st

/-- **history independence of a whole file, unconditionally**: one validator instance for all regexes of a file
yields exactly the verdicts each regex gets from a fresh validator -/
theorem runSeq_history_independent_total (seq : List (List Nat × List Nat)) (st : St) :
    (runSeq seq st).reported = seq.map (freshVerdict st.overflowChecks) :=
  runSeq_history_independent seq st (runSeq_fuel seq st)

/-! ### the fuel is really consumed: with too little of it the model does give up (so `outOfFuel` is not vacuous) -/
example : ∃ s', validatePattern 12 (strOf (chars! "((a))")) false St.new = .outOfFuel s' := ⟨_, rfl⟩
example : ∀ s', validatePattern (fuelBound 5) (strOf (chars! "((a))")) false St.new ≠ .outOfFuel s' :=
  validatePattern_terminates _ _ _ _ (Nat.le_refl _)

end DL.Props.C12

#print axioms DL.Props.C12.validatePattern_fuel
#print axioms DL.Props.C12.validatePattern_terminates
#print axioms DL.Props.C12.checkRegex_defaultFuel
#print axioms DL.Props.C12.runSeq_history_independent_total
