import DL.Lemmas.CFSoundMain
import DL.Lemmas.CFSorted

/-!
# C10 — no-unreachable never flags a statement that can execute

Model: `DL.CF` (analyzer transcription, `Model/CF.lean`), reference semantics (`Model/CFRef.lean`), rule layer
(`Model/CFRules.lean`).  This file holds the property statements; the soundness invariant is developed in
`DL.Lemmas.CFSound*`, and `C10_partial`, `C10_fragment` restate its results for whole programs from `DL.Lemmas.CFSoundMain`.

The property in full is `∀ prog p, p ∈ prog.flagged (analyze prog) → prog.reachable p = false`; it is proved for the
programs of the fragment, and the last examples show programs outside it for which it fails.
-/
namespace DL.Props.C10
open DL.CF

/-- a statement is only ever flagged when the enclosing scope had already stopped -/
theorem flag_only_after_stop (sc : Sc) (t : Tag) (h : unreachableFlag sc t = true) : stopsEnd sc.end_ = true :=
  unreachableFlag_stops sc t h

/-- hoisting: a function declaration used earlier in the scope, an empty statement and a `var` without initialiser are
never marked unreachable -/
theorem never_flagged (sc : Sc) :
    unreachableFlag sc .empty = false ∧ unreachableFlag sc .varNoInit = false ∧
    ∀ id, sc.hoist.contains id = true → unreachableFlag sc (.fnDecl id) = false := by
  refine ⟨?_, ?_, ?_⟩
  · unfold unreachableFlag; split <;> rfl
  · unfold unreachableFlag; split <;> rfl
  · intro id h; unfold unreachableFlag; split
    · simp only [h, Bool.not_true]
    · rfl

/-- the rule reports exactly at statement positions whose recorded metadata says `unreachable` -/
theorem flagHere_sound (info : Info) (s : Stmt) (p : Nat) (h : p ∈ flagHere info s) :
    p = s.pos ∧ exempt s = false ∧ ∃ m, info p = some m ∧ m.unreachable = true := by
  unfold flagHere at h
  by_cases hc : (!exempt s && metaUnreach info s.pos) = true
  · rw [if_pos hc] at h
    simp only [List.mem_singleton] at h
    subst h
    simp only [Bool.and_eq_true, Bool.not_eq_true'] at hc
    refine ⟨rfl, hc.1, ?_⟩
    have h2 := hc.2
    unfold metaUnreach at h2
    cases hi : info s.pos with
    | none => rw [hi] at h2; cases h2
    | some m => rw [hi] at h2; exact ⟨m, rfl, h2⟩
  · rw [if_neg hc] at h; cases h

/-- **C10 on the fragment `inF`** (the property in full quantifies over all programs).
Fragment (`DL.Lemmas.CFPos`): scripts whose statements are expression/declaration statements, blocks, `if`/`else`,
`while`, `do-while`, `for`, `for-in/of`, `switch`, `try`/`catch`/`finally`, labelled statements, `break`/`continue` (with or without label), `return`,
`throw`, nested to any depth, where every
expression may contain function scopes (function/arrow expressions and declarations, methods …: parameters, then a body
block whose statements are again in the fragment), to any depth; with pairwise distinct positions (`positions`: the
statements, function scopes and function body blocks; the position of an expression/declaration statement may coincide
with that of a function it starts with).  For every such script, every statement reported by `no-unreachable` is
unreachable in the reference semantics, both from the start of the script and from the entry of every function in it.
Statements nested directly in expressions (`with` bodies, class static blocks) are in the fragment, see below and
`DL.Lemmas.CFPos` for the positions where they are admitted. -/
theorem C10_partial (ss : List Stmt) (hf : (stmtsOfList ss).inF = true) (hnd : (stmtsOfList ss).positions.Nodup) (p : Nat)
    (hp : p ∈ Program.flagged { isModule := false, items := ss.map .stmt }
      (analyze { isModule := false, items := ss.map .stmt })) :
    Program.reachable { isModule := false, items := ss.map .stmt } p = false :=
  script_flagged_unreachable ss hf hnd p hp

/-- **C10 on the fragment, whole programs**: the same for a module or script whose items are statements of the fragment and
module declarations (`import`/`export` …) whose expressions are in the fragment (`itemsInF`), with pairwise distinct
positions (`itemsPositions`). -/
theorem C10_fragment (prog : Program) (hf : itemsInF prog.items = true) (hnd : (itemsPositions prog.items).Nodup) (p : Nat)
    (hp : p ∈ prog.flagged (analyze prog)) : prog.reachable p = false :=
  program_flagged_unreachable prog hf hnd p hp

/-- the hypothesis on positions, characterised: it holds whenever the source positions of the program, listed in source
order with the one allowed coincidence counted once (`itemsSrcPositions`), are strictly increasing — as they are in the
dump of a parsed program -/
theorem C10_sorted (prog : Program) (hf : itemsInF prog.items = true)
    (hinc : (itemsSrcPositions prog.items).Pairwise (· < ·)) (p : Nat)
    (hp : p ∈ prog.flagged (analyze prog)) : prog.reachable p = false :=
  program_flagged_unreachable prog hf (items_nodup_of_increasing prog.items hinc) p hp

/-- `do { if (x) continue; return 1; } while (c);  function f() { return 1; foo(); }`: source positions strictly increase
(the test of the `do-while` comes after its body, the function scope shares its position with the declaration) -/
example :
    let body := Stmt.block 3 (.cons (.ifS 5 (.cons (.expr (.ident "x") .nil) .nil) (.cont 12 none) none)
      (.cons (.ret 22 (.cons (.expr .other .nil) .nil)) .nil))
    let fbody : Stmts := .cons (.ret 65 (.cons (.expr .other .nil) .nil)) (.cons (.simple 75 .exprStmt (.cons (.expr .other .nil) .nil)) .nil)
    let items : List Item := [.stmt (.doWhileS 0 body (.cons (.expr (.ident "c") (.cons (.fnScope 40 .nil) .nil)) .nil) false),
      .stmt (.simple 50 (.fnDecl "f") (.cons (.fnScope 50 (.cons (.block 63 fbody) .nil)) .nil))]
    itemsSrcPositions items = [0, 3, 5, 12, 22, 40, 50, 63, 65, 75] ∧ (itemsSrcPositions items).Pairwise (· < ·) ∧
    itemsPositions items = [0, 40, 3, 5, 12, 22, 50, 63, 65, 75] := by
  decide

/-- non-vacuity: `while (true) { if (x) { return; } }  foo();` — in the fragment, positions distinct, and `foo()` IS
flagged (so the hypothesis of `C10_partial` is met by a real flagged statement) -/
example :
    let ss : List Stmt := [.whileS 0 (.cons (.expr .other .nil) .nil) true
        (.block 13 (.cons (.ifS 15 (.cons (.expr (.ident "x") .nil) .nil) (.block 22 (.cons (.ret 24 .nil) .nil)) none) .nil)),
      .simple 36 .exprStmt (.cons (.expr .other .nil) .nil)]
    (stmtsOfList ss).inF = true ∧ (stmtsOfList ss).positions.Nodup ∧
    Program.flagged { isModule := false, items := ss.map .stmt } (analyze { isModule := false, items := ss.map .stmt }) = [36] := by
  decide

/-- non-vacuity with a nested function: `function f() { return 1; foo(); }` — the function scope shares position 0 with
the declaration statement; `foo()` (25) inside the function IS flagged, and it is reachable neither from the script
start nor from the function entry, while `return 1` (15) is reachable from the function entry -/
example :
    let body : Stmts := .cons (.ret 15 (.cons (.expr .other .nil) .nil)) (.cons (.simple 25 .exprStmt (.cons (.expr .other .nil) .nil)) .nil)
    let ss : List Stmt := [.simple 0 (.fnDecl "f") (.cons (.fnScope 0 (.cons (.block 13 body) .nil)) .nil)]
    let prog : Program := { isModule := false, items := ss.map .stmt }
    (stmtsOfList ss).inF = true ∧ (stmtsOfList ss).positions.Nodup ∧
    Program.flagged prog (analyze prog) = [25] ∧ prog.reachable 25 = false ∧ prog.reachable 15 = true := by
  decide

/-- the collision case: an arrow-function expression statement as the body of an `if` —
`if (x) () => { return 1; foo(); }; else bar();  baz();` — the arrow function (7) shares its position with the
expression statement; `foo()` (25) is flagged, `baz()` (60) is not (the end recorded under 7 belongs to the function) -/
example :
    let body : Stmts := .cons (.ret 15 (.cons (.expr .other .nil) .nil)) (.cons (.simple 25 .exprStmt (.cons (.expr .other .nil) .nil)) .nil)
    let arrow : Stmt := .simple 7 .exprStmt (.cons (.expr .other (.cons (.fnScope 7 (.cons (.block 13 body) .nil)) .nil)) .nil)
    let ss : List Stmt := [.ifS 0 (.cons (.expr (.ident "x") .nil) .nil) arrow (some (.simple 45 .exprStmt (.cons (.expr .other .nil) .nil))),
      .simple 60 .exprStmt (.cons (.expr .other .nil) .nil)]
    let prog : Program := { isModule := false, items := ss.map .stmt }
    (stmtsOfList ss).inF = true ∧ (stmtsOfList ss).positions.Nodup ∧
    Program.flagged prog (analyze prog) = [25] ∧ prog.reachable 60 = true := by
  decide

/-- labels: `L: { while (true) { break L; }  foo(); }  bar();` — `foo()` (30) is flagged (the loop is only left by
`break L`, which skips it), `bar()` (40) is not, and is reachable -/
example :
    let ss : List Stmt := [.labeled 0 "L" (.block 3 (.cons (.whileS 5 (.cons (.expr .other .nil) .nil) true
        (.block 18 (.cons (.brk 20 (some "L")) .nil)))
        (.cons (.simple 30 .exprStmt (.cons (.expr .other .nil) .nil)) .nil))),
      .simple 40 .exprStmt (.cons (.expr .other .nil) .nil)]
    let prog : Program := { isModule := false, items := ss.map .stmt }
    (stmtsOfList ss).inF = true ∧ (stmtsOfList ss).positions.Nodup ∧
    Program.flagged prog (analyze prog) = [30] ∧ prog.reachable 40 = true ∧ prog.reachable 30 = false := by
  decide

/-- `switch`: `switch (x) { case 1: return; default: throw e; }  foo();` — `foo()` (50) is flagged; with a `break` in the
first case it is not -/
example :
    let sw (s1 : Stmt) : Stmt := .switchS 0 (.cons (.expr (.ident "x") .nil) .nil)
      (.cons 13 false (.cons (.expr .other .nil) .nil) (.cons s1 .nil)
        (.cons 29 true .nil (.cons (.throw 38 (.cons (.expr (.ident "e") .nil) .nil)) .nil) .nil))
    let foo : Stmt := .simple 50 .exprStmt (.cons (.expr .other .nil) .nil)
    let prog1 : Program := { isModule := false, items := [sw (.ret 21 .nil), foo].map .stmt }
    let prog2 : Program := { isModule := false, items := [sw (.brk 21 none), foo].map .stmt }
    (stmtsOfList [sw (.ret 21 .nil), foo]).inF = true ∧ (stmtsOfList [sw (.ret 21 .nil), foo]).positions.Nodup ∧
    Program.flagged prog1 (analyze prog1) = [50] ∧ prog1.reachable 50 = false ∧
    Program.flagged prog2 (analyze prog2) = [] ∧ prog2.reachable 50 = true := by
  decide

/-- `try`: in `try { return; } catch (e) { foo(); }  bar();` the block cannot throw, so `foo()` (30) and `bar()` (40) are
both flagged; in `try { f(); return; } catch (e) { }  bar();` nothing is; in `try { f(); } finally { return; }  bar();`
`bar()` is -/
example :
    let call (p : Nat) : Stmt := .simple p .exprStmt (.cons (.expr .other .nil) .nil)
    let ss1 : List Stmt := [.tryS 0 4 (.cons (.ret 6 .nil) .nil) true 16 (.cons (.expr (.ident "e") .nil) (.cons (.block 26 (.cons (call 30) .nil)) .nil)) false 0 .nil, call 40]
    let ss2 : List Stmt := [.tryS 0 4 (.cons (call 5) (.cons (.ret 6 .nil) .nil)) true 16 (.cons (.expr (.ident "e") .nil) (.cons (.block 26 .nil) .nil)) false 0 .nil, call 40]
    let ss3 : List Stmt := [.tryS 0 4 (.cons (call 5) .nil) false 0 .nil true 20 (.cons (.ret 30 .nil) .nil), call 40]
    let prog (ss : List Stmt) : Program := { isModule := false, items := ss.map .stmt }
    (stmtsOfList ss1).inF = true ∧ (stmtsOfList ss1).positions.Nodup ∧
    (stmtsOfList ss2).inF = true ∧ (stmtsOfList ss2).positions.Nodup ∧
    (stmtsOfList ss3).inF = true ∧ (stmtsOfList ss3).positions.Nodup ∧
    Program.flagged (prog ss1) (analyze (prog ss1)) = [30, 40] ∧ (prog ss1).reachable 30 = false ∧
    Program.flagged (prog ss2) (analyze (prog ss2)) = [] ∧ (prog ss2).reachable 40 = true ∧
    Program.flagged (prog ss3) (analyze (prog ss3)) = [40] := by
  decide

/-! ## statements nested directly in expressions: `with` bodies (`Kid.stmt`), class static blocks (`Kid.block`)

They execute in the enclosing flow, and the analyzer visits them in the enclosing scope: a `return`/`throw` in them ends
that scope.  The reference semantics follows them too (`Kids.compl`, `Kids.flowReach` in `CFRef`), and they are in
the fragment: without restriction among the kids of expression / declaration / `with` statements; with "plain"
completions (normal or throw — the rule for static blocks) in `return`/`throw` arguments, `if`/`while`/`for` tests, `for`
initialisers and the iterated expression of `for-in/of`. -/

-- `with (o) return;  foo();` and `class A { static { throw e; } }  foo();`: `foo()` is flagged, and unreachable
example :
    let prog1 : Program := { isModule := false, items := [
      .stmt (.simple 0 .other (.cons (.expr (.ident "o") .nil) (.cons (.stmt (.ret 9 .nil)) .nil))),
      .stmt (.simple 20 .exprStmt (.cons (.expr .other .nil) .nil))] }
    let prog2 : Program := { isModule := false, items := [
      .stmt (.simple 0 .decl (.cons (.block 17 (.cons (.throw 19 (.cons (.expr (.ident "e") .nil) .nil)) .nil)) .nil)),
      .stmt (.simple 40 .exprStmt (.cons (.expr .other .nil) .nil))] }
    itemsInF prog1.items = true ∧ (itemsPositions prog1.items).Nodup ∧
    prog1.flagged (analyze prog1) = [20] ∧ prog1.reachable 20 = false ∧
    itemsInF prog2.items = true ∧ (itemsPositions prog2.items).Nodup ∧
    prog2.flagged (analyze prog2) = [40] ∧ prog2.reachable 40 = false := by decide

/-! ### three shapes where the analyzer model is unsound (linter bug candidates), kept outside the fragment

The analyzer visits the test of a `do-while` unconditionally, the update of a `for` before its test and body, and the
binding of a `for-in/of` before the iterated expression.  With a class static block that throws in those places it
concludes that what follows cannot be reached, although it can: -/

-- `do break; while (class { static { throw e; } });  foo();` — the test is never evaluated, `foo()` (40) runs
example :
    let thr : Kids := .cons (.expr .other (.cons (.block 20 (.cons (.throw 22 (.cons (.expr (.ident "e") .nil) .nil)) .nil)) .nil)) .nil
    let prog : Program := { isModule := false, items := [.stmt (.doWhileS 0 (.brk 3 none) thr false),
      .stmt (.simple 40 .exprStmt (.cons (.expr .other .nil) .nil))] }
    prog.flagged (analyze prog) = [40] ∧ prog.reachable 40 = true := by decide

-- `for (; x; class { static { throw e; } }) ;  foo();` — the loop can end by its test before any update, `foo()` (40) runs
example :
    let thr : Kids := .cons (.expr .other (.cons (.block 10 (.cons (.throw 12 (.cons (.expr (.ident "e") .nil) .nil)) .nil)) .nil)) .nil
    let prog : Program := { isModule := false, items := [
      .stmt (.forS 0 .nil thr (.cons (.expr (.ident "x") .nil) .nil) true false (.simple 30 .empty .nil)),
      .stmt (.simple 40 .exprStmt (.cons (.expr .other .nil) .nil))] }
    prog.flagged (analyze prog) = [40] ∧ prog.reachable 40 = true := by decide

-- `for ([a = class { static { throw e; } }] of class { static { foo(); } }) ;` — the iterated expression is evaluated
-- first: `foo()` (22) runs
example :
    let thr : Kids := .cons (.expr .other (.cons (.block 5 (.cons (.throw 7 (.cons (.expr (.ident "e") .nil) .nil)) .nil)) .nil)) .nil
    let right : Kids := .cons (.expr .other (.cons (.block 20 (.cons (.simple 22 .exprStmt (.cons (.expr .other .nil) .nil)) .nil)) .nil)) .nil
    let prog : Program := { isModule := false, items := [.stmt (.forInOf 0 thr right (.simple 30 .empty .nil))] }
    prog.flagged (analyze prog) = [22] ∧ prog.reachable 22 = true := by decide

-- `do { if (x) continue; return 1; } while (c); foo();`: the body can go round by `continue`, so the loop can end by its
-- test, and `foo()` at 50 is not flagged
example :
    let body := Stmt.block 3 (.cons (.ifS 5 (.cons (.expr (.ident "x") .nil) .nil) (.cont 12 none) none)
      (.cons (.ret 22 (.cons (.expr .other .nil) .nil)) .nil))
    let prog : Program := { isModule := false, items := [.stmt (.doWhileS 0 body (.cons (.expr (.ident "c") .nil) .nil) false),
      .stmt (.simple 50 .exprStmt (.cons (.expr .other .nil) .nil))] }
    prog.flagged (analyze prog) = [] := by decide

end DL.Props.C10
