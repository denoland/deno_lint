import DL.Lemmas.Pipe
import DL.Lemmas.Dir

/-!
# C05 — a leading bare ignore-file directive silences the whole file, and only then
-/
namespace DL.Props.C05
open DL.Pipe

/-- if the file-level directive has no codes, `lint_inner` returns nothing — whatever the rules produced,
whatever the configuration and the external linter returned -/
theorem ignoreAll_silences (cfg : Cfg) (st : St) (f : Dir) (hf : st.file = some f) (hc : f.codes = [])
    (ruleDiags : List Diag) (ext : Option (List Diag × List String)) :
    lintInner cfg st ruleDiags ext = [] := by
  rw [lintInner_eq, if_pos (by simp [ignoreAll, hf, hc])]

/-- …and only then: without a file directive, or with one that lists codes, the pipeline runs -/
theorem otherwise_runs (cfg : Cfg) (st : St) (h : ∀ f, st.file = some f → f.codes ≠ [])
    (ruleDiags : List Diag) :
    lintInner cfg st ruleDiags none = collect cfg [] st ruleDiags := by
  simp [lintInner_eq, ignoreAll_eq_false h]

open DL.Dir

theorem block_comment_never (word text : List Char) : parseIgnore word .block text = none :=
  Option.eq_none_iff_forall_ne_some.mpr fun _ h => nomatch (parseIgnore_eq_some_iff.mp h).1

/-- only the *initial* comments matter: the file directive is a function of the kinds and texts of the comments
swc attaches before the first item and of nothing else in the program -/
theorem fileDirective_depends_only_on_initial (word : List Char) (initial : List Comment) :
    fileDirective word initial =
      initial.findSome? (fun c => (parseIgnore word c.kind c.text).map fun codes => (c, codes)) := rfl

theorem no_initial_comments (word : List Char) : fileDirective word [] = none := rfl

/-- directive text in block comments among the leading comments is skipped -/
theorem leading_block_skipped (word : List Char) (c : Comment) (rest : List Comment) (hk : c.kind = .block) :
    fileDirective word (c :: rest) = fileDirective word rest := by
  simp [fileDirective, hk, block_comment_never]

/-- when several file directives lead the file, the first one wins -/
theorem first_directive_wins (word : List Char) (c : Comment) (rest : List Comment) (codes : List (List Char))
    (h : parseIgnore word c.kind c.text = some codes) :
    fileDirective word (c :: rest) = some (c, codes) := by
  simp [fileDirective, h]

example : parseIgnore (chars! "deno-lint-ignore-file") .line (chars! " deno-lint-ignore-file -- generated -- x") = some [] := by
  decide +kernel
example : parseIgnore (chars! "deno-lint-ignore-file") .line (chars! " deno-lint-ignore-file no-var, ,eqeqeq  x--y")
    = some [chars! "no-var", chars! "eqeqeq", chars! "x"] := by decide +kernel
example : lintInner ⟨["a"], ["a"]⟩ { file := some ⟨0, 0, []⟩, lines := [] } [⟨"a", some (1, 0), .raw 0⟩] none = [] := by
  decide +kernel

end DL.Props.C05
