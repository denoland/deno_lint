import DL.Lemmas.Sched
import DL.Gen.DlintShape

/-!
# C19 — dlint's report and exit status do not depend on scheduling

For **every** set of per-file results with distinct paths and **every** schedule (permutation of the workers' critical
sections): the final map, the count, the report and the exit status are the same.
What the model cannot exhibit: rayon itself, the OS, and output written *inside* the workers.  dlint writes none there:
the recoverable parse diagnostics are collected with the file's result and printed in path order (DESIGN §5 C19;
`dlint_shape_as_modelled` below fails if an `eprintln!` moves into the parallel phase).
-/
namespace DL.Props.C19
open DL.Sched

def Sorted (m : List (String × FileResult)) : Prop := m.Pairwise (fun a b => a.1 < b.1)

theorem mapInsert_sorted (k : String) (v : FileResult) :
    ∀ (m : List (String × FileResult)), Sorted m → Sorted (mapInsert k v m) :=
  fun m h => mapInsert_eq k v m ▸ insertKV_sorted k v m h

theorem mapInsert_perm (k : String) (v : FileResult) :
    ∀ (m : List (String × FileResult)), (∀ x ∈ m, x.1 ≠ k) → (mapInsert k v m).Perm ((k, v) :: m) :=
  fun m h => mapInsert_eq k v m ▸ insertKV_perm k v m h

theorem foldl_step_map : ∀ (sched : List FileResult) (s : St),
    (sched.foldl step s).map = insertAll (sched.map fun f => (f.path, f)) s.map
  | [], _ => rfl
  | f :: r, s => by rw [List.foldl_cons, foldl_step_map r, step, mapInsert_eq]; rfl

theorem foldl_step_count : ∀ (sched : List FileResult) (s : St),
    (sched.foldl step s).count = s.count + (sched.map fun f => f.lint.length + f.parse.length).sum
  | [], _ => rfl
  | f :: r, s => by rw [List.foldl_cons, foldl_step_count r, step, List.map_cons, List.sum_cons, Nat.add_assoc]

/-- the final map is sorted by path and holds exactly one entry per file -/
theorem run_map_facts (s : List FileResult) (hnd : (s.map (·.path)).Nodup) :
    Sorted (run s).map ∧ (run s).map.Perm (s.map fun f => (f.path, f)) := by
  have h := insertAll_facts (s.map fun f => (f.path, f)) [] List.Pairwise.nil (fun _ _ _ h => by cases h)
    (by rwa [List.map_map])
  rw [List.append_nil, ← foldl_step_map s { map := [], count := 0 }] at h
  exact h

/-- **the final state does not depend on the schedule** -/
theorem final_state_schedule_independent (s1 s2 : List FileResult) (hp : s1.Perm s2)
    (hnd : (s1.map (·.path)).Nodup) :
    (run s1).map = (run s2).map ∧ (run s1).count = (run s2).count := by
  have h1 := run_map_facts s1 hnd
  have h2 := run_map_facts s2 ((hp.map _).nodup_iff.mp hnd)
  refine ⟨SortedK.eq_of_perm h1.1 h2.1 (h1.2.trans ((hp.map _).trans h2.2.symm)), ?_⟩
  unfold run
  rw [foldl_step_count, foldl_step_count, (hp.map _).sum_nat]

/-- hence the report (order of files by path, problem count) and the exit status do not depend on it either -/
theorem report_schedule_independent (s1 s2 : List FileResult) (hp : s1.Perm s2) (hnd : (s1.map (·.path)).Nodup) :
    report (run s1) = report (run s2) ∧ exitStatus (run s1) = exitStatus (run s2) := by
  obtain ⟨hm, hc⟩ := final_state_schedule_independent s1 s2 hp hnd
  unfold report exitStatus
  rw [hm, hc]; exact ⟨rfl, rfl⟩

/-- the count is the number of lint diagnostics plus recoverable parse diagnostics, and the status is 1 exactly when it
is non-zero.  `hnd` is not used: the count is exact also when a path is named twice. -/
theorem count_exact (s : List FileResult) (hnd : (s.map (·.path)).Nodup) :
    (run s).count = (s.map fun f => f.lint.length + f.parse.length).sum ∧
    (exitStatus (run s) = 1 ↔ (run s).count ≠ 0) := by
  refine ⟨(foldl_step_count s _).trans (Nat.zero_add _), ?_⟩
  unfold exitStatus
  split <;> omega

theorem report_order_by_path (s : List FileResult) (hnd : (s.map (·.path)).Nodup) : Sorted (run s).map :=
  (run_map_facts s hnd).1

example : (run [⟨"b", ["x"], []⟩, ⟨"a", [], ["p"]⟩]).map.map (·.1) = ["a", "b"] ∧
    (run [⟨"b", ["x"], []⟩, ⟨"a", [], ["p"]⟩]).count = 2 := by decide +kernel

/-! ## the shape of `run_linter`, read off the source on every run

`Gen/DlintShape.lean` (syn translator): the calls of `run_linter` (examples/dlint/main.rs) that make up its collection and
reporting logic, in source order.  It is the shape M-SCHED models: one parallel `for_each` over `par_iter`; per file
`read_to_string`, `lint_file`, one `fetch_add` on the counter and one `insert` into the map of results under its lock, or one
`insert` into the map of failures; afterwards `pop_first` on the failures, then the results' `values` in key order, the
counter's `load`, `exit`.  A `store` for the `fetch_add`, a batch loop, a `dedup` or `canonicalize` of the paths, an early
`try_for_each`, printing from inside the workers (`eprintln!` before the parallel phase ends) — each changes this list. -/
theorem dlint_shape_as_modelled :
    DL.Gen.dlintCalls =
      ["vec!", "vec!", "bail!", "debug!", "for_each", "par_iter", "read_to_string", "lint_file", "panic!", "fetch_add", "lock",
       "insert", "insert", "lock", "pop_first", "lock", "values", "lock", "eprintln!", "display_diagnostics", "load",
       "eprintln!", "exit"] :=
  rfl

end DL.Props.C19
