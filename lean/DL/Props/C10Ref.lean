import DL.Lemmas.CFExecInner
import DL.Props.C10
import DL.Props.C11  -- C10, C11: for their restatements about `Exec`/`Reaches` (`*_exec`)

/-!
# The reference semantics, validated: closed forms = a plain inductive semantics

`DL.Model.CFExec` defines, independently of the closed forms of `DL.Model.CFRef`, a textbook big-step relation
`Exec ls s o` ("some execution of `s` ends with outcome `o`") and `Reaches s p` ("some execution of `s` reaches the program
point at `p`").  This file states that the closed forms are **exactly** that semantics, and restates C10/C11 in terms of it.
With these, the trusted base of C10/C11 does not contain `Stmt.compl`, `loopCompl`, `goesRound`, `finallyCompl`,
`Stmt.reach` …: only the rules of `Exec`/`Reaches` (plus the analyzer model and the rule layers).

* `compl_iff_exec`, `reach_iff_reaches` — unconditional, for the whole statement language, statements nested directly in
  expressions (`with` bodies, class static blocks) included;
* `reachable_iff_reaches` — sound unconditionally; complete on the fragment (needed only for the entries of functions:
  `Program.Reaches` enters a function at its body, the closed form also looks at statements nested in its parameters).
-/
namespace DL.Props.C10Ref
open DL.CF

/-- **the closed-form completions are exactly the outcomes of the inductive semantics** (`Compl.has c o`: `o` is among `c`) -/
theorem compl_iff_exec (s : Stmt) (ls : List Id) (o : Outcome) : (s.compl ls).has o = true ↔ Exec ls s o :=
  ⟨Stmt.complete s ls o, Exec.sound⟩

theorem compl_iff_execList (l : Stmts) (o : Outcome) : l.compl.has o = true ↔ ExecList l o :=
  ⟨Stmts.complete l o, ExecList.sound⟩

/-- per outcome, for the reader: normal completion, `break`, `break L`, `continue`, `continue L`, `return`, `throw` -/
theorem compl_fields (s : Stmt) (ls : List Id) :
    ((s.compl ls).n = true ↔ Exec ls s .normal) ∧ ((s.compl ls).b = true ↔ Exec ls s (.brk none)) ∧
    (∀ l, l ∈ (s.compl ls).bl ↔ Exec ls s (.brk (some l))) ∧ ((s.compl ls).c = true ↔ Exec ls s (.cont none)) ∧
    (∀ l, l ∈ (s.compl ls).cl ↔ Exec ls s (.cont (some l))) ∧ ((s.compl ls).r = true ↔ Exec ls s .ret) ∧
    ((s.compl ls).t = true ↔ Exec ls s .thr) :=
  ⟨compl_iff_exec s ls .normal, compl_iff_exec s ls (.brk none),
   fun l => by rw [← compl_iff_exec s ls (.brk (some l))]; exact List.contains_iff_mem.symm,
   compl_iff_exec s ls (.cont none),
   fun l => by rw [← compl_iff_exec s ls (.cont (some l))]; exact List.contains_iff_mem.symm,
   compl_iff_exec s ls .ret, compl_iff_exec s ls .thr⟩

/-- **the closed-form reachability is exactly `Reaches`**, for the whole statement language -/
theorem reach_iff_reaches (s : Stmt) (p : Nat) : s.reach p = true ↔ Reaches s p :=
  ⟨Stmt.reach_complete s p, Reaches.sound⟩

theorem reachable_iff_reaches (prog : Program) (hf : itemsInF prog.items = true) (p : Nat) :
    prog.reachable p = true ↔ prog.Reaches p :=
  ⟨Program.Reaches.complete prog hf p, Program.Reaches.sound⟩

/-- **C10**: a statement reported by `no-unreachable` is not reached by any execution of the program or of one of its
functions -/
theorem C10_fragment_exec (prog : Program) (hf : itemsInF prog.items = true) (hnd : (itemsPositions prog.items).Nodup)
    (p : Nat) (hp : p ∈ prog.flagged (analyze prog)) : ¬ prog.Reaches p :=
  fun h => Bool.eq_false_iff.mp (DL.Props.C10.C10_fragment prog hf hnd p hp) h.sound

/-- **C11, statement form**: if the end recorded for a statement (analysed at a reachable point of a fresh scope) stops,
or the scope has stopped after it, no execution of the statement completes normally -/
theorem C11_partial_exec (s : Stmt) (hf : s.inF = true) (hnd : s.positions.Nodup) :
    let a' := visitStmt s { sc := {}, info := Info.empty }
    (s.isDeclOrExpr = false → stopsEnd (a'.info.endAt s.pos) = true → ¬ Exec [] s .normal) ∧
    (stopsEnd a'.sc.end_ = true → ¬ Exec [] s .normal) := by
  have h := DL.Props.C11.C11_partial s hf hnd
  exact ⟨fun hde hs he => Bool.eq_false_iff.mp (h.1 hde hs) he.sound, fun hs he => Bool.eq_false_iff.mp (h.2 hs) he.sound⟩

/-- **C11, `stopViol`**: a statement whose metadata stops although some execution of it completes normally is not reached -/
theorem C11_stopViol_exec (prog : Program) (hf : itemsInF prog.items = true) (hnd : (itemsPositions prog.items).Nodup)
    (p : Nat) (hp : p ∈ prog.stopViol (analyze prog)) : ¬ prog.Reaches p :=
  fun h => Bool.eq_false_iff.mp (DL.Props.C11.C11_stopViol prog hf hnd p hp).2 h.sound

/-- **C11, `getter-return`**: if the rule is silent on a function body, no execution of the body falls off its end -/
theorem C11_getter_exec (prog : Program) (hf : itemsInF prog.items = true) (hnd : (itemsPositions prog.items).Nodup)
    (g : Getter) (hg : g ∈ prog.getters) (hrep : getterReported (analyze prog) g = false) : ¬ ExecList g.body .normal :=
  fun he => Bool.eq_false_iff.mp (DL.Props.C11.C11_getter prog hf hnd g hg hrep) he.sound

/-- **C11, `no-fallthrough`**: in a reached `switch`, a case body with a stopping statement never falls through -/
theorem C11_case_exec (prog : Program) (hf : itemsInF prog.items = true) (hnd : (itemsPositions prog.items).Nodup)
    (c : Nat × Stmts) (hc : c ∈ prog.swCases) (hreach : prog.Reaches c.1)
    (hst : stmtsStop (analyze prog) c.2 = true) : ¬ ExecList c.2 .normal :=
  fun he => Bool.eq_false_iff.mp (DL.Props.C11.C11_case prog hf hnd c hc hreach.sound hst) he.sound

/-! ## the closed forms are not needlessly coarse

Both directions hold for the whole statement language, so there is no gap: `Kids.compl`/`Kids.flowReach` (statements
nested directly in expressions), `finallyCompl`, `loopCompl`/`goesRound`, the label filtering and `Cases.reach` are exact for
this semantics.  Three coarse spots are built into *both* sides (closed forms and `Exec`/`Reaches` agree on them):
case tests and catch parameters are only looked at through `Kids.mayThrow` (statements nested in them are not followed);
for reaching the test of a `do-while` / the update of a `for`, any `continue` of the body — whatever its label — is taken
to go round (`goesRoundAny`; reachability carries no label context); every case test is taken to be evaluated.  All three
over-approximate `reach`, which is the safe side for C10, and concern only kids that are outside the fragment. -/

/-- `with (o) foo();`: the nested statement (9) is reached, by the closed form and by a derivation -/
example :
    let s : Stmt := .simple 0 .other (.cons (.expr (.ident "o") .nil) (.cons (.stmt (.simple 9 .exprStmt .nil)) .nil))
    s.reach 9 = true ∧ Reaches s 9 ∧ s.inF = true :=
  ⟨by decide, .simple_kids (.tail (.expr .nil) (.head (.stmt (.self _)))), by decide⟩

/-- `with (o) return;`: the statement returns, and cannot complete normally -/
example :
    let s : Stmt := .simple 0 .other (.cons (.expr (.ident "o") .nil) (.cons (.stmt (.ret 9 .nil)) .nil))
    Exec [] s .ret ∧ ¬ Exec [] s .normal := by
  refine ⟨.simple (.next (.expr .nil) (.stop (.stmt (.ret .nil)) (by simp))), fun h => ?_⟩
  have := (compl_iff_exec _ [] .normal).mpr h
  revert this; decide

/-- `do { if (x) continue; return 1; } while (c);` completes normally: go round by `continue`, then the test is false -/
example :
    let body := Stmt.block 3 (.cons (.ifS 5 (.cons (.expr (.ident "x") .nil) .nil) (.cont 12 none) none)
      (.cons (.ret 22 (.cons (.expr .other .nil) .nil)) .nil))
    Exec [] (.doWhileS 0 body (.cons (.expr (.ident "c") .nil) .nil) false) .normal :=
  .do_done (o := .cont none) (.block (.stop (.if_then (.next (.expr .nil) .nil) .cont) (by simp))) rfl
    (.eval (.next (.expr .nil) .nil))

/-- `L: while (true) { break L; }` completes normally, and only so -/
example :
    let s : Stmt := .labeled 0 "L" (.whileS 3 (.cons (.expr .other .nil) .nil) true (.block 16 (.cons (.brk 18 (some "L")) .nil)))
    Exec [] s .normal ∧ ∀ o, Exec [] s o → o = .normal := by
  refine ⟨.labeled_break (.while_exit .known (.block (.stop .brk (by simp))) rfl), ?_⟩
  intro o h
  have := (compl_iff_exec _ [] o).mpr h
  have hc : Stmt.compl [] (.labeled 0 "L" (.whileS 3 (.cons (.expr .other .nil) .nil) true
      (.block 16 (.cons (.brk 18 (some "L")) .nil)))) = { n := true } := by decide
  rw [hc] at this
  exact (has_single (o' := .normal)).mp this

end DL.Props.C10Ref
