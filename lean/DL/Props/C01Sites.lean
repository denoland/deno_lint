import DL.Gen.PanicSites

/-!
# C01 — the inventory of explicit panic sites, re-decided on every run

`Gen/PanicSites.lean` (syn translator) lists every `.unwrap()` / `.expect(..)` call, every panicking macro and every index
expression `a[i]` of `src/` outside test modules, aggregated by (file, enclosing function, kind): 106 sites in 73 rows today.
The theorem below says that this inventory is exactly the reviewed one.  What the review rests on:

* `src/js_regex/{validator,reader}.rs`: **proved** unreachable — the model transcribes every `unwrap`, index and
  arithmetic-overflow site of these two files as an explicit `panic` outcome and `validatePattern_never_panics`
  (`Props/C12NoPanic.lean`) shows that none is reached, for every pattern, mode and validator state; `unicode.rs`: the binary
  search (its bounds are part of that proof) and the table decoder, which runs once on a literal.
* `src/ignore_directives.rs`: `strip_prefix(..).unwrap()` **proved** unreachable (`directive_parser_never_panics`), the two
  `Regex::new(<literal>).unwrap()` run once per process on constants (every run of every check evaluates them).
* `Regex::new(<literal>).unwrap()` / `Lazy` initialisers in rule files: likewise evaluated on a constant.
* everything else (rule bodies, `control_flow`, `context`): **not proved**; these are the sites the C01 search aims at —
  every generated program of every driver is linted with all rules under `catch_unwind`, a panic is attributed to its rule.

A new `unwrap`, `expect`, index expression or panicking macro anywhere in `src/` — or one that moved to another function —
makes `panic_sites_as_reviewed` false: the change has to be looked at (and this list regenerated) before C01's claim
"no explicit panic site is reachable as far as proved / searched" extends to it.  This is a tripwire, not a proof of
unreachability.
-/
namespace DL.Props.C01Sites

def reviewedPanicSites : List (String × String × String × Nat) := [
  ("src/context.rs", "assert_init", "assert!", 1),
  ("src/control_flow/analyze_test.rs", "", "unwrap (in macro_rules!)", 1),
  ("src/control_flow/mod.rs", "visit_do_while_stmt", "unwrap", 1),
  ("src/control_flow/mod.rs", "visit_if_stmt", "unwrap", 1),
  ("src/control_flow/mod.rs", "visit_try_stmt", "unwrap", 1),
  ("src/control_flow/mod.rs", "visit_while_stmt", "unwrap", 1),
  ("src/ignore_directives.rs", "parse_ignore_comment", "unwrap", 3),
  ("src/js_regex/reader.rs", "at", "index", 1),
  ("src/js_regex/reader.rs", "eat", "unwrap", 1),
  ("src/js_regex/reader.rs", "eat2", "unwrap", 2),
  ("src/js_regex/reader.rs", "eat3", "unwrap", 3),
  ("src/js_regex/unicode.rs", "is_in_range", "index", 2),
  ("src/js_regex/unicode.rs", "restore_ranges", "unwrap", 1),
  ("src/js_regex/validator.rs", "eat_decimal_digits", "unwrap", 1),
  ("src/js_regex/validator.rs", "eat_decimal_escape", "unwrap", 2),
  ("src/js_regex/validator.rs", "eat_fixed_hex_digits", "unwrap", 3),
  ("src/js_regex/validator.rs", "eat_hex_digits", "unwrap", 1),
  ("src/js_regex/validator.rs", "eat_octal_digit", "unwrap", 1),
  ("src/js_regex/validator.rs", "eat_regexp_identifier_name", "unwrap", 2),
  ("src/js_regex/validator.rs", "eat_regexp_identifier_start", "unwrap", 2),
  ("src/js_regex/validator.rs", "eat_unicode_property_name", "unwrap", 1),
  ("src/js_regex/validator.rs", "eat_unicode_property_value", "unwrap", 1),
  ("src/rules/ban_ts_comment.rs", "check_comment", "unwrap", 3),
  ("src/rules/ban_untagged_todo.rs", "check_comment", "unwrap", 1),
  ("src/rules/camelcase.rs", "to_camelcase", "unwrap", 1),
  ("src/rules/camelcase.rs", "to_hint", "index", 1),
  ("src/rules/camelcase.rs", "to_hint", "unwrap", 1),
  ("src/rules/constructor_super.rs", "check_constructor", "index", 1),
  ("src/rules/for_direction.rs", "for_stmt", "unwrap", 1),
  ("src/rules/getter_return.rs", "check_call_expr", "index", 1),
  ("src/rules/getter_return.rs", "check_getter", "unwrap", 1),
  ("src/rules/getter_return.rs", "report_always_expected", "expect", 1),
  ("src/rules/getter_return.rs", "report_expected", "expect", 1),
  ("src/rules/guard_for_in.rs", "for_in_stmt", "index", 1),
  ("src/rules/jsx_boolean_value.rs", "jsx_attr", "index", 1),
  ("src/rules/jsx_curly_braces.rs", "", "unwrap", 1),
  ("src/rules/no_constant_condition.rs", "is_constant", "index", 1),
  ("src/rules/no_deprecated_deno_api.rs", "extract_symbol", "index", 1),
  ("src/rules/no_deprecated_deno_api.rs", "ts_qualified_name", "unwrap (in if_chain!)", 1),
  ("src/rules/no_empty_character_class.rs", "regex", "unwrap", 1),
  ("src/rules/no_invalid_regexp.rs", "handle_call_or_new_expr", "index", 2),
  ("src/rules/no_invalid_regexp.rs", "visit_new_expr", "unwrap", 1),
  ("src/rules/no_invalid_triple_slash_reference.rs", "", "unwrap", 5),
  ("src/rules/no_irregular_whitespace.rs", "", "unwrap", 2),
  ("src/rules/no_misused_new.rs", "class_decl", "unwrap", 1),
  ("src/rules/no_misused_new.rs", "ts_interface_decl", "unwrap", 1),
  ("src/rules/no_node_globals.rs", "ends_line", "index", 1),
  ("src/rules/no_node_globals.rs", "has_semicolon", "index", 1),
  ("src/rules/no_node_globals.rs", "ident", "index", 1),
  ("src/rules/no_octal.rs", "number", "unwrap", 1),
  ("src/rules/no_process_global.rs", "ends_line", "index", 1),
  ("src/rules/no_process_global.rs", "has_semicolon", "index", 1),
  ("src/rules/no_regex_spaces.rs", "check_regex", "unwrap", 3),
  ("src/rules/no_self_assign.rs", "check_pat_and_expr", "index", 4),
  ("src/rules/no_self_assign.rs", "check_pat_and_expr", "unwrap", 2),
  ("src/rules/no_self_assign.rs", "check_same_member", "expect", 1),
  ("src/rules/no_sync_fn_in_async_fn.rs", "extract_symbol", "index", 1),
  ("src/rules/no_this_before_super.rs", "inside_function", "unwrap", 1),
  ("src/rules/no_this_before_super.rs", "leave_class", "assert!", 1),
  ("src/rules/no_unused_vars.rs", "with_cur_defining", "assert_eq!", 1),
  ("src/rules/no_var.rs", "var_decl", "unwrap", 1),
  ("src/rules/no_window_prefix.rs", "extract_symbol", "index", 1),
  ("src/rules/prefer_const.rs", "insert_var", "unwrap", 1),
  ("src/rules/prefer_const.rs", "proceed_status", "unwrap", 2),
  ("src/rules/prefer_namespace_keyword.rs", "ts_module_decl", "unwrap", 2),
  ("src/rules/react_no_danger_with_children.rs", "", "unwrap", 1),
  ("src/rules/react_rules_of_hooks.rs", "", "unwrap", 1),
  ("src/rules/require_await.rs", "find_async_token_range", "expect", 1),
  ("src/rules/require_await.rs", "process_function", "unwrap", 1),
  ("src/rules/require_yield.rs", "exit_function", "unwrap", 1),
  ("src/rules/triple_slash_reference.rs", "check_comment", "unwrap", 1),
  ("src/rules/verbatim_module_syntax.rs", "analyze_export", "index", 3),
  ("src/rules/verbatim_module_syntax.rs", "analyze_import", "index", 5)
]

theorem panic_sites_as_reviewed : DL.Gen.panicSites = reviewedPanicSites := rfl

/-- the sites inside the regular-expression validator and reader are the ones `validatePattern_never_panics` speaks about -/
theorem regex_sites_count :
    ((DL.Gen.panicSites.filter (fun r => r.1 == "src/js_regex/validator.rs" || r.1 == "src/js_regex/reader.rs")).map (·.2.2.2)).sum = 21 := by
  decide +kernel

end DL.Props.C01Sites
