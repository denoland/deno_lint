import DL.Lemmas.RxIndTop
import DL.Props.C12NoPanic

/-!
# C12 (history independence) — the verdict for one regular expression never depends on which expressions were
validated earlier by the same validator instance

`validate_pattern` overwrites the mode flags and every field of the reader up front, and `consume_pattern` resets
`num_capturing_parens`, `group_names`, `backreference_names` (after `count_capturing_parens`, which reads none of
them).  The seven scratch registers (`last_int_value`, `last_min_value`, `last_max_value`, `last_str_value`,
`last_key_value`, `last_val_value`, `last_assertion_is_quantifiable`) are NOT reset — but on every path each of them is
written before it is read (`DL.Rx.Ind`: a relational Hoare logic over two runs, with the set of registers already
known equal as the assertion; one lemma `DL.Rx.I.f` per function of the model).

No hypothesis beyond "same build profile" (`overflowChecks`, a constant of the build, not a field of the Rust struct).
-/
namespace DL.Props.C12
open DL.Rx

inductive Outcome where
  | accepted | rejected (msg : String) | outOfFuel | panic (why : String)
  deriving DecidableEq, Repr

inductive OutcomeKind where
  | accepted | rejected | outOfFuel | panic
  deriving DecidableEq, Repr

def outcome {α : Type} : Res α → Outcome
  | .ok _ _ => .accepted
  | .err m _ => .rejected m
  | .outOfFuel _ => .outOfFuel
  | .panic w _ => .panic w

def outcomeKind {α : Type} : Res α → OutcomeKind
  | .ok _ _ => .accepted
  | .err _ _ => .rejected
  | .outOfFuel _ => .outOfFuel
  | .panic _ _ => .panic

theorem sim_outcome {c : Bool} {α : Type} {r r' : Res α} (h : Sim c r r') : outcome r = outcome r' := by
  cases r <;> cases r' <;> first | exact h.elim | rfl | exact congrArg Outcome.rejected h.1 | exact congrArg Outcome.panic h.1

theorem sim_outcomeKind {c : Bool} {α : Type} {r r' : Res α} (h : Sim c r r') : outcomeKind r = outcomeKind r' := by
  cases r <;> cases r' <;> first | exact h.elim | rfl

theorem sim_state_left {c : Bool} {α : Type} {r r' : Res α} (h : Sim c r r') : r.state.overflowChecks = c := by
  cases r <;> cases r' <;> first | exact h.elim | exact h.2.1 | exact h.1

theorem validatePattern_history_independent' (fuel : Nat) (source : List Nat) (uFlag : Bool) (st st' : St)
    (h : st.overflowChecks = st'.overflowChecks) :
    outcome (validatePattern fuel source uFlag st) = outcome (validatePattern fuel source uFlag st') :=
  sim_outcome (validatePattern_sim fuel source uFlag st st' h)

theorem validatePattern_history_independent (fuel : Nat) (source : List Nat) (uFlag : Bool) (st st' : St)
    (h : st.overflowChecks = st'.overflowChecks) :
    outcomeKind (validatePattern fuel source uFlag st) = outcomeKind (validatePattern fuel source uFlag st') :=
  sim_outcomeKind (validatePattern_sim fuel source uFlag st st' h)

/-- the build-profile constant is never modified -/
theorem validatePattern_overflowChecks (fuel : Nat) (source : List Nat) (uFlag : Bool) (st : St) :
    (validatePattern fuel source uFlag st).state.overflowChecks = st.overflowChecks :=
  sim_state_left (validatePattern_sim fuel source uFlag st st rfl)

theorem checkForInvalidPattern_sim (fuel : Nat) (source : List Nat) (uFlag : Bool) (st st' : St)
    (h : st.overflowChecks = st'.overflowChecks) :
    Sim st.overflowChecks (checkForInvalidPattern fuel source uFlag st) (checkForInvalidPattern fuel source uFlag st') := by
  have hs := validatePattern_sim fuel source uFlag st st' h
  unfold checkForInvalidPattern
  cases h1 : validatePattern fuel source uFlag st <;> cases h2 : validatePattern fuel source uFlag st' <;>
    rw [h1, h2] at hs <;> first | exact hs.elim | exact ⟨rfl, hs.2⟩ | exact hs

theorem checkRegex_sim (fuel : Nat) (pattern flags : List Nat) (st st' : St)
    (h : st.overflowChecks = st'.overflowChecks) :
    Sim st.overflowChecks (checkRegex fuel pattern flags st) (checkRegex fuel pattern flags st') := by
  rw [checkRegex_eq]
  by_cases hf : checkForInvalidFlags flags = true
  · rw [if_pos hf]; exact ⟨rfl, rfl, h.symm⟩
  · rw [if_neg hf]; exact checkForInvalidPattern_sim fuel pattern _ st st' h

/-- the Boolean verdict of the rule (`none`: the model's fuel ran out) -/
def verdictOf : Res Bool → Option Bool
  | .ok b _ => some b
  | _ => none

theorem sim_verdictOf {c : Bool} {r r' : Res Bool} (h : Sim c r r') : verdictOf r = verdictOf r' := by
  cases r <;> cases r' <;> first | exact h.elim | rfl | exact congrArg some h.1

theorem checkRegex_history_independent (fuel : Nat) (pattern flags : List Nat) (st st' : St)
    (h : st.overflowChecks = st'.overflowChecks) :
    verdictOf (checkRegex fuel pattern flags st) = verdictOf (checkRegex fuel pattern flags st') :=
  sim_verdictOf (checkRegex_sim fuel pattern flags st st' h)

/-- a fresh validator (`EcmaRegexValidator::new`) in build profile `c` -/
def fresh (c : Bool) : St := { St.new with overflowChecks := c }

theorem fresh_true : fresh true = St.new := rfl

/-- the verdict of one regex on a fresh validator -/
def freshVerdict (c : Bool) (pf : List Nat × List Nat) : Bool :=
  (verdictOf (checkRegex (defaultFuel pf.1) pf.1 pf.2 (fresh c))).getD false

theorem runSeqAux_history_independent : ∀ (seq : List (List Nat × List Nat)) (st : St),
    (runSeqAux seq st).fuel = false → (runSeqAux seq st).reported = seq.map (freshVerdict st.overflowChecks)
  | [], _, _ => rfl
  | (p, f) :: rest, st, hf => by
    have hs := checkRegex_sim (defaultFuel p) p f st (fresh st.overflowChecks) rfl
    unfold runSeqAux at hf ⊢
    rcases checkRegex_outcome (defaultFuel p) p f st with ⟨b, s', h⟩ | ⟨s', h⟩
    · rw [h] at hf ⊢
      have hb : freshVerdict st.overflowChecks (p, f) = b := by
        have := sim_verdictOf hs
        rw [h] at this
        unfold freshVerdict
        rw [← this]; rfl
      have hoc : s'.overflowChecks = st.overflowChecks := by
        have := sim_state_left hs
        rw [h] at this; exact this
      have ih := runSeqAux_history_independent rest s' hf
      show b :: (runSeqAux rest s').reported = _
      rw [ih, hoc, List.map_cons, hb]
    · rw [h] at hf; cases hf

/-- **history independence of a whole file**: with one validator instance for all regexes of the file, the list of
verdicts is the list of the verdicts each regex gets from a fresh validator (unless the model's fuel ran out) -/
theorem runSeq_history_independent (seq : List (List Nat × List Nat)) (st : St)
    (hf : (runSeq seq st).fuel = false) :
    (runSeq seq st).reported = seq.map (freshVerdict st.overflowChecks) := by
  have hp := runSeqAux_no_panic seq st
  unfold runSeq at hf ⊢
  by_cases hc : ((runSeqAux seq st).panic || (runSeqAux seq st).fuel) = true
  · rw [if_pos hc] at hf
    rw [hp, Bool.false_or] at hc
    rw [hc] at hf; cases hf
  · rw [if_neg hc] at hf ⊢
    exact runSeqAux_history_independent seq st hf

/-- the instance of the property for the state the rule starts with -/
theorem runSeq_new_history_independent (seq : List (List Nat × List Nat)) (hf : (runSeq seq St.new).fuel = false) :
    (runSeq seq St.new).reported =
      seq.map fun pf => (verdictOf (checkRegex (defaultFuel pf.1) pf.1 pf.2 St.new)).getD false :=
  runSeq_history_independent seq St.new hf

/-! ### the footprints are not vacuous: individual helpers DO depend on the registers

`consume_backreference` on the input `1` answers differently for different `num_capturing_parens` (hence the
precondition `ins .caps W` of `DL.Rx.I.consumeBackreference`), and `eat_hex_digits`' loop continues from whatever
`last_int_value` holds (hence `ins .int W` in `DL.Rx.I.eatHexDigitsLoop`); `validate_pattern` itself is insensitive
because it writes these registers before the helpers read them. -/
def okVal {α : Type} : Res α → Option α
  | .ok a _ => some a
  | _ => none

def onOne : St := { reader := { unicode := false, src := [0x31], index := 0, end_ := 1, cps := [0x31] } }

example : okVal (consumeBackreference 10 { onOne with numCapturingParens := 1 }) = some true
    ∧ okVal (consumeBackreference 10 { onOne with numCapturingParens := 0 }) = some false := by decide +kernel

example : ((eatHexDigitsLoop 10 { onOne with lastIntValue := 0 }).state.lastIntValue,
    (eatHexDigitsLoop 10 { onOne with lastIntValue := 5 }).state.lastIntValue) = (1, 81) := by decide +kernel

-- the same two register values as history of `validate_pattern`: no influence
example : outcomeKind (validatePattern 300 (strOf (chars! "(a)\\1\\2")) true { onOne with numCapturingParens := 7, lastIntValue := 5 })
    = outcomeKind (validatePattern 300 (strOf (chars! "(a)\\1\\2")) true St.new) :=
  validatePattern_history_independent _ _ _ _ _ rfl

end DL.Props.C12

#print axioms DL.Props.C12.validatePattern_history_independent
#print axioms DL.Props.C12.validatePattern_history_independent'
#print axioms DL.Props.C12.checkRegex_history_independent
#print axioms DL.Props.C12.runSeq_history_independent
