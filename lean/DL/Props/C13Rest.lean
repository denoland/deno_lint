import DL.Model.FixRest
import DL.Lemmas.Rounds
/-!
# C13 for the text-replacing quick fixes (M-FIX rest)

For `no-window`, `no-window-prefix`, no-node-globals' `global` → `globalThis`, `jsx-boolean-value` and the child fix of
`jsx-curly-braces`, on the models of `Model/FixRest.lean`, for **every** abstract file / attribute list / child list
and every reported diagnostic `i`:

* `*_fix_strictly_fewer` — the rule reports strictly fewer diagnostics after the fix of `i`;
* `*_fixed_gone` — `i` is not reported any more;
* `*_repair_terminates` — applying the fix of the first report as many times as there are reports leaves none;

and `*_fix_exact` / `child_fix_sublist`: which reports remain.  For the child fix also the lexical side
(`childFixText_lexes`, `childFixText_none_iff`) and the two things the flat model does *not* promise
(`other_ml_change_brings_report`, `unskipped_fix_can_add_report`).
-/
namespace DL.Props.C13Rest
open DL.FixRest

/-! ### generic: reports by position, fixes that rewrite selected positions into unreported entries -/

theorem idxWhere_ge {α : Type} (p : α → Bool) (l : List α) (k : Nat) : ∀ n ∈ idxWhere p l k, k ≤ n := by
  induction l generalizing k with
  | nil => intro n hn; cases hn
  | cons a r ih =>
    intro n hn
    rw [idxWhere] at hn
    split at hn
    · rcases List.mem_cons.mp hn with rfl | h
      · exact Nat.le_refl _
      · exact Nat.le_of_succ_le (ih (k + 1) n h)
    · exact Nat.le_of_succ_le (ih (k + 1) n hn)

theorem idxWhere_sub {α : Type} {p q : α → Bool} (hqp : ∀ a, q a = true → p a = true) (l : List α) (k : Nat) :
    ∀ n ∈ idxWhere q l k, n ∈ idxWhere p l k := by
  induction l generalizing k with
  | nil => intro n hn; cases hn
  | cons a r ih =>
    intro n hn
    rw [idxWhere] at hn ⊢
    split at hn
    · rw [if_pos (hqp a ‹_›)]
      exact (List.mem_cons.mp hn).elim (fun h => h ▸ List.mem_cons_self) fun h => List.mem_cons_of_mem _ (ih _ n h)
    · split
      · exact List.mem_cons_of_mem _ (ih _ n hn)
      · exact ih _ n hn

/-- after the fix exactly the reports at unselected positions remain -/
theorem idxWhere_mapAt {α : Type} (p : α → Bool) (g : α → α) (s : Nat → Bool) (hg : ∀ a, p (g a) = false)
    (l : List α) (k : Nat) : idxWhere p (mapAt g s l k) k = (idxWhere p l k).filter (fun n => !s n) := by
  induction l generalizing k with
  | nil => rfl
  | cons a r ih =>
    simp only [mapAt, idxWhere]
    cases hs : s k with
    | true =>
      simp only [if_true, hg]
      cases hp : p a with
      | true => simp [hs, ih]
      | false => simp [ih]
    | false =>
      cases hp : p a with
      | true => simp [hs, ih, hp]
      | false => simp [ih, hp]

theorem mapAt_fix_strictly_fewer {α : Type} (p : α → Bool) (g : α → α) (s : Nat → Bool) (hg : ∀ a, p (g a) = false)
    (l : List α) (i : Nat) (hs : s i = true) (hi : i ∈ idxWhere p l 0) :
    (idxWhere p (mapAt g s l 0) 0).length < (idxWhere p l 0).length := by
  rw [idxWhere_mapAt p g s hg]
  exact List.length_filter_lt_length_iff_exists.mpr ⟨i, hi, by simp [hs]⟩

theorem mapAt_fixed_gone {α : Type} (p : α → Bool) (g : α → α) (s : Nat → Bool) (hg : ∀ a, p (g a) = false)
    (l : List α) (i : Nat) (hs : s i = true) : i ∉ idxWhere p (mapAt g s l 0) 0 := by
  rw [idxWhere_mapAt p g s hg]
  intro h
  simp [List.mem_filter, hs] at h

/-- a fix that always leaves strictly fewer reports: as many rounds of "fix the first report" as there are reports
leave none -/
theorem repair_terminates_of {σ : Type} (rep : σ → List Nat) (fix : σ → Nat → σ)
    (h : ∀ s i, i ∈ rep s → (rep (fix s i)).length < (rep s).length) (s : σ) :
    rep (repair rep fix (rep s).length s) = [] :=
  Rounds.repair_nil rep fix (repair rep fix) (fun _ => rfl) (fun _ s h => by simp only [repair, h])
    (fun _ s i r h => by simp only [repair, h]) h _ s (Nat.le_refl _)

/-! ### no-window -/

theorem win_rename_unreported (o : Occ) : winReportedOcc o.rename = false := by
  have : (nGlobalThis == nWindow) = false := by decide
  simp [winReportedOcc, Occ.rename, this]

theorem win_fix_exact (f : List Occ) (i : Nat) : winReported (winFix f i) = (winReported f).filter (fun n => !(n == i)) :=
  idxWhere_mapAt _ _ _ win_rename_unreported f 0

theorem win_fix_strictly_fewer (f : List Occ) (i : Nat) (h : i ∈ winReported f) :
    (winReported (winFix f i)).length < (winReported f).length :=
  mapAt_fix_strictly_fewer _ _ _ win_rename_unreported f i (by simp) h

theorem win_fixed_gone (f : List Occ) (i : Nat) : i ∉ winReported (winFix f i) :=
  mapAt_fixed_gone _ _ _ win_rename_unreported f i (by simp)

theorem win_repair_terminates (f : List Occ) : winReported (repair winReported winFix (winReported f).length f) = [] :=
  repair_terminates_of winReported winFix win_fix_strictly_fewer f

-- `window.x; window; f(window); self.x; { let window; window.x }`
example : winReported [⟨nWindow, true, .memberObj false (some ['x'])⟩, ⟨nWindow, true, .exprStmt⟩, ⟨nWindow, true, .other⟩,
    ⟨['s', 'e', 'l', 'f'], true, .memberObj false (some ['x'])⟩, ⟨nWindow, false, .memberObj false (some ['x'])⟩] = [0, 1] := by decide +kernel
example : winReported (winFix [⟨nWindow, true, .memberObj false (some ['x'])⟩, ⟨nWindow, true, .exprStmt⟩] 0) = [1] := by decide +kernel
example : 1 ∈ winReported [⟨nWindow, true, .memberObj false (some ['x'])⟩, ⟨nWindow, true, .exprStmt⟩] := by decide +kernel
example : repair winReported winFix 2 [⟨nWindow, true, .memberObj false none⟩, ⟨nWindow, true, .exprStmt⟩]
    = [⟨nGlobalThis, true, .memberObj false none⟩, ⟨nGlobalThis, true, .exprStmt⟩] := by decide +kernel

/-! ### no-window-prefix -/

theorem prefix_rename_unreported (o : Occ) : prefixReportedOcc o.rename = false := by
  have : (nGlobalThis == nWindow) = false := by decide
  simp [prefixReportedOcc, Occ.rename, this]

theorem prefix_fix_exact (f : List Occ) (i : Nat) :
    prefixReported (prefixFix f i) = (prefixReported f).filter (fun n => !(n == i)) :=
  idxWhere_mapAt _ _ _ prefix_rename_unreported f 0

theorem prefix_fix_strictly_fewer (f : List Occ) (i : Nat) (h : i ∈ prefixReported f) :
    (prefixReported (prefixFix f i)).length < (prefixReported f).length :=
  mapAt_fix_strictly_fewer _ _ _ prefix_rename_unreported f i (by simp) h

theorem prefix_fixed_gone (f : List Occ) (i : Nat) : i ∉ prefixReported (prefixFix f i) :=
  mapAt_fixed_gone _ _ _ prefix_rename_unreported f i (by simp)

theorem prefix_repair_terminates (f : List Occ) :
    prefixReported (repair prefixReported prefixFix (prefixReported f).length f) = [] :=
  repair_terminates_of prefixReported prefixFix prefix_fix_strictly_fewer f

/-- whatever no-window-prefix reports, no-window reports as well (the converse fails: `window.foo`, `window;`) -/
theorem prefix_reported_sub_win (o : Occ) (h : prefixReportedOcc o = true) : winReportedOcc o = true := by
  unfold prefixReportedOcc at h
  unfold winReportedOcc
  cases hp : o.pos with
  | memberObj c p => simp [hp, Pos.isMemberObj] at h ⊢; exact ⟨h.1.1, h.1.2⟩
  | exprStmt => simp [hp] at h
  | other => simp [hp] at h

/-- the deny list is searched for the property name as a string: comparing strings is far cheaper to evaluate than
decoding every entry of the list with `String.toList` -/
theorem denied_eq_contains (p : List Char) : denied p = denyList.contains (String.ofList p) := by
  rw [denied, List.contains_eq_any_beq]
  congr 1
  funext s
  rw [Bool.eq_iff_iff, beq_iff_eq, beq_iff_eq]
  exact ⟨fun h => h ▸ String.ofList_toList, fun h => h ▸ String.toList_ofList⟩

def blobOcc : Occ := ⟨nWindow, true, .memberObj false (some ['B', 'l', 'o', 'b'])⟩
-- `window.Blob; window.Blob.x; window.foo; window[k]; window.Blob`  (the second is chained, the fourth has no static name)
example : prefixReported [blobOcc, ⟨nWindow, true, .memberObj true (some ['B', 'l', 'o', 'b'])⟩,
    ⟨nWindow, true, .memberObj false (some ['f', 'o', 'o'])⟩, ⟨nWindow, true, .memberObj false none⟩, blobOcc] = [0, 4] := by
  simp only [prefixReported, idxWhere, prefixReportedOcc, blobOcc, denied_eq_contains]
  decide +kernel
example : prefixReported (prefixFix [blobOcc, blobOcc] 0) = [1] := by decide +kernel
example : 1 ∈ prefixReported [blobOcc, blobOcc] := by decide +kernel

/-! ### no-node-globals: `global` → `globalThis` -/

theorem glob_rename_unreported (o : GOcc) : globReportedOcc o.rename = false := by
  have : ¬ nGlobalThis ∈ nodeGlobals := by decide
  simp [globReportedOcc, GOcc.rename, this]

theorem globSel_self (f : List GOcc) (i : Nat) : globSel f i i = true := by simp [globSel]

/-- the reports after the fix of `i` are the earlier reports without `i` and without its partner tag -/
theorem glob_fix_exact (f : List GOcc) (i : Nat) :
    globReported (globFix f i) = (globReported f).filter (fun n => !globSel f i n) :=
  idxWhere_mapAt _ _ _ glob_rename_unreported f 0

theorem glob_fix_strictly_fewer (f : List GOcc) (i : Nat) (h : i ∈ globReported f) :
    (globReported (globFix f i)).length < (globReported f).length :=
  mapAt_fix_strictly_fewer _ _ _ glob_rename_unreported f i (globSel_self f i) h

theorem glob_fixed_gone (f : List GOcc) (i : Nat) : i ∉ globReported (globFix f i) :=
  mapAt_fixed_gone _ _ _ glob_rename_unreported f i (globSel_self f i)

/-- the partner tag is renamed by the same fix: it is gone as well -/
theorem glob_partner_gone (f : List GOcc) (i p : Nat) (o : GOcc) (ho : f[i]? = some o) (hp : o.partner = some p) :
    p ∉ globReported (globFix f i) :=
  mapAt_fixed_gone _ _ _ glob_rename_unreported f p (by simp [globSel, ho, hp])

/-- the statement for the diagnostics that offer this fix -/
theorem globRepl_fix_strictly_fewer (f : List GOcc) (i : Nat) (h : i ∈ globReplReported f) :
    (globReported (globFix f i)).length < (globReported f).length :=
  glob_fix_strictly_fewer f i (idxWhere_sub (fun _ h => (Bool.and_eq_true_iff.mp h).1) f 0 i h)

theorem globRepl_rename_unreported (o : GOcc) : (globReportedOcc o.rename && o.rename.name == nGlobal) = false := by
  rw [glob_rename_unreported, Bool.false_and]

/-- the fix removes no report that does not offer it … -/
theorem globRepl_fix_exact (f : List GOcc) (i : Nat) :
    globReplReported (globFix f i) = (globReplReported f).filter (fun n => !globSel f i n) :=
  idxWhere_mapAt _ _ _ globRepl_rename_unreported f 0

/-- … so repairing along the `Replace` fixes terminates with none of the fixable diagnostics left -/
theorem glob_repair_terminates (f : List GOcc) :
    globReplReported (repair globReplReported globFix (globReplReported f).length f) = [] :=
  repair_terminates_of globReplReported globFix
    (fun s i => mapAt_fix_strictly_fewer _ _ _ globRepl_rename_unreported s i (globSel_self s i)) f

-- `<global.Foo>{global}{Buffer}</global.Foo>; { let global; global }`
def jsxPair : List GOcc := [⟨nGlobal, true, some 3, some 3⟩, ⟨nGlobal, true, none, none⟩, ⟨nBuffer, true, none, none⟩,
  ⟨nGlobal, true, some 0, some 0⟩, ⟨nGlobal, false, none, none⟩]
example : globReported jsxPair = [0, 1, 2, 3] := by decide +kernel
example : globReplReported jsxPair = [0, 1, 3] := by decide +kernel
example : globReported (globFix jsxPair 3) = [1, 2] := by decide +kernel
example : globReported (globFix jsxPair 1) = [0, 2, 3] := by decide +kernel
example : 3 ∈ globReplReported jsxPair := by decide +kernel
example : globReported (repair globReplReported globFix 3 jsxPair) = [2] := by decide +kernel

/-! #### the two tags of an element keep the same name — when the rule pairs what the parser pairs -/

theorem mapAt_getElem? {α : Type} (g : α → α) (s : Nat → Bool) (l : List α) (k n : Nat) :
    (mapAt g s l k)[n]? = (l[n]?).map (fun a => if s (k + n) then g a else a) := by
  induction l generalizing k n with
  | nil => simp [mapAt]
  | cons a r ih =>
    cases n with
    | zero => simp [mapAt]
    | succ n =>
      simp only [mapAt, List.getElem?_cons_succ]
      rw [ih (k + 1) n]
      have : k + 1 + n = k + (n + 1) := by omega
      rw [this]

theorem tagsMatchFrom_iff (f r : List GOcc) :
    tagsMatchFrom f r = true ↔ ∀ o ∈ r, ∀ j, o.mate = some j → ∃ o', f[j]? = some o' ∧ o'.name = o.name := by
  induction r with
  | nil => simp [tagsMatchFrom]
  | cons a r ih =>
    simp only [tagsMatchFrom, Bool.and_eq_true, ih, List.mem_cons, forall_eq_or_imp]
    refine and_congr ?_ Iff.rfl
    cases a.mate with
    | none => simp
    | some j => cases h : f[j]? <;> simp [h]

theorem tagsMatch_iff (f : List GOcc) :
    tagsMatch f = true ↔ ∀ (k : Nat) (o : GOcc), f[k]? = some o → ∀ j, o.mate = some j → ∃ o', f[j]? = some o' ∧ o'.name = o.name := by
  rw [tagsMatch, tagsMatchFrom_iff]
  constructor
  · intro h k o hk
    exact h o (List.mem_of_getElem? hk)
  · intro h o ho
    obtain ⟨k, hk⟩ := List.getElem?_of_mem ho
    exact h k o hk

/-- `other_tag_range` finds the other tag of every element that has two -/
def PairsMates (f : List GOcc) : Prop := ∀ (i : Nat) (o : GOcc), f[i]? = some o → o.partner = o.mate
/-- being the other tag is mutual -/
def MatesSym (f : List GOcc) : Prop :=
  ∀ (i j : Nat) (o : GOcc), f[i]? = some o → o.mate = some j → ∃ o' : GOcc, f[j]? = some o' ∧ o'.mate = some i

/-- the fix renames the other tag of every tag it renames -/
theorem globSel_mate {f : List GOcc} {i k j : Nat} {o : GOcc} (hp : PairsMates f) (hs : MatesSym f)
    (hk : f[k]? = some o) (hm : o.mate = some j) (h : globSel f i k = true) : globSel f i j = true := by
  simp only [globSel, Bool.or_eq_true, beq_iff_eq] at h ⊢
  rcases h with rfl | h
  · -- `k` is the reported tag: `j` is its partner
    right; simp only [hk, hp k o hk, hm, BEq.rfl]
  · -- `k` is the partner of the reported tag `i`: its own other tag `j` is `i`
    left
    cases hfi : f[i]? with
    | none => simp [hfi] at h
    | some oi =>
      simp only [hfi, hp i oi hfi, beq_iff_eq] at h
      obtain ⟨o', ho', hb⟩ := hs i k oi hfi h
      rw [hk] at ho'; cases ho'
      rw [hm] at hb; exact Option.some.inj hb

/-- if the rule's pairing is the parser's, a fix renames both tags or neither: the names of the two tags of every
element still agree afterwards -/
theorem glob_fix_keeps_tags (f : List GOcc) (i : Nat) (hp : PairsMates f) (hs : MatesSym f) (ht : tagsMatch f = true) :
    tagsMatch (globFix f i) = true := by
  rw [tagsMatch_iff] at ht ⊢
  intro k o hk j hj
  simp only [globFix, mapAt_getElem?, Nat.zero_add] at hk ⊢
  cases hfk : f[k]? with
  | none => simp [hfk] at hk
  | some o0 =>
    simp only [hfk, Option.map_some, Option.some.injEq] at hk
    subst hk
    have hmate : o0.mate = some j := by split at hj <;> exact hj
    obtain ⟨o1, hfj, hname⟩ := ht k o0 hfk j hmate
    obtain ⟨o1', hfj', hback⟩ := hs k j o0 hfk hmate
    rw [hfj] at hfj'; cases hfj'
    have hsel : globSel f i k = globSel f i j :=
      Bool.eq_iff_iff.mpr ⟨globSel_mate hp hs hfk hmate, globSel_mate hp hs hfj hback⟩
    refine ⟨_, by rw [hfj]; rfl, ?_⟩
    rw [hsel]
    split
    · rfl
    · exact hname

example : tagsMatch jsxPair = true ∧ tagsMatch (globFix jsxPair 0) = true := by decide +kernel

/-- **A defect of the real rule, visible in the model.**  `other_tag_range` pairs the tags of `<global.Foo>…</global.Foo>`
only: for a plain identifier tag `<global>…</global>` (`jsx_name_root` returns `None`) both tags are reported, each with
a fix that renames one of them — `<globalThis>…</global>` does not parse.  (`PairsMates` fails: `partner = none`,
`mate = some _`.) -/
def plainPair : List GOcc := [⟨nGlobal, true, none, some 1⟩, ⟨nGlobal, true, none, some 0⟩]
theorem plain_tag_fix_breaks_tags :
    tagsMatch plainPair = true ∧ 0 ∈ globReplReported plainPair ∧ tagsMatch (globFix plainPair 0) = false := by decide

/-! ### jsx-boolean-value -/

theorem bool_none_unreported (a : AttrVal) : boolReportedAttr ((fun _ => AttrVal.none) a) = false := by
  simp [boolReportedAttr]

theorem bool_fix_exact (f : List AttrVal) (i : Nat) : boolReported (boolFix f i) = (boolReported f).filter (fun n => !(n == i)) :=
  idxWhere_mapAt _ _ _ bool_none_unreported f 0

theorem bool_fix_strictly_fewer (f : List AttrVal) (i : Nat) (h : i ∈ boolReported f) :
    (boolReported (boolFix f i)).length < (boolReported f).length :=
  mapAt_fix_strictly_fewer _ _ _ bool_none_unreported f i (by simp) h

theorem bool_fixed_gone (f : List AttrVal) (i : Nat) : i ∉ boolReported (boolFix f i) :=
  mapAt_fixed_gone _ _ _ bool_none_unreported f i (by simp)

theorem bool_repair_terminates (f : List AttrVal) : boolReported (repair boolReported boolFix (boolReported f).length f) = [] :=
  repair_terminates_of boolReported boolFix bool_fix_strictly_fewer f

-- `<Foo a={true} b={false} c="x" d e={true /* c */} f={true} />`
example : boolReported [.trueBare, .false_, .str, .none, .trueCommented, .trueBare] = [0, 5] := by decide +kernel
example : boolReported (boolFix [.trueBare, .false_, .str, .none, .trueCommented, .trueBare] 0) = [5] := by decide +kernel
example : 5 ∈ boolReported [.trueBare, .false_, .str, .none, .trueCommented, .trueBare] := by decide +kernel
example : repair boolReported boolFix 2 [.trueBare, .str, .trueBare] = [.none, .str, .none] := by decide +kernel

/-! ### jsx-curly-braces: the fix for a string literal child -/

/-- the children whose report depends on the look-ahead: an unskipped string literal container without a special
character -/
def candidate (s : Bool) : Child → Bool
  | .lit v _ => !s && !special v
  | _ => false

theorem scan_cons (s : Bool) (c : Child) (r : List Child) (k : Nat) :
    scan s (c :: r) k =
      if candidate s c then (if nextMl r = some true then scan true r (k + 1) else k :: scan false r (k + 1))
      else scan false r (k + 1) := by
  cases s <;> cases c <;> simp only [scan, candidate, Bool.not_true, Bool.not_false, Bool.false_and, Bool.true_and,
    Bool.false_eq_true, if_true, if_false, Bool.not_eq_true']
  split <;> simp [*]

theorem candidate_lit {s : Bool} {c : Child} (h : candidate s c = true) : ∃ v ml, c = .lit v ml ∧ special v = false := by
  cases c with
  | lit v ml => exact ⟨v, ml, rfl, (by simpa [candidate] using h : s = false ∧ special v = false).2⟩
  | text _ => cases h
  | other _ => cases h

theorem scan_skip (c : Child) (r : List Child) (k : Nat) : scan true (c :: r) k = scan false r (k + 1) := by
  rw [scan_cons]; cases c <;> rfl
theorem scan_text (s m : Bool) (r : List Child) (k : Nat) : scan s (.text m :: r) k = scan false r (k + 1) := by
  rw [scan_cons]; rfl

theorem scan_ge (s : Bool) (cs : List Child) (k : Nat) : ∀ n ∈ scan s cs k, k ≤ n := by
  induction cs generalizing s k with
  | nil => intro n hn; simp [scan] at hn
  | cons c r ih =>
    intro n hn
    rw [scan_cons] at hn
    split at hn
    · split at hn
      · exact Nat.le_of_succ_le (ih true (k + 1) n hn)
      · rcases List.mem_cons.mp hn with rfl | h
        · exact Nat.le_refl _
        · exact Nat.le_of_succ_le (ih false (k + 1) n h)
    · exact Nat.le_of_succ_le (ih false (k + 1) n hn)

theorem not_mem_scan_succ (s : Bool) (cs : List Child) (k : Nat) : k ∉ scan s cs (k + 1) :=
  fun h => Nat.not_succ_le_self k (scan_ge s cs (k + 1) k h)

/-- a reported head is followed by an unskipped scan of the rest -/
theorem scan_head_mem {s : Bool} {c : Child} {r : List Child} {k : Nat} (h : k ∈ scan s (c :: r) k) :
    scan s (c :: r) k = k :: scan false r (k + 1) := by
  rw [scan_cons] at h ⊢
  split
  · split
    · rw [if_pos ‹_›, if_pos ‹_›] at h; exact absurd h (not_mem_scan_succ _ _ _)
    · rfl
  · rw [if_neg ‹_›] at h; exact absurd h (not_mem_scan_succ _ _ _)

/-- only string literal containers without a special character are ever reported -/
theorem scan_mem_lit (cs : List Child) (s : Bool) (k j : Nat) (h : k + j ∈ scan s cs k) :
    ∃ v ml, cs[j]? = some (.lit v ml) ∧ special v = false := by
  induction cs generalizing s k j with
  | nil => simp [scan] at h
  | cons c r ih =>
    rw [scan_cons] at h
    cases j with
    | zero =>
      by_cases hc : candidate s c = true
      · obtain ⟨v, ml, rfl, hs⟩ := candidate_lit hc
        exact ⟨v, ml, rfl, hs⟩
      · rw [if_neg hc] at h
        exact absurd h (not_mem_scan_succ _ _ _)
    | succ j =>
      rw [← Nat.add_assoc, Nat.add_right_comm] at h
      simp only [List.getElem?_cons_succ]
      split at h
      · split at h
        · exact ih true (k + 1) j h
        · rcases List.mem_cons.mp h with h | h
          · omega
          · exact ih false (k + 1) j h
      · exact ih false (k + 1) j h

/-- turning a container behind a run of text into text can only lengthen the run -/
theorem textRunMl_set_mono (cs : List Child) (j : Nat) (b : Bool) (v : List Char) (ml : Bool)
    (hj : cs[j]? = some (.lit v ml)) (h : textRunMl cs = true) : textRunMl (cs.set j (.text b)) = true := by
  induction cs generalizing j with
  | nil => simp [textRunMl] at h
  | cons c r ih =>
    cases c with
    | lit _ _ => simp [textRunMl] at h
    | other _ => simp [textRunMl] at h
    | text m =>
      cases j with
      | zero => simp at hj
      | succ j =>
        simp only [List.getElem?_cons_succ] at hj
        simp only [List.set_cons_succ, textRunMl, Bool.or_eq_true] at h ⊢
        exact h.imp id (ih j hj)

/-- a child that was withheld stays withheld when a *reported* container behind it becomes text -/
theorem nextMl_set_true (r : List Child) (j : Nat) (b : Bool) (k : Nat) (h : k + j ∈ scan true r k)
    (h1 : nextMl r = some true) : nextMl (r.set j (.text b)) = some true := by
  cases r with
  | nil => simp [nextMl] at h1
  | cons c r' =>
    cases j with
    | zero => rw [scan_skip] at h; exact absurd h (not_mem_scan_succ _ _ _)
    | succ j =>
      obtain ⟨v, ml, hv, _⟩ := scan_mem_lit _ _ _ _ h
      simp only [List.getElem?_cons_succ] at hv
      cases c with
      | lit _ _ => exact h1
      | other _ => exact h1
      | text m =>
        simp only [List.set_cons_succ, nextMl, Option.some.injEq, Bool.or_eq_true] at h1 ⊢
        exact h1.imp id (textRunMl_set_mono r' j b v ml hv)

/-- the look-ahead can only change to "spans a line break" when the list now starts with text -/
theorem set_head_text (r : List Child) (j : Nat) (b : Bool) (h1 : ¬ nextMl r = some true)
    (h2 : nextMl (r.set j (.text b)) = some true) : ∃ m r', r.set j (.text b) = .text m :: r' := by
  cases r with
  | nil => simp [nextMl] at h2
  | cons c r' =>
    cases j with
    | zero => exact ⟨b, r', rfl⟩
    | succ j =>
      cases c with
      | text m => exact ⟨m, _, rfl⟩
      | lit _ _ => exact absurd h2 h1
      | other _ => exact absurd h2 h1

/-- **the key lemma**: replacing a *reported* container by a piece of text adds no report and removes that one — for
every state of the loop, every child list and every line-break flag of the new text -/
theorem scan_fix_sublist (cs : List Child) (s : Bool) (k j : Nat) (b : Bool) (h : k + j ∈ scan s cs k) :
    (scan s (cs.set j (.text b)) k).Sublist ((scan s cs k).erase (k + j)) := by
  induction cs generalizing s k j with
  | nil => simp [scan] at h
  | cons c r ih =>
    cases j with
    | zero =>
      -- the head is the reported container: the new text is not reported, the rest is scanned as before
      rw [Nat.add_zero] at h ⊢
      rw [List.set_cons_zero, scan_text, scan_head_mem h, List.erase_cons_head]
      exact List.Sublist.refl _
    | succ j =>
      rw [List.set_cons_succ, scan_cons s c (r.set j _), scan_cons s c r, ← Nat.add_assoc, Nat.add_right_comm]
      rw [scan_cons, ← Nat.add_assoc, Nat.add_right_comm] at h
      by_cases hc : candidate s c = true
      · simp only [hc, if_true] at h ⊢
        by_cases h1 : nextMl r = some true
        · rw [if_pos h1] at h ⊢
          rw [if_pos (nextMl_set_true r j b (k + 1) h h1)]
          exact ih true (k + 1) j h
        · rw [if_neg h1] at h ⊢
          have hm : (k + 1) + j ∈ scan false r (k + 1) := (List.mem_cons.mp h).resolve_left (by omega)
          rw [List.erase_cons_tail (by simp only [beq_iff_eq]; omega)]
          by_cases h2 : nextMl (r.set j (.text b)) = some true
          · -- the head is withheld now; what follows it is text, so skipping it changes nothing
            obtain ⟨m, r', hr'⟩ := set_head_text r j b h1 h2
            rw [if_pos h2, show scan true (r.set j (.text b)) (k + 1) = scan false (r.set j (.text b)) (k + 1) by
              rw [hr', scan_text, scan_text]]
            exact List.Sublist.cons k (ih false (k + 1) j hm)
          · rw [if_neg h2]
            exact List.Sublist.cons_cons k (ih false (k + 1) j hm)
      · simp only [hc] at h ⊢
        exact ih false (k + 1) j h

theorem childFix_lit (cs : List Child) (i : Nat) (v : List Char) (ml : Bool) (h : cs[i]? = some (.lit v ml)) :
    childFix cs i = cs.set i (.text (hasLF v)) := by simp [childFix, h]

/-- a reported child is a string literal container, and the rule builds a fix text for its value -/
theorem child_reported_has_text (cs : List Child) (i : Nat) (h : i ∈ childReported cs) :
    ∃ v ml, cs[i]? = some (.lit v ml) ∧ childFixText v = some v := by
  obtain ⟨v, ml, hv, hs⟩ := scan_mem_lit cs false 0 i (by simpa [childReported] using h)
  exact ⟨v, ml, hv, by simp [childFixText, hs]⟩

/-- after the fix of `i` the rule reports a sublist of the earlier reports without `i`: nothing new is reported, in
particular no child that had been withheld or skipped -/
theorem child_fix_sublist (cs : List Child) (i : Nat) (h : i ∈ childReported cs) :
    (childReported (childFix cs i)).Sublist ((childReported cs).erase i) := by
  have h' : 0 + i ∈ scan false cs 0 := by simpa [childReported] using h
  obtain ⟨v, ml, hv, _⟩ := scan_mem_lit cs false 0 i h'
  rw [childFix_lit cs i v ml hv]
  have := scan_fix_sublist cs false 0 i (hasLF v) h'
  simpa [childReported] using this

/-- **C13 for jsx-curly-braces' child fix** (one child list): strictly fewer reports after the fix -/
theorem child_fix_strictly_fewer (cs : List Child) (i : Nat) (h : i ∈ childReported cs) :
    (childReported (childFix cs i)).length < (childReported cs).length := by
  have h1 := (child_fix_sublist cs i h).length_le
  have h2 := List.length_erase_of_mem h
  have h3 : 0 < (childReported cs).length := List.length_pos_of_mem h
  omega

theorem child_fixed_gone (cs : List Child) (i : Nat) (h : i ∈ childReported cs) : i ∉ childReported (childFix cs i) := by
  obtain ⟨v, ml, hv, _⟩ := scan_mem_lit cs false 0 i (by simpa [childReported] using h)
  rw [childFix_lit cs i v ml hv]
  intro hi
  obtain ⟨v', ml', hv', _⟩ := scan_mem_lit _ false 0 i (by simpa [childReported] using hi)
  have hlt : i < cs.length := by
    rcases Nat.lt_or_ge i cs.length with hl | hl
    · exact hl
    · simp [List.getElem?_eq_none hl] at hv
  simp [hlt] at hv'

theorem child_repair_terminates (cs : List Child) :
    childReported (repair childReported childFix (childReported cs).length cs) = [] :=
  repair_terminates_of childReported childFix child_fix_strictly_fewer cs

theorem litCount_set (cs : List Child) (i : Nat) (v : List Char) (ml b : Bool) (h : cs[i]? = some (.lit v ml)) :
    litCount (cs.set i (.text b)) + 1 = litCount cs := by
  induction cs generalizing i with
  | nil => simp at h
  | cons c r ih =>
    cases i with
    | zero =>
      simp only [List.getElem?_cons_zero, Option.some.injEq] at h
      subst h
      simp [litCount]
    | succ i =>
      simp only [List.getElem?_cons_succ] at h
      have := ih i h
      cases c <;> simp only [List.set_cons_succ, litCount] <;> omega

/-- every fix leaves one string literal container less — a measure that does not depend on line breaks, so that it
also bounds repeated fixing across nested elements, where the number of *reports* need not fall
(`other_ml_change_brings_report`) -/
theorem child_fix_one_container_less (cs : List Child) (i : Nat) (h : i ∈ childReported cs) :
    litCount (childFix cs i) + 1 = litCount cs := by
  obtain ⟨v, ml, hv, _⟩ := scan_mem_lit cs false 0 i (by simpa [childReported] using h)
  rw [childFix_lit cs i v ml hv]
  exact litCount_set cs i v ml _ hv

/-- on a parsed child list (no two adjacent pieces of text) the model's look-ahead is the rule's: the line-break flag
of the next child -/
theorem nextMl_canon (r : List Child) (h : Canon r) : nextMl r = r.head?.map Child.ml := by
  cases r with
  | nil => rfl
  | cons c r' =>
    cases c with
    | lit _ _ => rfl
    | other _ => rfl
    | text m =>
      cases r' with
      | nil => simp [nextMl, textRunMl, Child.ml]
      | cons d r'' =>
        cases d with
        | text m' => simp [Canon, Child.isText] at h
        | lit _ _ => simp [nextMl, textRunMl, Child.ml]
        | other _ => simp [nextMl, textRunMl, Child.ml]

theorem isSpecialChar_iff (c : Char) : isSpecialChar c = true ↔ c = '{' ∨ c = '}' ∨ c = '<' ∨ c = '>' := by
  simp only [isSpecialChar, Bool.or_eq_true, beq_iff_eq, or_assoc]

theorem special_iff (v : List Char) : special v = true ↔ ∃ c ∈ v, c = '{' ∨ c = '}' ∨ c = '<' ∨ c = '>' := by
  simp only [special, List.any_eq_true, isSpecialChar_iff]

/-- **lexical side**: when the rule offers the fix, the replacement is the value itself and contains none of the
characters that end or restructure JSX text — it lexes as JSX text up to the next `{` or `<` of the surroundings -/
theorem childFixText_lexes (v t : List Char) (h : childFixText v = some t) :
    t = v ∧ ∀ c ∈ t, c ≠ '{' ∧ c ≠ '}' ∧ c ≠ '<' ∧ c ≠ '>' := by
  unfold childFixText at h
  split at h
  · cases h
  · next hs =>
    cases h
    refine ⟨rfl, fun c hc => ?_⟩
    have hn : ¬ (c = '{' ∨ c = '}' ∨ c = '<' ∨ c = '>') := fun hh => hs ((special_iff _).mpr ⟨c, hc, hh⟩)
    simpa only [not_or] using hn

theorem childFixText_none_iff (v : List Char) :
    childFixText v = none ↔ ∃ c ∈ v, c = '{' ∨ c = '}' ∨ c = '<' ∨ c = '>' := by
  rw [← special_iff]
  unfold childFixText
  split <;> simp [*]

-- `<div>{"a"}{"b"}t{"c<"}{"d"}⏎  {"e"}</div>`: `{"c<"}` needs its braces, `{"d"}` stands at the end of its line
def sampleChildren : List Child := [.lit ['a'] false, .lit ['b'] false, .text false, .lit ['c', '<'] false, .lit ['d'] false, .text true, .lit ['e'] false]
example : childReported sampleChildren = [0, 1, 6] := by decide +kernel
example : childReported (childFix sampleChildren 1) = [0, 6] := by decide +kernel
example : 1 ∈ childReported sampleChildren := by decide +kernel
example : childReported (repair childReported childFix 3 sampleChildren) = [] := by decide +kernel
-- a value with an (escaped) line feed: the text that replaces it ends on a later line, so `{"a"}` is now withheld
example : childReported [.lit ['a'] false, .lit ['x', '\n', 'y'] false] = [0, 1] ∧
    childReported (childFix [.lit ['a'] false, .lit ['x', '\n', 'y'] false] 1) = [] := by decide +kernel
example : childFixText ['a', ' ', '&', ' ', 'b'] = some ['a', ' ', '&', ' ', 'b'] := by decide +kernel
example : childFixText ['a', '>', 'b'] = none := by decide +kernel
example : Canon sampleChildren := by simp [sampleChildren, Canon, Child.isText]

/-- **Not covered, and false for the real rule.**  The flag of an `other` child is fixed in this model, but for a child
*element* it depends on that element's own children: the fix of a literal in `<span>{⏎"x"}</span>` makes the element
single-line, which for the enclosing list `{"a"}<span>…</span>` is a change from `other true` to `other false` — and
brings the withheld report on `{"a"}` back: one report before, one (another) after. -/
theorem other_ml_change_brings_report :
    childReported [.lit ['a'] false, .other true] = [] ∧ childReported [.lit ['a'] false, .other false] = [0] := by decide

/-- the hypothesis `i ∈ childReported cs` cannot be dropped: turning a *skipped* container into text (a fix the rule
does not offer) brings a report -/
theorem unskipped_fix_can_add_report :
    childReported [.lit ['a'] false, .lit ['b'] true] = [] ∧
      childReported (childFix [.lit ['a'] false, .lit ['b'] true] 1) = [0] := by decide

end DL.Props.C13Rest
