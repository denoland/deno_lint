import DL.Lemmas.Scope

/-!
# C14 — rules about global names respect lexical scoping

Model: `DL.Scope` (`Model/Scope.lean`).  A global-name rule is `globalReports g` : it reports the reference
occurrences spelled `g` that the resolver left unresolved.  (That each real rule has this shape in **every** handler —
the syntactic test on the spelling plus the query of the per-file analyses — is what the C14 driver checks on the
implementation: reference alone / under each binding form at depth 0–3 / beside non-enclosing bindings.)

Proved here for the model language (lexical declarations, parameters, blocks, functions): the exact characterisation
`reported_iff` for a reference under an arbitrary stack of enclosing scopes with arbitrary statements around it.  `var`
hoisting, function-expression names, catch parameters and loop heads are in the richer model of `DL.Props.C14b`; imports
are a binding form that only the driver exercises.
-/
namespace DL.Props.C14
open DL.Scope

/-- **C14 (model)**: a reference to `g` placed under the scopes `ls` (outermost first, arbitrary statements before and
after the hole in each of them, arbitrary depth) produces exactly one occurrence, and the rule reports it iff none of
the enclosing scopes declares `g` — as a parameter or by a declaration anywhere in the scope (before or after the
reference). -/
theorem reported_iff (g : Nat) (ls : List Layer) :
    ∃ pre post e, (plug ls (.ref g)).res [] = pre ++ e :: post ∧ e.kind = .ref ∧ e.name = g ∧
      (isGlobalRef g e = true ↔ ∀ l ∈ ls, g ∉ l.declared) := by
  obtain ⟨pre, post, h⟩ := plug_res ls (.ref g) rfl []
  refine ⟨pre, post, ⟨.ref, g, lookup (envOf ls []) g⟩, by simpa [Item.res] using h.symm, rfl, rfl, ?_⟩
  simp only [isGlobalRef, BEq.rfl, Bool.true_and, beq_iff_eq, lookup_envOf_none_iff, lookup, and_true]

/-- the bound direction for whole subtrees: below a binding of `g` nothing is reported, whatever the subtree is
(all nesting depths at once) -/
theorem bound_subtree_silent (g : Nat) (i : Item) (env : Env) (h : lookup env g ≠ none) :
    ∀ e ∈ i.res env, isGlobalRef g e = false := Item.bound_silent g i env h

/-- non-enclosing things do not matter: what a scope declares — hence the verdict above — is unchanged by sibling
blocks and functions (whatever they declare inside), by property keys / member names of the same spelling, and by
other references -/
theorem declared_ignores_siblings (id id' : Nat) (pre post inner : Items) (ps : List Nat) (x : Nat) :
    (Layer.block id (pre.append (.cons (.block id' inner) .nil)) post).declared = (Layer.block id pre post).declared ∧
    (Layer.block id (pre.append (.cons (.func id' ps inner) .nil)) post).declared = (Layer.block id pre post).declared ∧
    (Layer.block id (pre.append (.cons (.key x) .nil)) post).declared = (Layer.block id pre post).declared ∧
    (Layer.block id (pre.append (.cons (.ref x) .nil)) post).declared = (Layer.block id pre post).declared := by
  simp [Layer.declared, lets_append, Items.lets]

/-- property keys and member names are never occurrences at all -/
theorem key_is_no_occurrence (x : Nat) (env : Env) : (Item.key x).res env = [] := rfl

/-! The two directions on a concrete program:
`{ g; function f(g) { { g; } } { let g; } ({g:1}) }` with g = 7 — the first reference is reported (position 0), the
one under the parameter is not, and the sibling block's `let g` and the key change nothing. -/
def sample : Items :=
  .cons (.ref 7) (.cons (.func 1 [7] (.cons (.block 2 (.cons (.ref 7) .nil)) .nil))
    (.cons (.block 3 (.cons (.decl 7) .nil)) (.cons (.key 7) .nil)))
example : globalReports 7 sample = [0] := by decide +kernel
example : (Program.res sample).map (·.bind) = [none, some 1, some 1, some 3] := by decide +kernel

end DL.Props.C14
