import DL.Lemmas.Scope2Ren

/-!
# C20 (richer model) — diagnostics do not depend on how local bindings are spelled, with hoisting

Model: `DL.Scope2`.  `Program.ren t x y` renames the binding (`x`, declared by scope `t`) to `y` in place: all its
declarations (a `var` may be declared several times, in different blocks of one function), its parameter / function
name / catch parameter / loop head occurrence, and exactly the references that resolve to it (not those shadowed by an
inner declaration of `x`, not property keys).  A binding-tracking rule is a function of the resolver's output
`Program.res`.

Proved for well-formed programs (`WF`: no early errors): (1) the resolver's output is invariant under the renaming
except for the spelling of the occurrences of that one binding (`resolution_invariant`); (2) hence the binding-keyed
model of no-unused-vars (`unused_invariant`) and the global-name rule of C14 (`globalReports_invariant`) are
spelling-independent; (3) the name-keyed mutant is not (`unusedByName_not_invariant`); (4) `WF` cannot be dropped
(`wf_needed`): in `function f() { x; { let x; var x; } }` — an early error — the `var` does not belong to the binding it
contributes to.
-/
namespace DL.Props.C20b
open DL.Scope2

/-- **C20 (model with hoisting), resolution**: if the program is well-formed and `y` is fresh, resolving the renamed
program gives the resolved original with the occurrences of the renamed binding — and only those — spelled `y`;
bindings (scope ids) are untouched. -/
theorem resolution_invariant (t : Sid) (x y : Nat) (p : Items) (hwf : WF p) (hy : y ∉ p.names) :
    Program.res (Program.ren t x y p) = (Program.res p).map (swE t x y) := by
  have hwf' : p.wf = true := by
    have : Program.wf p = true := hwf
    simp only [Program.wf, Bool.and_eq_true] at this
    exact this.2
  have h0 : Rel t x y false [] [] := Binding.Rel.init t x y
  have hs := h0.step (.scope 0) (funcFrame [] p) (funcFrame_fresh (by simp) hy)
  unfold Program.res Program.ren
  have hfr := funcFrame_ren t x y (act' t x false (.scope 0) (funcFrame [] p)) [] p hwf'
  rw [renL_nil] at hfr
  rw [hfr]
  exact Items.res_ren t x y p _ _ _ hs hwf' hy

theorem swE_kind (t : Sid) (x y : Nat) (e : Entry) : (swE t x y e).kind = e.kind := by unfold swE; split <;> rfl
theorem swE_bind (t : Sid) (x y : Nat) (e : Entry) : (swE t x y e).bind = e.bind := by unfold swE; split <;> rfl
theorem swE_name (t : Sid) (x y : Nat) (e : Entry) :
    (swE t x y e).name = if e.name = x ∧ e.bind = some t then y else e.name := by unfold swE; split <;> rfl

/-- for entries not spelled `y`, "same binding" (same spelling and same scope) is preserved and reflected -/
theorem swE_same (t : Sid) (x y : Nat) (e f : Entry) (he : e.name ≠ y) (hf : f.name ≠ y) :
    ((swE t x y f).kind == .ref && (swE t x y f).name == (swE t x y e).name && (swE t x y f).bind == (swE t x y e).bind) =
      (f.kind == .ref && f.name == e.name && f.bind == e.bind) := by
  rw [swE_kind, swE_bind, swE_bind, swE_name, swE_name]
  by_cases hb : f.bind = e.bind
  · rw [hb, Bool.eq_iff_iff]
    simp only [Bool.and_eq_true, beq_iff_eq, Binding.swName_inj hf he]
  · rw [beq_false_of_ne hb, Bool.and_false, Bool.and_false]

theorem any_swE (t : Sid) (x y : Nat) (all : List Entry) (e : Entry) (he : e.name ≠ y) (hall : ∀ f ∈ all, f.name ≠ y) :
    ((all.map (swE t x y)).any fun f => f.kind == .ref && f.name == (swE t x y e).name && f.bind == (swE t x y e).bind) =
      all.any fun f => f.kind == .ref && f.name == e.name && f.bind == e.bind := by
  induction all with
  | nil => rfl
  | cons f r ih =>
    rw [List.forall_mem_cons] at hall
    rw [List.map_cons, List.any_cons, List.any_cons, ih hall.2, swE_same t x y e f he hall.1]

theorem unusedIdx_swE (t : Sid) (x y : Nat) (all : List Entry) (hall : ∀ f ∈ all, f.name ≠ y) (k : Nat)
    (l : List Entry) (hl : ∀ f ∈ l, f.name ≠ y) :
    unusedIdx (all.map (swE t x y)) k (l.map (swE t x y)) = unusedIdx all k l := by
  induction l generalizing k with
  | nil => rfl
  | cons e r ih =>
    rw [List.forall_mem_cons] at hl
    simp only [List.map_cons, unusedIdx, swE_kind, any_swE t x y all e hl.1 hall, ih (k + 1) hl.2]

/-- **C20 (model with hoisting), a binding-keyed rule**: the positions reported by the no-unused-vars model are the same
for the renamed program -/
theorem unused_invariant (t : Sid) (x y : Nat) (p : Items) (hwf : WF p) (hy : y ∉ p.names) :
    unused (Program.res (Program.ren t x y p)) = unused (Program.res p) := by
  rw [resolution_invariant t x y p hwf hy]
  have hn : ∀ f ∈ Program.res p, f.name ≠ y := fun f hf hh => hy (hh ▸ Items.res_names p _ f hf)
  exact unusedIdx_swE t x y _ hn 0 _ hn

theorem isGlobalRef_swE (g : Nat) (t : Sid) (x y : Nat) (e : Entry) :
    isGlobalRef g (swE t x y e) = isGlobalRef g e := by
  unfold swE
  split
  · next h => simp [isGlobalRef, h.2]
  · rfl

/-- the global-name rule of C14 is spelling-independent as well.  `hgx`, `hgy` are not used: an unresolved reference is
never an occurrence of the renamed binding, whatever `g` is (`isGlobalRef_swE`). -/
theorem globalReports_invariant (g : Nat) (t : Sid) (x y : Nat) (p : Items) (hwf : WF p) (hy : y ∉ p.names)
    (hgx : g ≠ x) (hgy : g ≠ y) : globalReports g (Program.ren t x y p) = globalReports g p := by
  unfold globalReports
  rw [resolution_invariant t x y p hwf hy]
  generalize Program.res p = l
  generalize 0 = k
  induction l generalizing k with
  | nil => rfl
  | cons e r ih => simp only [List.map_cons, reportIdx, isGlobalRef_swE, ih]

/-! 5 and 6 are fresh; `l` builds statement lists -/
def l : List Item → Items := fun xs => xs.foldr Items.cons .nil

/-- `function f() { { var a; }  { var a; a; }  a; { let a; a; } }` — one binding `a` of `f` declared in two blocks; the
inner `let a` is another one.  Renaming (`a`, scope 1) renames both `var`s and the two references outside the last block. -/
def twoVars : Items :=
  l [.letDecl 9, .func 1 none [] (l [.block 2 (l [.varDecl 1]), .block 3 (l [.varDecl 1, .ref 1]), .ref 1,
    .block 4 (l [.letDecl 1, .ref 1])])]
example : Program.ren (.scope 1) 1 5 twoVars =
    l [.letDecl 9, .func 1 none [] (l [.block 2 (l [.varDecl 5]), .block 3 (l [.varDecl 5, .ref 5]), .ref 5,
      .block 4 (l [.letDecl 1, .ref 1])])] := by decide +kernel
example : WF twoVars ∧ 5 ∉ twoVars.names ∧
    (Program.res twoVars).map (fun e => (e.name, e.bind)) =
      [(9, some (.scope 0)), (1, some (.scope 1)), (1, some (.scope 1)), (1, some (.scope 1)), (1, some (.scope 1)),
       (1, some (.scope 4)), (1, some (.scope 4))] ∧
    (Program.res (Program.ren (.scope 1) 1 5 twoVars)).map (fun e => (e.name, e.bind)) =
      [(9, some (.scope 0)), (5, some (.scope 1)), (5, some (.scope 1)), (5, some (.scope 1)), (5, some (.scope 1)),
       (1, some (.scope 4)), (1, some (.scope 4))] := by decide +kernel
/-- renaming the inner `let` binding instead leaves the `var`s alone -/
example : Program.ren (.scope 4) 1 5 twoVars =
    l [.letDecl 9, .func 1 none [] (l [.block 2 (l [.varDecl 1]), .block 3 (l [.varDecl 1, .ref 1]), .ref 1,
      .block 4 (l [.letDecl 5, .ref 5])])] := by decide +kernel

/-- `(function a(a) { a; });  try {} catch (a) { a; }  for (const a of …) { a; }` — four bindings spelled `a`;
renaming the function's *name* (scope `head 1`) touches only the name (the parameter shadows it) -/
def heads : Items :=
  l [.func 1 (some 1) [1] (l [.ref 1]), .catchC 2 (some 1) (l [.ref 1]), .forLet 3 1 (l [.ref 1]),
    .func 4 (some 1) [] (l [.ref 1])]
example : WF heads ∧
    Program.ren (.head 1) 1 5 heads =
      l [.func 1 (some 5) [1] (l [.ref 1]), .catchC 2 (some 1) (l [.ref 1]), .forLet 3 1 (l [.ref 1]),
        .func 4 (some 1) [] (l [.ref 1])] ∧
    Program.ren (.scope 2) 1 5 heads =
      l [.func 1 (some 1) [1] (l [.ref 1]), .catchC 2 (some 5) (l [.ref 5]), .forLet 3 1 (l [.ref 1]),
        .func 4 (some 1) [] (l [.ref 1])] ∧
    Program.ren (.head 3) 1 5 heads =
      l [.func 1 (some 1) [1] (l [.ref 1]), .catchC 2 (some 1) (l [.ref 1]), .forLet 3 5 (l [.ref 5]),
        .func 4 (some 1) [] (l [.ref 1])] ∧
    Program.ren (.head 4) 1 5 heads =
      l [.func 1 (some 1) [1] (l [.ref 1]), .catchC 2 (some 1) (l [.ref 1]), .forLet 3 1 (l [.ref 1]),
        .func 4 (some 5) [] (l [.ref 5])] := by decide +kernel

/-! ### the mutant: a rule keyed on the spelling is **not** invariant
`var a; function f() { { var a; } a; }` — keyed by name the outer `a` counts as used; after renaming the binding of `f`
(scope 1) to `b` it is reported. -/
def shadow : Items := l [.varDecl 1, .letDecl 9, .ref 9, .func 1 none [] (l [.block 2 (l [.varDecl 1]), .ref 1])]
theorem unusedByName_not_invariant :
    unusedByName (Program.res (Program.ren (.scope 1) 1 5 shadow)) ≠ unusedByName (Program.res shadow) := by decide
/-- …while the binding-keyed rule reports the outer declaration in both -/
example : WF shadow ∧ unused (Program.res shadow) = [0] ∧
    unused (Program.res (Program.ren (.scope 1) 1 5 shadow)) = [0] ∧
    5 ∉ shadow.names ∧ Program.res (Program.ren (.scope 1) 1 5 shadow) ≠ Program.res shadow := by decide +kernel

/-! ### `WF` is needed
`function f() { x; { let x; var x; } }` (an early error in JavaScript).  In the model the `var x` contributes `x` to the
frame of `f` but itself resolves to the block; renaming (`x`, `f`) renames the reference and leaves the `var` alone, so
the frame of `f` keeps the old spelling and the renamed reference falls out of it. -/
def illFormed : Items := l [.func 1 none [] (l [.ref 1, .block 2 (l [.letDecl 1, .varDecl 1])])]
theorem wf_needed : ¬ WF illFormed ∧ 5 ∉ illFormed.names ∧
    Program.res (Program.ren (.scope 1) 1 5 illFormed) ≠ (Program.res illFormed).map (swE (.scope 1) 1 5) := by decide

end DL.Props.C20b
