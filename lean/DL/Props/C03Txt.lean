import DL.Model.Txt

/-!
# C03 / C09 — the character-level rule `prefer-ascii` (M-TXT)

For every text: each reported range is exactly the byte span of one non-ASCII character, it starts and ends on
character boundaries inside the text, ranges are strictly increasing (no overlap), and scanning commutes with
prepending text (C09: "text before a construct, including multi-byte characters, never changes whether or where inside
the construct it is reported").  The last character of a file is never reported (kept quirk).
-/
namespace DL.Props.C03Txt
open DL.Txt

theorem utf8Len_pos (c : Char) : 0 < utf8Len c := by unfold utf8Len; split <;> (try split) <;> (try split) <;> omega
theorem utf8Len_le (c : Char) : utf8Len c ≤ 4 := by unfold utf8Len; split <;> (try split) <;> (try split) <;> omega

/-- what the rule says about one character that has a successor -/
theorem mem_hit {i : Nat} {c : Char} {h : Hit} :
    h ∈ (if utf8Len c > 1 then [(⟨c, i, i + utf8Len c⟩ : Hit)] else []) ↔
      1 < utf8Len c ∧ h = ⟨c, i, i + utf8Len c⟩ := by
  split <;> simp [*]

theorem mem_scan_cons {i : Nat} {c d : Char} {r : List Char} {h : Hit} :
    h ∈ scan i (c :: d :: r) ↔ (1 < utf8Len c ∧ h = ⟨c, i, i + utf8Len c⟩) ∨ h ∈ scan (i + utf8Len c) (d :: r) := by
  rw [scan, List.mem_append, mem_hit]

/-- a finding is the byte span of one multi-byte (= non-ASCII) character -/
theorem scan_span : ∀ (i : Nat) (t : List Char), ∀ h ∈ scan i t, h.stop = h.start + utf8Len h.c ∧ 1 < utf8Len h.c
  | _, [], h, hh => by simp [scan] at hh
  | _, [_], h, hh => by simp [scan] at hh
  | i, c :: d :: r, h, hh => by
    rcases mem_scan_cons.mp hh with ⟨hc, rfl⟩ | hh
    · exact ⟨rfl, hc⟩
    · exact scan_span _ _ h hh

theorem mem_boundaries_self (i : Nat) (t : List Char) : i ∈ boundaries i t := by
  cases t <;> simp [boundaries]

theorem boundaries_mono : ∀ (i : Nat) (t : List Char), ∀ b ∈ boundaries i t, i ≤ b ∧ b ≤ i + bytes t
  | i, [], b, hb => by simp [boundaries] at hb; subst hb; simp [bytes]
  | i, c :: r, b, hb => by
    simp only [boundaries, List.mem_cons] at hb
    rcases hb with rfl | hb
    · simp [bytes]
    · have := boundaries_mono _ r b hb
      simp only [bytes, List.map_cons, List.sum_cons] at this ⊢
      omega

/-- **character boundaries, inside the text**: both ends of every finding are character boundaries of the text -/
theorem scan_on_boundaries : ∀ (i : Nat) (t : List Char), ∀ h ∈ scan i t,
    h.start ∈ boundaries i t ∧ h.stop ∈ boundaries i t
  | _, [], h, hh => by simp [scan] at hh
  | _, [_], h, hh => by simp [scan] at hh
  | i, c :: d :: r, h, hh => by
    show h.start ∈ i :: boundaries (i + utf8Len c) (d :: r) ∧ h.stop ∈ i :: boundaries (i + utf8Len c) (d :: r)
    rcases mem_scan_cons.mp hh with ⟨_, rfl⟩ | hh
    · exact ⟨List.mem_cons_self, List.mem_cons_of_mem _ (mem_boundaries_self _ _)⟩
    · have := scan_on_boundaries _ (d :: r) h hh
      exact ⟨List.mem_cons_of_mem _ this.1, List.mem_cons_of_mem _ this.2⟩

theorem preferAscii_in_bounds (t : List Char) : ∀ h ∈ preferAscii t, h.start < h.stop ∧ h.stop ≤ bytes t := by
  intro h hh
  have hs := scan_span 0 t h hh
  have hb := boundaries_mono 0 t h.stop (scan_on_boundaries 0 t h hh).2
  omega

theorem scan_start_ge : ∀ (i : Nat) (t : List Char), ∀ h ∈ scan i t, i ≤ h.start
  | _, [], h, hh => by simp [scan] at hh
  | _, [_], h, hh => by simp [scan] at hh
  | i, c :: d :: r, h, hh => by
    rcases mem_scan_cons.mp hh with ⟨_, rfl⟩ | hh
    · exact Nat.le_refl _
    · have := scan_start_ge _ _ h hh; omega

/-- **no overlap, in order**: every finding ends where or before the next one starts -/
theorem scan_sorted : ∀ (i : Nat) (t : List Char), (scan i t).Pairwise (fun a b => a.stop ≤ b.start)
  | _, [] => by simp [scan]
  | _, [_] => by simp [scan]
  | i, c :: d :: r => by
    rw [scan, List.pairwise_append]
    refine ⟨by split <;> simp, scan_sorted _ _, fun a ha b hb => ?_⟩
    rw [(mem_hit.mp ha).2]
    exact scan_start_ge _ _ b hb

/-- **prefix equivariance (C09)**: scanning `p ++ t` with `t` non-empty = every non-ASCII character of `p` (none of
them is the last character of the file any more) followed by the findings of `t`, translated by the bytes of `p` -/
theorem scan_append : ∀ (i : Nat) (p t : List Char), t ≠ [] → scan i (p ++ t) = scanAll i p ++ scan (i + bytes p) t
  | i, [], t, _ => by simp [scanAll, bytes]
  | i, [c], t, ht => by
    cases t with
    | nil => exact absurd rfl ht
    | cons d r => simp [scan, scanAll, bytes]
  | i, c :: c2 :: p, t, ht => by
    have ih := scan_append (i + utf8Len c) (c2 :: p) t ht
    simp only [List.cons_append] at ih ⊢
    simp only [scan, scanAll, ih, bytes, List.map_cons, List.sum_cons, List.append_assoc]
    congr 2
    simp only [Nat.add_assoc]

theorem scan_shift : ∀ (i : Nat) (t : List Char),
    scan i t = (scan 0 t).map (fun h => ⟨h.c, h.start + i, h.stop + i⟩)
  | _, [] => by simp [scan]
  | _, [_] => by simp [scan]
  | i, c :: d :: r => by
    have e1 := scan_shift (i + utf8Len c) (d :: r)
    have e2 := scan_shift (0 + utf8Len c) (d :: r)
    simp only [scan, List.map_append, e1]
    rw [e2]
    simp only [List.map_map]
    congr 1
    · by_cases hc : utf8Len c > 1 <;> simp [hc, Nat.add_comm]
    · apply List.map_congr_left; intro h _; simp only [Function.comp]; congr 1 <;> omega

/-- an all-ASCII prefix (blank lines, spaces, ASCII comments) only translates the findings -/
theorem ascii_prefix_only_shifts (p t : List Char) (hp : ∀ c ∈ p, utf8Len c = 1) (ht : t ≠ []) :
    preferAscii (p ++ t) = (preferAscii t).map (fun h => ⟨h.c, h.start + p.length, h.stop + p.length⟩) := by
  unfold preferAscii
  rw [scan_append 0 p t ht]
  have h1 : ∀ (i : Nat) (q : List Char), (∀ c ∈ q, utf8Len c = 1) → scanAll i q = [] := by
    intro i q; induction q generalizing i with
    | nil => intro _; rfl
    | cons c r ih => intro h; simp [scanAll, h c List.mem_cons_self, ih _ (fun d hd => h d (List.mem_cons_of_mem _ hd))]
  have h2 : bytes p = p.length := by
    induction p with
    | nil => rfl
    | cons c r ih => simp only [bytes, List.map_cons, List.sum_cons, List.length_cons] at ih ⊢
                     rw [hp c List.mem_cons_self, ih (fun d hd => hp d (List.mem_cons_of_mem _ hd))]; omega
  rw [h1 0 p hp, List.nil_append, Nat.zero_add, h2, scan_shift]

/-! the quirk: `aπb😀` reports π (bytes 1..3) but not the final 😀 -/
example : preferAscii ['a', 'π', 'b', '😀'] = [⟨'π', 1, 3⟩] := by decide +kernel
example : preferAscii ['a', 'π', 'b', '😀', '\n'] = [⟨'π', 1, 3⟩, ⟨'😀', 4, 8⟩] := by decide +kernel

end DL.Props.C03Txt
