import DL.Lemmas.RxSpecScanG
import DL.Props.C12

/-!
# C12 (grammar) — in Unicode mode the validator accepts only patterns of the ECMAScript grammar

Specification: `DL/Model/RegexSpec.lean` (ES2022 §22.2.1 with `[+UnicodeMode, +NamedCaptureGroups]`, early errors of
§22.2.1.1 included).  Proved here: **soundness** of `validate_pattern` with the `u` flag — whatever it accepts is
derivable from `Pattern` and free of early errors — for every initial validator state and every fuel, with one
documented deviation: the early error of `{lo,hi}` is checked on `i64`-saturated values, so it is
`lo ≤ hi ∨ 2^63 - 1 ≤ hi` instead of `lo ≤ hi` (see `quantifier_saturation` below for the concrete pattern).

Hypotheses: the pattern consists of code points (`≤ 0x10FFFF`) and is shorter than `2^62`.
The converse (every valid pattern is accepted) is `C12Complete`; the mode without the `u` flag (Annex B) is `C12SpecB` and
`C12CompleteB`.
-/
namespace DL.Props.C12
open DL.Rx DL.RxSpec

/-- the early error of `{lo,hi}` as implemented: the comparison is made after saturating both numbers to `i64` -/
def qokModel (lo hi : Nat) : Prop := lo ≤ hi ∨ 2 ^ 63 - 1 ≤ hi

theorem qokSat_iff (lo hi : Nat) : qokSat lo hi ↔ qokModel lo hi := by
  unfold qokSat qokModel satI i64Max
  constructor
  · intro h
    split at h <;> split at h <;> omega
  · intro h
    split <;> split <;> omega

theorem QuantifierPrefix.mono {q q' : Nat → Nat → Prop} (hq : ∀ lo hi, q lo hi → q' lo hi) {i r : Str}
    (h : QuantifierPrefix q i r) : QuantifierPrefix q' i r := by
  cases h with
  | star r => exact .star r
  | plus r => exact .plus r
  | opt r => exact .opt r
  | exact m r ds h => exact .exact m r ds h
  | atLeast m r ds h => exact .atLeast m r ds h
  | range m₁ m₂ r ds₁ ds₂ h1 h2 h3 => exact .range m₁ m₂ r ds₁ ds₂ h1 h2 (hq _ _ h3)

theorem Quantifier.mono {q q' : Nat → Nat → Prop} (hq : ∀ lo hi, q lo hi → q' lo hi) {i r : Str}
    (h : Quantifier q i r) : Quantifier q' i r := by
  cases h with
  | greedy h => exact .greedy _ _ (QuantifierPrefix.mono hq h)
  | lazy h => exact .lazy _ _ (QuantifierPrefix.mono hq h)

theorem Derives.mono {q q' : Nat → Nat → Prop} (hq : ∀ lo hi, q lo hi → q' lo hi) {N : Nat} {sym : Sym} {i r : Str}
    {a : Attr} (h : Derives q N sym i r a) : Derives q' N sym i r a := by
  induction h with
  | disjOne i r a _ ih => exact .disjOne i r a ih
  | disjMore i m r a₁ a₂ _ _ ih1 ih2 => exact .disjMore i m r a₁ a₂ ih1 ih2
  | altEmpty r => exact .altEmpty r
  | altSnoc i m r a₁ a₂ _ _ ih1 ih2 => exact .altSnoc i m r a₁ a₂ ih1 ih2
  | termAssertion i r a _ ih => exact .termAssertion i r a ih
  | termAtom i r a _ ih => exact .termAtom i r a ih
  | termQuantified i m r a _ hqq ih => exact .termQuantified i m r a ih (Quantifier.mono hq hqq)
  | caret r => exact .caret r
  | dollar r => exact .dollar r
  | wordBoundary r => exact .wordBoundary r
  | notWordBoundary r => exact .notWordBoundary r
  | lookahead i m r a hl _ ih => exact .lookahead i m r a hl ih
  | negativeLookahead i m r a hl _ ih => exact .negativeLookahead i m r a hl ih
  | lookbehind i m r a hl _ ih => exact .lookbehind i m r a hl ih
  | negativeLookbehind i m r a hl _ ih => exact .negativeLookbehind i m r a hl ih
  | patternCharacter x r hx => exact .patternCharacter x r hx
  | dot r => exact .dot r
  | atomEscape m r a h => exact .atomEscape m r a h
  | characterClass i r h => exact .characterClass i r h
  | group m₁ m₂ r name a hg _ ih => exact .group m₁ m₂ r name a hg ih
  | nonCapturing i m r a hl _ ih => exact .nonCapturing i m r a hl ih

/-- **soundness of the validator in Unicode mode** -/
theorem validatePattern_sound (fuel : Nat) (src : List Nat) (st s' : St) (hsrc : ∀ x ∈ src, x ≤ 0x10FFFF)
    (hlen : src.length < 2 ^ 62) (h : validatePattern fuel src true st = .ok () s') :
    ValidPatternWith qokModel src := by
  obtain ⟨a, hd, hnd, hrefs⟩ := validatePattern_sound_scan fuel src st s' hsrc hlen h
  have hcount := derives_scan hd 0
  rw [Nat.zero_add] at hcount
  have hN : scan src false false 0 = a.groups.length := hcount
  rw [hN] at hd
  exact ⟨hsrc, a, Derives.mono (fun lo hi h => (qokSat_iff lo hi).mp h) hd, hnd, hrefs⟩

/-- for quantifier bounds below `2^63 - 1` the implemented early error is the standard's -/
theorem qokModel_small {lo hi : Nat} (h : hi < 2 ^ 63 - 1) : qokModel lo hi ↔ lo ≤ hi := by
  unfold qokModel; omega

/-- the rule: a regular expression literal with the `u` flag that is NOT reported has a valid pattern -/
theorem checkRegex_u_sound (fuel : Nat) (pattern flags : List Nat) (st s' : St)
    (hu : flags.contains (ch 'u') = true) (hsrc : ∀ x ∈ pattern, x ≤ 0x10FFFF) (hlen : pattern.length < 2 ^ 62)
    (h : checkRegex fuel pattern flags st = .ok false s') : ValidPatternWith qokModel pattern := by
  have key : checkRegex fuel pattern flags st =
      (if checkForInvalidFlags flags = true then (pure true : M Bool) else
        checkForInvalidPattern fuel pattern (flags.contains (ch 'u'))) st := rfl
  rw [key] at h
  by_cases hf : checkForInvalidFlags flags = true
  · rw [if_pos hf] at h; cases h
  · rw [if_neg hf, hu] at h
    unfold checkForInvalidPattern at h
    cases hv : validatePattern fuel pattern true st with
    | ok u s1 =>
      cases u
      exact validatePattern_sound fuel pattern st s1 hsrc hlen hv
    | err _ _ => rw [hv] at h; cases h
    | panic _ _ => rw [hv] at h; cases h
    | outOfFuel _ => rw [hv] at h; cases h

/-! ### the documented deviation: `{lo,hi}` with numbers beyond `i64`

The standard: "It is a Syntax Error if the MV of the first DecimalDigits is strictly greater than the MV of the
second DecimalDigits."  The validator saturates both at `i64::MAX` before comparing, so this out-of-order quantifier
is accepted (V8 clamps at `kMaxInt` in the same way; engines accept it too). -/
theorem quantifier_saturation :
    verdict (chars! "a{99999999999999999999,99999999999999999998}") (chars! "u") = some false := by decide +kernel

/-! ### cross-checks of details of the specification against the model (verdict `true` = reported) -/
-- `\0` [lookahead ∉ DecimalDigit]; no legacy octal with `u`
example : verdict (chars! "\\0") (chars! "u") = some false := by decide +kernel
example : verdict (chars! "\\00") (chars! "u") = some true := by decide +kernel
-- DecimalEscape > NcapturingParens (the groups may come later)
example : verdict (chars! "\\1(a)") (chars! "u") = some false := by decide +kernel
example : verdict (chars! "\\2(a)") (chars! "u") = some true := by decide +kernel
-- named groups: dangling reference, duplicate names, escapes in names
example : verdict (chars! "\\k<a>(?<a>x)") (chars! "u") = some false := by decide +kernel
example : verdict (chars! "\\k<b>(?<a>x)") (chars! "u") = some true := by decide +kernel
example : verdict (chars! "(?<a>x)(?<a>y)") (chars! "u") = some true := by decide +kernel
example : verdict (chars! "(?<a\\u0062>x)\\k<ab>") (chars! "u") = some false := by decide +kernel
-- class ranges: out of order, class escape as an end, surrogate pairs are one code point
example : verdict (chars! "[z-a]") (chars! "u") = some true := by decide +kernel
example : verdict (chars! "[\\d-x]") (chars! "u") = some true := by decide +kernel
example : verdict (chars! "[a-]") (chars! "u") = some false := by decide +kernel
example : verdict (chars! "[\\uD83D\\uDE00-\\uD83D\\uDE01]") (chars! "u") = some false := by decide +kernel
example : verdict (chars! "[\\uD83D\\uDE01-\\uD83D\\uDE00]") (chars! "u") = some true := by decide +kernel
-- ClassEscape `-` only inside a class; IdentityEscape[+U] is SyntaxCharacter or `/`
example : verdict (chars! "[\\-]") (chars! "u") = some false := by decide +kernel
example : verdict (chars! "\\-") (chars! "u") = some true := by decide +kernel
example : verdict (chars! "\\/") (chars! "u") = some false := by decide +kernel
example : verdict (chars! "\\a") (chars! "u") = some true := by decide +kernel
-- `\u{…}` ≤ 0x10FFFF, property escapes
example : verdict (chars! "\\u{10FFFF}") (chars! "u") = some false := by decide +kernel
example : verdict (chars! "\\u{110000}") (chars! "u") = some true := by decide +kernel
example : verdict (chars! "\\p{Lu}\\p{Script=Greek}") (chars! "u") = some false := by decide +kernel
example : verdict (chars! "\\p{Foo}") (chars! "u") = some true := by decide +kernel
-- quantifiers: `{m,n}` order, nothing to repeat, assertions are not quantifiable with `u`
example : verdict (chars! "a{2,1}") (chars! "u") = some true := by decide +kernel
example : verdict (chars! "a{1,2}?") (chars! "u") = some false := by decide +kernel
example : verdict (chars! "a**") (chars! "u") = some true := by decide +kernel
example : verdict (chars! "(?=a)*") (chars! "u") = some true := by decide +kernel
example : verdict (chars! "(?<=a)b") (chars! "u") = some false := by decide +kernel
-- SyntaxCharacters are not PatternCharacters
example : verdict (chars! "a]") (chars! "u") = some true := by decide +kernel
example : verdict (chars! "a}") (chars! "u") = some true := by decide +kernel
example : verdict (chars! "a{") (chars! "u") = some true := by decide +kernel

end DL.Props.C12

#print axioms DL.Props.C12.validatePattern_sound
#print axioms DL.Props.C12.checkRegex_u_sound
