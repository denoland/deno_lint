import DL.Lemmas.RxBScanG
import DL.Props.C12Spec
import DL.Props.C12Fuel

/-!
# C12 (continued): the validator without the `u` flag is sound w.r.t. ES2022 + Annex B.1.2

`DL/Model/RegexSpecB.lean` is the pattern grammar for `[~UnicodeMode]` with the replacements of Annex B.1.2, over the
UTF-16 code units of the pattern, with the parameter `[NamedCaptureGroups]` (`nf`) and *ParsePattern*'s two passes.
B.1.2 makes the grammar ambiguous and resolves it by ordered choice ("each alternative is considered only if previous
production alternatives do not match"); the grammar carries the corresponding side conditions (marked
"ordered choice" there; what they exclude: `C12SpecBGap`).

**Proved**: if `validate_pattern(source, u_flag = false)` returns `Ok`, the pattern is valid according to that grammar
(`ValidPatternWith qokModel`: the `[~N]` parse exists, and the `[+N]` parse too if the pattern has a named group),
with `{lo,hi}` compared after saturation at `i64::MAX` as in Unicode mode.
The converse (completeness without the `u` flag) is `C12CompleteB`.
-/
namespace DL.Props.C12
open DL.Rx DL.RxSpec

theorem DerivesB.mono {nf : Bool} {q q' : Nat → Nat → Prop} (hq : ∀ lo hi, q lo hi → q' lo hi) {N : Nat}
    {sym : RxSpecB.Sym} {i r : Str} {a : Attr} (h : RxSpecB.Derives nf q N sym i r a) : RxSpecB.Derives nf q' N sym i r a := by
  induction h with
  | disjOne i r a _ ih => exact .disjOne i r a ih
  | disjMore i m r a₁ a₂ _ _ ih1 ih2 => exact .disjMore i m r a₁ a₂ ih1 ih2
  | altEmpty r => exact .altEmpty r
  | altSnoc i m r a₁ a₂ _ _ ih1 ih2 => exact .altSnoc i m r a₁ a₂ ih1 ih2
  | termQAssertionQuantified i m r a _ hqq ih => exact .termQAssertionQuantified i m r a ih (Quantifier.mono hq hqq)
  | termAssertion i r a _ ih => exact .termAssertion i r a ih
  | termAtomQuantified i m r a _ hqq hw ih => exact .termAtomQuantified i m r a ih (Quantifier.mono hq hqq) hw
  | termAtom i r a _ hw ih => exact .termAtom i r a ih hw
  | caret r => exact .caret r
  | dollar r => exact .dollar r
  | wordBoundary r => exact .wordBoundary r
  | notWordBoundary r => exact .notWordBoundary r
  | quantifiable i r a _ ih => exact .quantifiable i r a ih
  | lookbehind i m r a hl _ ih => exact .lookbehind i m r a hl ih
  | negativeLookbehind i m r a hl _ ih => exact .negativeLookbehind i m r a hl ih
  | lookahead i m r a hl _ ih => exact .lookahead i m r a hl ih
  | negativeLookahead i m r a hl _ ih => exact .negativeLookahead i m r a hl ih
  | dot r => exact .dot r
  | atomEscape m r a h => exact .atomEscape m r a h
  | backslashC r h => exact .backslashC r h
  | characterClass i r h => exact .characterClass i r h
  | group m₁ m₂ r name a hg _ ih => exact .group m₁ m₂ r name a hg ih
  | nonCapturing i m r a hl _ ih => exact .nonCapturing i m r a hl ih
  | extendedPatternCharacter x r hx hno => exact .extendedPatternCharacter x r hx hno

theorem parsesWith_of_scan {nf : Bool} {txt : List Nat} {a : Attr}
    (hd : RxSpecB.Derives nf qokSat (scan txt false false 0) .Disjunction txt [] a)
    (hnd : (groupNames a.groups).Nodup) (hrefs : ∀ x ∈ a.refs, x ∈ groupNames a.groups) :
    RxSpecB.ParsesWith nf qokModel txt a := by
  have hcount := derives_scanB hd 0
  rw [Nat.zero_add] at hcount
  have hN : scan txt false false 0 = a.groups.length := hcount
  rw [hN] at hd
  exact ⟨DerivesB.mono (fun lo hi h => (qokSat_iff lo hi).mp h) hd, hnd, hrefs⟩

/-- **soundness of the validator without the `u` flag** -/
theorem validatePattern_sound_nonU (fuel : Nat) (source : List Nat) (st s' : St)
    (hsrc : ∀ x ∈ source, x < 0x110000) (hlen : source.length < 2 ^ 61)
    (h : validatePattern fuel source false st = .ok () s') : RxSpecB.ValidPatternWith qokModel source := by
  have hunits : ∀ u ∈ encodeUtf16 source, u ≤ 0xFFFF := fun u hu => by
    have := encodeUtf16_units source hsrc u hu; omega
  have hl : (encodeUtf16 source).length < 2 ^ 62 := by
    have := encodeUtf16_length_le source; omega
  obtain ⟨a₀, hd0, hnd0, hrefs0, hN⟩ := validatePattern_soundB_scan fuel source st s' hunits hl h
  refine ⟨a₀, parsesWith_of_scan hd0 hnd0 hrefs0, fun hne => ?_⟩
  obtain ⟨a₁, hd1, hnd1, hrefs1⟩ := hN hne
  exact ⟨a₁, parsesWith_of_scan hd1 hnd1 hrefs1⟩

/-- the rule: a regular expression literal without the `u` flag that is NOT reported has a valid pattern -/
theorem checkRegex_nonU_sound (fuel : Nat) (pattern flags : List Nat) (st s' : St)
    (hu : flags.contains (ch 'u') = false) (hsrc : ∀ x ∈ pattern, x < 0x110000) (hlen : pattern.length < 2 ^ 61)
    (h : checkRegex fuel pattern flags st = .ok false s') : RxSpecB.ValidPatternWith qokModel pattern := by
  have key : checkRegex fuel pattern flags st =
      (if checkForInvalidFlags flags = true then (pure true : M Bool) else
        checkForInvalidPattern fuel pattern (flags.contains (ch 'u'))) st := rfl
  rw [key] at h
  by_cases hf : checkForInvalidFlags flags = true
  · rw [if_pos hf] at h; cases h
  · rw [if_neg hf, hu] at h
    unfold checkForInvalidPattern at h
    cases hv : validatePattern fuel pattern false st with
    | ok u s1 =>
      cases u
      exact validatePattern_sound_nonU fuel pattern st s1 hsrc hlen hv
    | err _ _ => rw [hv] at h; cases h
    | panic _ _ => rw [hv] at h; cases h
    | outOfFuel _ => rw [hv] at h; cases h

#print axioms validatePattern_sound_nonU
#print axioms checkRegex_nonU_sound

/-! ### cross-checks of the Annex B grammar against the model (verdict `true` = reported), no flags -/
-- DecimalEscape only if ≤ NcapturingParens, otherwise a legacy octal / identity escape
example : verdict (chars! "\\1") [] = some false := by decide +kernel
example : verdict (chars! "\\8") [] = some false := by decide +kernel
example : verdict (chars! "\\2(a)") [] = some false := by decide +kernel
example : verdict (chars! "\\00") [] = some false := by decide +kernel
example : verdict (chars! "\\08") [] = some false := by decide +kernel
example : verdict (chars! "\\377") [] = some false := by decide +kernel
example : verdict (chars! "\\400") [] = some false := by decide +kernel
-- `\c` without a control letter, `\x`, `\u` without digits: the backslash or the letter stands for itself
example : verdict (chars! "\\c") [] = some false := by decide +kernel
example : verdict (chars! "\\x4") [] = some false := by decide +kernel
example : verdict (chars! "\\u{41}") [] = some false := by decide +kernel
example : verdict (chars! "\\p{L}") [] = some false := by decide +kernel
-- `\k`: an identity escape under `[~N]`, a named reference under `[+N]` (= the pattern has a named group)
example : verdict (chars! "\\k") [] = some false := by decide +kernel
example : verdict (chars! "\\k<a>") [] = some false := by decide +kernel
example : verdict (chars! "\\k(?<a>x)") [] = some true := by decide +kernel
example : verdict (chars! "(?<a>x)\\k<a>") [] = some false := by decide +kernel
example : verdict (chars! "(?<a>x)\\k<b>") [] = some true := by decide +kernel
example : verdict (chars! "(?<a>x)[\\k]") [] = some true := by decide +kernel
example : verdict (chars! "[\\k]") [] = some false := by decide +kernel
-- braces and brackets as ordinary characters; `InvalidBracedQuantifier`
example : verdict (chars! "a{1") [] = some false := by decide +kernel
example : verdict (chars! "a{") [] = some false := by decide +kernel
example : verdict (chars! "{") [] = some false := by decide +kernel
example : verdict (chars! "}") [] = some false := by decide +kernel
example : verdict (chars! "]") [] = some false := by decide +kernel
example : verdict (chars! "{1}") [] = some true := by decide +kernel
example : verdict (chars! "x{1}{2}") [] = some true := by decide +kernel
example : verdict (chars! "a{2,1}") [] = some true := by decide +kernel
-- quantifiable assertions
example : verdict (chars! "(?=a)*") [] = some false := by decide +kernel
example : verdict (chars! "(?=a){2}") [] = some false := by decide +kernel
example : verdict (chars! "(?<=a)*") [] = some true := by decide +kernel
example : verdict (chars! "^*") [] = some true := by decide +kernel
example : verdict (chars! "a**") [] = some true := by decide +kernel
-- classes: a class escape may be an end of a range; `\c` + digit / `_`; `\` before `c`
example : verdict (chars! "[\\d-x]") [] = some false := by decide +kernel
example : verdict (chars! "[z-a]") [] = some true := by decide +kernel
example : verdict (chars! "[\\c1]") [] = some false := by decide +kernel
example : verdict (chars! "[\\c]") [] = some false := by decide +kernel
example : verdict (chars! "[\\b-\\n]") [] = some false := by decide +kernel
example : verdict (chars! "[\\]") [] = some true := by decide +kernel
-- a group name may contain an astral character (a surrogate pair of code units) also without `u`
example : verdict (chars! "(?<𝒜>x)") [] = some false := by decide +kernel
-- unbalanced
example : verdict (chars! "[a") [] = some true := by decide +kernel
example : verdict (chars! "a)") [] = some true := by decide +kernel
example : verdict (chars! "\\") [] = some true := by decide +kernel

end DL.Props.C12
