import DL.Lemmas.Imp
import DL.Lemmas.ImpWheres
import DL.Lemmas.Rounds
/-!
# C13 for the import fixes of `no-node-globals` / `no-process-global`

On the model `DL/Model/ImportFix.lean`: a fix placed at a `Safe` position (`DL/Lemmas/Imp.lean`; decidable by
`DL/Lemmas/ImpWheres.lean`) removes the reports about the fixed name and moves the others with their lines
(`kept_applyFix`), the positions the rules compute are safe on a well-formed file (`wheres_safe`), so the offered fix leaves
strictly fewer reports (`real_fix_strictly_fewer`) and repairing terminates.  That `Safe` cannot be dropped from
`kept_applyFix`, `fix_strictly_fewer` and `others_stay` is shown by `separating_placement_brings_report_back`.

Every theorem is followed by its instance on the concrete files `fA` / `fU`, evaluated by the kernel.
-/
namespace DL.Imp

/-- line 0: a directive naming the rule; line 1 (the first token, `first = 1`): a reference to 1, covered by the
directive; line 2: an import that ends its line; line 3: a reference to 2; line 4: an import followed on its line by
references to 3 and to 2 -/
def fA : File :=
  [⟨true, true, []⟩, ⟨false, false, [.ref 1]⟩, ⟨false, false, [.imp true]⟩, ⟨false, false, [.ref 2]⟩,
   ⟨false, false, [.imp false, .ref 3, .ref 2]⟩]

/-- line 0: a shebang (`first = 1`); line 1: a reference to 7 -/
def fB : File := [⟨false, false, []⟩, ⟨false, false, [.ref 7]⟩]

/-- line 0: a directive naming the rule; line 1: a reference to 1 (covered); line 2: a reference to 2 (reported) -/
def fU : File := [⟨true, true, []⟩, ⟨false, false, [.ref 1]⟩, ⟨false, false, [.ref 2]⟩]

theorem kept_applyFix (f : File) (g : Name) (w : Where) (h : Safe f w) :
    kept (applyFix f g w) = ((kept f).filter (fun d => d.2 != g)).map (shiftBy w) := by
  cases w with
  | sameLine =>
    show kept (dropName f g) = _
    rw [kept_dropName]
    have : shiftBy Where.sameLine = id := by funext d; rfl
    rw [this, List.map_id]
  | newLineAt k =>
    show kept (insertLine (dropName f g) k) = _
    rw [kept_insertLine _ k (Safe_dropName g h), kept_dropName]

example : Safe fA (.newLineAt 3) ∧ kept fA = [(3, 2), (4, 3), (4, 2)] ∧
    kept (applyFix fA 2 (.newLineAt 3)) = [(5, 3)] := by decide +kernel

theorem wheres_length (f : File) (first : Nat) : (wheres f first).length = (raw f).length :=
  wheresFrom_length f first 0 none f

example : (wheres fA 1).length = 4 ∧ (raw fA).length = 4 := by decide +kernel

theorem wheres_safe (f : File) (first : Nat) (hwf : WF f first) : ∀ w ∈ wheres f first, Safe f w :=
  fun _ hw => mem_wheres_safe hwf hw

theorem fA_wf : WF fA 1 := WF_of_wfB (by decide)

theorem fB_wf : WF fB 1 := WF_of_wfB (by decide)

example : wheres fA 1 ≠ [] ∧ ∀ w ∈ wheres fA 1, Safe fA w := ⟨by decide, wheres_safe fA 1 fA_wf⟩

example : wheres fA 1 ≠ [] ∧ wfB fA 1 = true ∧ ∀ w ∈ wheres fA 1, Safe fA w := by decide +kernel

theorem fixed_gone (f : File) (g : Name) (w : Where) : ∀ d ∈ kept (applyFix f g w), d.2 ≠ g := by
  intro d hd
  have hraw : d.2 ∈ (raw (dropName f g)).map Prod.snd := by
    cases w with
    | sameLine => exact List.mem_map_of_mem (List.mem_filter.mp hd).1
    | newLineAt k => exact snd_raw_insertLine _ k ▸ List.mem_map_of_mem (List.mem_filter.mp hd).1
  obtain ⟨d', hd', he⟩ := List.mem_map.mp hraw
  exact he ▸ ne_of_mem_raw_dropName hd'

example : kept (applyFix fA 2 (.newLineAt 3)) = [(5, 3)] ∧ kept (applyFix fU 2 (.newLineAt 1)) = [(2, 1)] ∧
    kept (applyFix fA 3 (.newLineAt 9)) = [(3, 2), (4, 2)] := by decide +kernel

theorem fix_strictly_fewer (f : File) (g : Name) (w : Where) (h : Safe f w) (l : Nat) (hd : (l, g) ∈ kept f) :
    (kept (applyFix f g w)).length < (kept f).length := by
  rw [kept_applyFix f g w h, List.length_map, List.length_filter_lt_length_iff_exists]
  exact ⟨(l, g), hd, by simp⟩

example : (3, 2) ∈ kept fA ∧ Safe fA (.newLineAt 3) ∧
    (kept (applyFix fA 2 (.newLineAt 3))).length = 1 ∧ (kept fA).length = 3 := by decide +kernel

theorem others_stay (f : File) (g : Name) (w : Where) (h : Safe f w) (n : Name) (hn : n ≠ g) :
    ((kept (applyFix f g w)).filter (fun d => d.2 == n)).length = ((kept f).filter (fun d => d.2 == n)).length := by
  rw [kept_applyFix f g w h, List.filter_map, List.length_map, List.filter_filter]
  congr 1
  apply List.filter_congr
  intro d _
  have hs : (shiftBy w d).2 = d.2 := by
    cases w <;> rfl
  simp only [Function.comp, hs]
  by_cases hdn : d.2 = n
  · have : d.2 ≠ g := fun h => hn (hdn ▸ h)
    simp [hdn, hn]
  · simp [hdn]

example : Safe fA (.newLineAt 3) ∧ (3 : Name) ≠ 2 ∧
    ((kept (applyFix fA 2 (.newLineAt 3))).filter (fun d => d.2 == 3)).length = 1 ∧
    ((kept fA).filter (fun d => d.2 == 3)).length = 1 := by decide +kernel

/-- **C13** for the two rules: the fix the rule offers for a reported diagnostic leaves strictly fewer reports -/
theorem real_fix_strictly_fewer (f : File) (first : Nat) (hwf : WF f first) (i : Nat) (hi : i < (raw f).length)
    (hk : (raw f)[i] ∈ kept f) :
    (kept (applyFix f ((raw f)[i]).2 ((wheres f first)[i]'(by rw [wheres_length]; exact hi)))).length
      < (kept f).length :=
  fix_strictly_fewer f ((raw f)[i]).2 _ (wheres_safe f first hwf _ (List.getElem_mem _)) ((raw f)[i]).1 hk

/-- on `fA` (well-formed: `fA_wf`), for the reported diagnostic number 1 of `raw`: the offered position is a new line
3 (after the import that ends line 2), and 1 report is left of 3 -/
example : (1 : Nat) < (raw fA).length ∧ (raw fA)[1]? = some (3, 2) ∧ (3, 2) ∈ kept fA ∧
    (wheres fA 1)[1]? = some (.newLineAt 3) ∧
    (kept (applyFix fA 2 (.newLineAt 3))).length = 1 ∧ (kept fA).length = 3 := by decide +kernel

example : (kept (applyFix fA ((raw fA)[1]'(by decide)).2 ((wheres fA 1)[1]'(by decide)))).length < (kept fA).length :=
  real_fix_strictly_fewer fA 1 fA_wf 1 (by decide) (by decide)

/-- one repair round: fix the first report at some safe placement chosen by `pick` -/
def repairStep (pick : File → Where) (f : File) : File :=
  match kept f with
  | [] => f
  | d :: _ => applyFix f d.2 (pick f)

def repairN (pick : File → Where) : Nat → File → File
  | 0, f => f
  | n + 1, f => repairN pick n (repairStep pick f)

theorem repair_terminates (pick : File → Where) (hp : ∀ f, Safe f (pick f)) (f : File) :
    kept (repairN pick (kept f).length f) = [] := by
  refine List.eq_nil_of_length_eq_zero (Rounds.iterate_reaches_zero (repairStep pick) (repairN pick) (fun _ => rfl)
    (fun _ _ => rfl) (fun _ => True) (fun f => (kept f).length) (fun _ _ => trivial) ?_ ?_ _ f trivial (Nat.le_refl _))
  · intro f _ hne
    unfold repairStep
    split
    · next hk => rw [hk] at hne; exact absurd rfl hne
    · next d ds hk => exact fix_strictly_fewer f d.2 (pick f) (hp f) d.1 (hk ▸ List.mem_cons_self)
  · intro f hz
    unfold repairStep
    rw [List.eq_nil_of_length_eq_zero hz]

example : (kept fA).length = 3 ∧ kept (repairN (fun _ => .sameLine) (kept fA).length fA) = [] ∧
    kept (repairN (fun _ => .sameLine) 1 fA) ≠ [] ∧
    kept (repairN (fun _ => .newLineAt 0) (kept fA).length fA) = [] := by decide +kernel

/-- A separating `newLineAt k` between a directive and the references it covers makes a suppressed report come back:
on `fU` the only report is `(2, 2)`; the fix for name 2 placed on a new line 1 (between the directive on line 0 and the
reference to 1 it covers) removes that report but brings back the report about name 1 — `kept` is not shorter, and the
equation of `kept_applyFix` fails.  (So `Safe` cannot be dropped from `kept_applyFix` and `fix_strictly_fewer`.) -/
theorem separating_placement_brings_report_back :
    ¬ Safe fU (.newLineAt 1) ∧
    kept fU = [(2, 2)] ∧
    kept (applyFix fU 2 (.newLineAt 1)) = [(2, 1)] ∧
    ¬ (kept (applyFix fU 2 (.newLineAt 1))).length < (kept fU).length ∧
    kept (applyFix fU 2 (.newLineAt 1)) ≠ ((kept fU).filter (fun d => d.2 != 2)).map (shiftBy (.newLineAt 1)) := by
  decide

/-- the same file, the positions the rule offers (`first = 0`): a new line 0, above the directive — safe, and the fix
works -/
example : wheres fU 0 = [.newLineAt 0, .newLineAt 0] ∧ Safe fU (.newLineAt 0) ∧
    kept (applyFix fU 2 (.newLineAt 0)) = [] := by decide +kernel

/-- `wheres` on `fA` (`first = 1`, a line directive directly above the first token line): the reference before any
import goes to `codeStart = first - 1 = 0`; the reference after the import that ends line 2 to a new line 3; the
references after the import in the middle of line 4 onto that line -/
theorem wheres_fA : wheres fA 1 = [.newLineAt 0, .newLineAt 3, .sameLine, .sameLine] ∧ codeStart fA 1 = 0 := by
  decide

/-- `wheres` on `fB` (no directive above the first token): a reference before any import goes to a new line `first` -/
theorem wheres_fB : wheres fB 1 = [.newLineAt 1] ∧ codeStart fB 1 = 1 ∧ kept (applyFix fB 7 (.newLineAt 1)) = [] := by
  decide

end DL.Imp
