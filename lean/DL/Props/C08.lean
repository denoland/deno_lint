import DL.Model.Trav
import DL.Gen.VisitTable
import DL.Gen.StopCalls

/-!
# C08 — syntactic rules report every occurrence exactly once, at any nesting (the traversal mechanism)

For **all** trees, contexts (any depth) and override tables.
-/
namespace DL.Props.C08
open DL.Trav

/-! ## swc `Visit` -/
mutual
/-- with no skipping override every node is visited exactly once, in pre-order -/
theorem visited_all (t : Table) (ht : ∀ k, t k = .recurse) : ∀ n : Node, n.visited t = n.preorder
  | .mk k i cs => by simp [Node.visited, Node.preorder, ht k, visiteds_all t ht cs]
theorem visiteds_all (t : Table) (ht : ∀ k, t k = .recurse) : ∀ ns : Nodes, ns.visited t = ns.preorder
  | .nil => rfl
  | .cons n r => by simp [Nodes.visited, Nodes.preorder, visited_all t ht n, visiteds_all t ht r]
end

theorem diags_append (D : Type) (t : Table) (rule : Rule D) : ∀ (l r : Nodes),
    (l.append r).diags t rule = l.diags t rule ++ r.diags t rule
  | .nil, r => rfl
  | .cons n l, r => by simp [Nodes.append, Nodes.diags, diags_append D t rule l r, List.append_assoc]

/-- **embedding invariance**: if no kind on the path from the root to the hole has a skipping override, and the rule's
verdict on the context nodes does not depend on what sits in the hole (the context is syntactically neutral for the
rule), then embedding a construct `e` neither hides its diagnostics nor creates new ones: the diagnostics of
`ctx[e]` are those of `ctx[neutral]` with the diagnostics of `e` in place of those of `neutral` -/
theorem embedding_invariance {D : Type} (t : Table) (rule : Rule D) (e neutral : Node) :
    ∀ (c : Ctx), (∀ k ∈ c.pathKinds, t k = .recurse) →
      (∀ c' : Ctx, rule (c'.plug e) = rule (c'.plug neutral) ∨ c' = .hole) →
      ∃ pre post, (c.plug e).diags t rule = pre ++ e.diags t rule ++ post ∧
                  (c.plug neutral).diags t rule = pre ++ neutral.diags t rule ++ post
  | .hole, _, _ => ⟨[], [], by simp [Ctx.plug], by simp [Ctx.plug]⟩
  | .node k i l c r, hp, hn => by
    have hk : t k = .recurse := hp k (by simp [Ctx.pathKinds])
    obtain ⟨pre, post, h1, h2⟩ := embedding_invariance t rule e neutral c
      (fun k' hk' => hp k' (by simp [Ctx.pathKinds, hk'])) hn
    have hr : rule ((Ctx.node k i l c r).plug e) = rule ((Ctx.node k i l c r).plug neutral) := by
      rcases hn (.node k i l c r) with h | h
      · exact h
      · cases h
    refine ⟨rule ((Ctx.node k i l c r).plug neutral) ++ l.diags t rule ++ pre, post ++ r.diags t rule, ?_, ?_⟩
    · rw [← hr]
      simp only [Ctx.plug, Node.diags, hk, diags_append, Nodes.diags, h1, List.append_assoc]
    · simp only [Ctx.plug, Node.diags, hk, diags_append, Nodes.diags, h2, List.append_assoc]

/-- conversely a skipping override on the path hides everything below it -/
theorem skipped_hides {D : Type} (t : Table) (rule : Rule D) (k i : Nat) (cs : Nodes) (h : t k = .skip) :
    (Node.mk k i cs).diags t rule = rule (.mk k i cs) := by
  simp [Node.diags, h]

/-! ## `Handler` / `Traverse` -/
mutual
/-- a handler that requests a stop only while entering a node (never in `on_exit_node`) can never trip
`assert_traverse_init`, and leaves the flag clear — for every tree -/
theorem traverse_ok (h : Handler) (hx : ∀ k i, h.stopOnExit k i = false) :
    ∀ (n : Node) (s : TSt), s.flag = false → s.panicked = false →
      (n.traverse h s).flag = false ∧ (n.traverse h s).panicked = false
  | .mk k i cs, s, hf, hp => by
    simp only [Node.traverse, hp, hf, Bool.false_eq_true, if_false]
    by_cases he : h.stopOnEnter k i = true
    · simp [he, hx]
    · simp only [he, Bool.false_eq_true, if_false]
      have := traverses_ok h hx cs { s with handled := s.handled ++ [i], flag := false } rfl hp
      rw [hp] at this
      simp [this.1, this.2, hx]
theorem traverses_ok (h : Handler) (hx : ∀ k i, h.stopOnExit k i = false) :
    ∀ (ns : Nodes) (s : TSt), s.flag = false → s.panicked = false →
      (ns.traverse h s).flag = false ∧ (ns.traverse h s).panicked = false
  | .nil, s, hf, hp => ⟨hf, hp⟩
  | .cons n r, s, hf, hp => by
    have h1 := traverse_ok h hx n s hf hp
    exact traverses_ok h hx r (n.traverse h s) h1.1 h1.2
end

/-- …hence any sequence of rules sharing one `Context` (one flag) never panics on the flag -/
theorem rules_sequence_ok (hs : List Handler) (hx : ∀ h ∈ hs, ∀ k i, h.stopOnExit k i = false) (n : Node) :
    let final := hs.foldl (fun s h => n.traverse h s) {}
    final.flag = false ∧ final.panicked = false := by
  suffices ∀ (s : TSt), s.flag = false → s.panicked = false →
      (hs.foldl (fun s h => n.traverse h s) s).flag = false ∧ (hs.foldl (fun s h => n.traverse h s) s).panicked = false from
    this {} rfl rfl
  induction hs with
  | nil => intro s hf hp; exact ⟨hf, hp⟩
  | cons h r ih =>
    intro s hf hp
    have h1 := traverse_ok h (hx h (by simp)) n s hf hp
    exact ih (fun h' hh => hx h' (by simp [hh])) _ h1.1 h1.2

/-- a handler that requests a stop in `on_exit_node` does trip the assertion on the next node (why the premise matters) -/
example : ((Nodes.cons (.mk 0 0 .nil) (.cons (.mk 0 1 .nil) .nil)).traverse
    { stopOnEnter := fun _ _ => false, stopOnExit := fun _ _ => true } {}).panicked = true := by decide

/-! ## the real visitors (tables regenerated from /repo by syn on every run) -/
open DL.Gen

/-- no rule calls `stop_traverse` from `on_exit_node` (or `on_enter_node`): every call site is a kind-specific handler -/
theorem stop_calls_only_in_kind_handlers :
    ∀ c ∈ stopTraverseCalls, c.2 ≠ "on_exit_node" ∧ c.2 ≠ "on_enter_node" := by decide +kernel

/-- the reviewed list of overrides that do not recurse on every path (leaf-like nodes, visitors that drive their own
traversal such as the control-flow analyzer and the scope-tracking rules).  Every other override always recurses.  A
change to any visitor that makes a path skip its children changes the regenerated table and breaks this `decide`. -/
def reviewedNotAlways : List (String × String × String × String) := [
  ("src/control_flow/mod.rs", "Analyzer", "visit_break_stmt", "never"),
  ("src/control_flow/mod.rs", "Analyzer", "visit_continue_stmt", "never"),
  ("src/control_flow/mod.rs", "Analyzer", "visit_stmts", "sometimes"),
  ("src/control_flow/mod.rs", "Analyzer", "visit_member_expr", "sometimes"),
  ("src/control_flow/mod.rs", "Analyzer", "visit_switch_case", "sometimes"),
  ("src/control_flow/mod.rs", "Analyzer", "visit_if_stmt", "sometimes"),
  ("src/control_flow/mod.rs", "Analyzer", "visit_for_stmt", "sometimes"),
  ("src/control_flow/mod.rs", "Analyzer", "visit_for_of_stmt", "sometimes"),
  ("src/control_flow/mod.rs", "Analyzer", "visit_for_in_stmt", "sometimes"),
  ("src/control_flow/mod.rs", "Analyzer", "visit_while_stmt", "sometimes"),
  ("src/control_flow/mod.rs", "Analyzer", "visit_do_while_stmt", "sometimes"),
  ("src/control_flow/mod.rs", "Analyzer", "visit_try_stmt", "sometimes"),
  ("src/control_flow/mod.rs", "Analyzer", "visit_labeled_stmt", "sometimes"),
  ("src/rules/no_fallthrough.rs", "NoFallthroughVisitor", "visit_switch_cases", "sometimes"),
  ("src/rules/no_import_assign.rs", "NoImportAssignVisitor", "visit_pat", "sometimes"),
  ("src/rules/no_import_assign.rs", "NoImportAssignVisitor", "visit_rest_pat", "sometimes"),
  ("src/rules/no_import_assign.rs", "NoImportAssignVisitor", "visit_assign_expr", "sometimes"),
  ("src/rules/no_import_assign.rs", "NoImportAssignVisitor", "visit_update_expr", "never"),
  ("src/rules/no_import_assign.rs", "NoImportAssignVisitor", "visit_unary_expr", "sometimes"),
  ("src/rules/no_inferrable_types.rs", "NoInferrableTypesVisitor", "visit_class_prop", "sometimes"),
  ("src/rules/no_inferrable_types.rs", "NoInferrableTypesVisitor", "visit_private_prop", "sometimes"),
  ("src/rules/no_invalid_regexp.rs", "NoInvalidRegexpVisitor", "visit_regex", "never"),
  ("src/rules/no_redeclare.rs", "NoRedeclareVisitor", "visit_fn_decl", "sometimes"),
  ("src/rules/no_redeclare.rs", "NoRedeclareVisitor", "visit_class_prop", "sometimes"),
  ("src/rules/no_undef.rs", "NoUndefVisitor", "visit_member_expr", "sometimes"),
  ("src/rules/no_undef.rs", "NoUndefVisitor", "visit_unary_expr", "sometimes"),
  ("src/rules/no_undef.rs", "NoUndefVisitor", "visit_class_prop", "sometimes"),
  ("src/rules/no_undef.rs", "NoUndefVisitor", "visit_pat", "sometimes"),
  ("src/rules/no_undef.rs", "NoUndefVisitor", "visit_simple_assign_target", "sometimes"),
  ("src/rules/no_undef.rs", "NoUndefVisitor", "visit_assign_pat_prop", "sometimes"),
  ("src/rules/no_undef.rs", "NoUndefVisitor", "visit_call_expr", "sometimes"),
  ("src/rules/no_unused_vars.rs", "Collector", "visit_class_prop", "sometimes"),
  ("src/rules/no_unused_vars.rs", "Collector", "visit_ts_property_signature", "sometimes"),
  ("src/rules/no_unused_vars.rs", "Collector", "visit_ts_type_ref", "sometimes"),
  ("src/rules/no_unused_vars.rs", "Collector", "visit_prop", "sometimes"),
  ("src/rules/no_unused_vars.rs", "Collector", "visit_prop_name", "sometimes"),
  ("src/rules/no_unused_vars.rs", "Collector", "visit_expr", "sometimes"),
  ("src/rules/no_unused_vars.rs", "Collector", "visit_jsx_element_name", "sometimes"),
  ("src/rules/no_unused_vars.rs", "Collector", "visit_jsx_object", "sometimes"),
  ("src/rules/no_unused_vars.rs", "Collector", "visit_simple_assign_target", "sometimes"),
  ("src/rules/no_unused_vars.rs", "Collector", "visit_assign_expr", "sometimes"),
  ("src/rules/no_unused_vars.rs", "Collector", "visit_pat", "sometimes"),
  ("src/rules/no_unused_vars.rs", "Collector", "visit_member_expr", "sometimes"),
  ("src/rules/no_unused_vars.rs", "Collector", "visit_export_named_specifier", "never"),
  ("src/rules/no_unused_vars.rs", "Collector", "visit_fn_decl", "sometimes"),
  ("src/rules/no_unused_vars.rs", "Collector", "visit_fn_expr", "sometimes"),
  ("src/rules/no_unused_vars.rs", "Collector", "visit_class_decl", "sometimes"),
  ("src/rules/no_unused_vars.rs", "Collector", "visit_ts_interface_decl", "sometimes"),
  ("src/rules/no_unused_vars.rs", "Collector", "visit_ts_type_alias_decl", "sometimes"),
  ("src/rules/no_unused_vars.rs", "Collector", "visit_ts_enum_decl", "sometimes"),
  ("src/rules/no_unused_vars.rs", "Collector", "visit_var_declarator", "sometimes"),
  ("src/rules/no_unused_vars.rs", "Collector", "visit_ts_import_equals_decl", "never"),
  ("src/rules/no_unused_vars.rs", "NoUnusedVarVisitor", "visit_arrow_expr", "sometimes"),
  ("src/rules/no_unused_vars.rs", "NoUnusedVarVisitor", "visit_fn_decl", "sometimes"),
  ("src/rules/no_unused_vars.rs", "NoUnusedVarVisitor", "visit_var_decl", "sometimes"),
  ("src/rules/no_unused_vars.rs", "NoUnusedVarVisitor", "visit_var_declarator", "sometimes"),
  ("src/rules/no_unused_vars.rs", "NoUnusedVarVisitor", "visit_class_decl", "sometimes"),
  ("src/rules/no_unused_vars.rs", "NoUnusedVarVisitor", "visit_catch_clause", "sometimes"),
  ("src/rules/no_unused_vars.rs", "NoUnusedVarVisitor", "visit_setter_prop", "sometimes"),
  ("src/rules/no_unused_vars.rs", "NoUnusedVarVisitor", "visit_constructor", "sometimes"),
  ("src/rules/no_unused_vars.rs", "NoUnusedVarVisitor", "visit_class_method", "sometimes"),
  ("src/rules/no_unused_vars.rs", "NoUnusedVarVisitor", "visit_private_method", "sometimes"),
  ("src/rules/no_unused_vars.rs", "NoUnusedVarVisitor", "visit_import_named_specifier", "never"),
  ("src/rules/no_unused_vars.rs", "NoUnusedVarVisitor", "visit_import_default_specifier", "never"),
  ("src/rules/no_unused_vars.rs", "NoUnusedVarVisitor", "visit_import_star_as_specifier", "never"),
  ("src/rules/no_unused_vars.rs", "NoUnusedVarVisitor", "visit_ts_import_equals_decl", "never"),
  ("src/rules/no_unused_vars.rs", "NoUnusedVarVisitor", "visit_export_decl", "sometimes"),
  ("src/rules/no_unused_vars.rs", "NoUnusedVarVisitor", "visit_export_default_decl", "sometimes"),
  ("src/rules/no_unused_vars.rs", "NoUnusedVarVisitor", "visit_params", "sometimes"),
  ("src/rules/no_unused_vars.rs", "NoUnusedVarVisitor", "visit_ts_enum_decl", "never"),
  ("src/rules/no_unused_vars.rs", "NoUnusedVarVisitor", "visit_ts_module_decl", "sometimes"),
  ("src/rules/no_unused_vars.rs", "NoUnusedVarVisitor", "visit_ts_namespace_decl", "sometimes"),
  ("src/rules/no_unused_vars.rs", "NoUnusedVarVisitor", "visit_named_export", "never"),
  ("src/rules/prefer_const.rs", "VariableCollector", "visit_function", "sometimes"),
  ("src/rules/prefer_const.rs", "VariableCollector", "visit_arrow_expr", "sometimes"),
  ("src/rules/prefer_const.rs", "VariableCollector", "visit_for_stmt", "sometimes"),
  ("src/rules/prefer_const.rs", "VariableCollector", "visit_class", "sometimes"),
  ("src/rules/prefer_const.rs", "VariableCollector", "visit_constructor", "sometimes"),
  ("src/rules/prefer_const.rs", "PreferConstVisitor", "visit_expr_stmt", "sometimes"),
  ("src/rules/prefer_const.rs", "PreferConstVisitor", "visit_update_expr", "sometimes"),
  ("src/rules/prefer_const.rs", "PreferConstVisitor", "visit_function", "sometimes"),
  ("src/rules/prefer_const.rs", "PreferConstVisitor", "visit_arrow_expr", "sometimes"),
  ("src/rules/prefer_const.rs", "PreferConstVisitor", "visit_class", "sometimes"),
  ("src/rules/prefer_const.rs", "PreferConstVisitor", "visit_constructor", "sometimes"),
  ("src/rules/verbatim_module_syntax.rs", "IdCollector", "visit_ident", "never"),
  ("src/rules/verbatim_module_syntax.rs", "IdCollector", "visit_binding_ident", "never"),
  ("src/rules/verbatim_module_syntax.rs", "IdCollector", "visit_import_decl", "sometimes"),
  ("src/rules/verbatim_module_syntax.rs", "IdCollector", "visit_import_specifier", "never"),
  ("src/rules/verbatim_module_syntax.rs", "IdCollector", "visit_ts_import_equals_decl", "sometimes"),
  ("src/rules/verbatim_module_syntax.rs", "IdCollector", "visit_export_named_specifier", "never"),
  ("src/rules/verbatim_module_syntax.rs", "IdCollector", "visit_named_export", "sometimes"),
  ("src/rules/verbatim_module_syntax.rs", "IdCollector", "visit_jsx_element_name", "sometimes")
]

theorem visit_overrides_as_reviewed : visitNotAlways = reviewedNotAlways := rfl

end DL.Props.C08
