import DL.Props.C12CompleteB
import DL.Props.C12

/-!
# C12: what the ordered choice of Annex B.1.2 excludes

Annex B.1.2 says that its grammar is ambiguous and that "each alternative is considered only if previous production
alternatives do not match" (ordered choice).  `DL/Model/RegexSpecB.lean` encodes that ordering by the side conditions
marked "ordered choice": e.g. without them `IdentityEscape[~U]` would apply to every character other than `c` (`k`), also
where `0`, a hex / unicode / legacy octal escape or a `ControlEscape` matches.  The reading matters for one early error,
the order of the ends of a class range, and for `\b` / `\B` followed by a quantifier.

`[\1-\0]`: the validator (like an engine) reads `\1` as the legacy octal escape U+0001 and `\0` as U+0000 and reports
"Range out of order".  Read without the ordering the same text also has the derivation `\1` = U+0001, `\0` = the
identity escape of `0` = U+0030, which has no early error.  With the side conditions this and the other witnesses below
are **not** derivable — proved from `checkRegex_nonU_iff` (the validator decides the grammar) and the verdicts.
-/
namespace DL.Props.C12
open DL.Rx DL.RxSpec

/-- the validator reports it … -/
theorem gap_verdict : verdict (chars! "[\\1-\\0]") [] = some true := by decide +kernel

/-- a pattern (short enough for the fuel of `verdict`) that the validator reports without flags is not derivable -/
theorem not_valid_of_verdict (p : List Char) (hv : verdict p [] = some true)
    (hsrc : ∀ x ∈ strOf p, x < 0x110000) (hlen : fuelBound (strOf p).length ≤ 300) :
    ¬RxSpecB.ValidPatternWith qokModel (strOf p) := by
  intro h
  have hl : (strOf p).length < 2 ^ 61 := by
    unfold fuelBound at hlen; omega
  obtain ⟨b, s', he, hiff⟩ := checkRegex_nonU_iff 300 (strOf p) (strOf []) St.new (by decide) (by decide) hsrc hl hlen
  have hb := hiff.mpr h
  subst hb
  unfold verdict at hv
  rw [he] at hv
  cases hv

/-- … and the corrected grammar does not derive it (the unordered one did) -/
theorem gap_not_derivable : ¬RxSpecB.ValidPatternWith qokModel (strOf (chars! "[\\1-\\0]")) :=
  not_valid_of_verdict _ gap_verdict (by decide) (by decide)

/-- in particular the step of the old derivation is gone: `0` after `\` is no identity escape, because the earlier
alternatives `\0` / `LegacyOctalEscapeSequence` start there (the new side condition of `CharacterEscape.identity`) -/
theorem identity_zero_gone (r : List Nat) : ¬RxSpecB.EarlierEscapeFree (c '0') r :=
  fun h => h.2.1 (show c '0' ≤ c '0' ∧ c '0' ≤ c '7' by decide)

/-- the other witnesses of the gap: each is reported, so none is derivable any more -/
theorem gap_control_escape : ¬RxSpecB.ValidPatternWith qokModel (strOf (chars! "[\\n-\\t]")) :=
  not_valid_of_verdict _ (by decide +kernel) (by decide) (by decide)   -- identity `n`,`t` vs ControlEscape
theorem gap_hex : ¬RxSpecB.ValidPatternWith qokModel (strOf (chars! "[a-\\x41]")) :=
  not_valid_of_verdict _ (by decide +kernel) (by decide) (by decide)   -- identity `x` vs HexEscapeSequence
theorem gap_unicode : ¬RxSpecB.ValidPatternWith qokModel (strOf (chars! "[a-\\u0041]")) :=
  not_valid_of_verdict _ (by decide +kernel) (by decide) (by decide)   -- identity `u` vs `A`
theorem gap_control_letter : ¬RxSpecB.ValidPatternWith qokModel (strOf (chars! "[A-\\cA]")) :=
  not_valid_of_verdict _ (by decide +kernel) (by decide) (by decide)   -- `\` [lookahead = c] vs `c ControlLetter`
theorem gap_class_control_letter : ¬RxSpecB.ValidPatternWith qokModel (strOf (chars! "[A-\\c1]")) :=
  not_valid_of_verdict _ (by decide +kernel) (by decide) (by decide)   -- `\` [lookahead = c] vs `c ClassControlLetter`
theorem gap_word_boundary : ¬RxSpecB.ValidPatternWith qokModel (strOf (chars! "\\b*")) :=
  not_valid_of_verdict _ (by decide +kernel) (by decide) (by decide)   -- the assertion `\b` vs the identity escape of `b`

#print axioms gap_not_derivable

end DL.Props.C12
