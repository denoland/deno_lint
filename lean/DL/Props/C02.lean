import DL.Gen.Statics
import DL.Gen.Cells
import DL.Gen.RuleStructs
import DL.Gen.RuleTable
import DL.Lemmas.Pipe

/-!
# C02 — results are deterministic and independent of history and threads (the repository's own part)

* `dirDiags_order_independent`: the accounting diagnostics of one directive do not depend on the iteration order of
  its `HashMap` of codes (deno_lint sorts the unused codes before reporting them; without the sort two runs of the same
  process could print them in different orders);
* `collect_sorted`: whatever the iteration orders, the result is sorted by `(start, code)`;
* `DL.Props.C15.sortByPriority_order_independent`: the execution order of rules does not depend on the order supplied;
* `pure_linter_…`: a linter whose per-file function reads only immutable instance state returns, for any
  interleaving of calls (any history, any schedule), the same value per call.  The premise is discharged by the table
  theorems at the end of this file, over the inventories `Gen/Statics`, `Gen/Cells`, `Gen/RuleStructs` (translator).
Real thread interleavings inside the Rust runtime are not modelled (data-race freedom is Rust's type system).
-/
namespace DL.Props.C02
open DL.Pipe

theorem strLe_trans (a b c : String) (h1 : strLe a b = true) (h2 : strLe b c = true) : strLe a c = true := by
  simp only [strLe, decide_eq_true_eq] at *; exact String.le_trans h1 h2
theorem strLe_total (a b : String) : (strLe a b || strLe b a) = true := by
  simp only [strLe, Bool.or_eq_true, decide_eq_true_eq]; exact String.le_total a b

theorem dirDiags_order_independent (code : String) (mk : String → Payload) (p : String → Bool) (d d' : Dir)
    (hs : d.start = d'.start) (hl : d.line = d'.line) (hperm : d.codes.Perm d'.codes) :
    dirDiags code mk p d = dirDiags code mk p d' := by
  unfold dirDiags
  rw [hs, hl]
  congr 1
  have hp : ((d.codes.filter p).mergeSort strLe).Perm ((d'.codes.filter p).mergeSort strLe) :=
    (List.mergeSort_perm _ _).trans ((hperm.filter p).trans (List.mergeSort_perm _ _).symm)
  refine List.Perm.eq_of_pairwise (le := fun a b => strLe a b = true) ?_
    (List.pairwise_mergeSort strLe_trans strLe_total _) (List.pairwise_mergeSort strLe_trans strLe_total _) hp
  intro a b _ _ hab hba
  simp only [strLe, decide_eq_true_eq] at hab hba
  exact String.le_antisymm hab hba

theorem collect_sorted (cfg : Cfg) (extCodes : List String) (st : St) (raw : List Diag) :
    (collect cfg extCodes st raw).Pairwise (fun a b => diagLe a b = true) :=
  List.pairwise_mergeSort diagLe_trans diagLe_total _

/-- an abstract linter: immutable instance state `ctx`, and a per-file function of `(ctx, input)` only.
For *any* sequence of calls (a history, or one linearisation of concurrent calls) each call returns the value a fresh
instance would return.  This is the shape `Linter::lint_file(&self, ..)` has once no rule and no part of the context
keeps mutable state across calls. -/
structure PureLinter (Ctx In Out : Type) where
  ctx : Ctx
  lint : Ctx → In → Out

def PureLinter.run {Ctx In Out : Type} (l : PureLinter Ctx In Out) (calls : List In) : List Out :=
  calls.map (l.lint l.ctx)

theorem pure_linter_history_independent {Ctx In Out : Type} (l : PureLinter Ctx In Out) (before after : List In) (x : In) :
    (l.run (before ++ x :: after))[before.length]? = some (l.lint l.ctx x) := by
  simp [PureLinter.run]

theorem pure_linter_schedule_independent {Ctx In Out : Type} (l : PureLinter Ctx In Out) (calls calls' : List In)
    (h : calls.Perm calls') : (l.run calls).Perm (l.run calls') := h.map _

example : dirDiags "k" .unused (fun _ => true) ⟨3, 1, ["b", "a"]⟩ = dirDiags "k" .unused (fun _ => true) ⟨3, 1, ["a", "b"]⟩ :=
  dirDiags_order_independent _ _ _ _ _ rfl rfl (List.Perm.swap _ _ _)

/-! ## the premise "no mutable state outlives a call", read off the source on every run

`Gen/Statics.lean` (regenerated by the syn translator) lists every `static` item and every `thread_local!` /
`lazy_static!` invocation of `src/` outside test modules.  The theorem below is re-decided on every run: all of them are
immutable — plain `static` (never `static mut`) of a type that offers no interior mutability: a lazily built regex,
set, vector or table, a constant slice, a `phf` map.  A cache in a `thread_local!`, a `OnceLock`/`Mutex`/`RefCell`/atomic
in a static, or a `static mut` makes it false. -/
def immutableTypes : List String :=
  ["Lazy<Regex>", "Lazy<regex::Regex>", "Lazy<HashSet<&'staticstr>>", "Lazy<Vec<u32>>", "Lazy<PatternVersions>",
   "&[(&str,bool)]", "phf::Map<&'staticstr,FixKind>", "&[&str]", "&str", "usize", "u32", "bool"]

def immutableRow (r : String × String × String × String) : Bool :=
  r.2.1 == "static" && immutableTypes.contains r.2.2.2

theorem no_mutable_statics : DL.Gen.statics.all immutableRow = true := by decide +kernel

/-! ## … and no state hides inside a value that outlives a call

`Gen/Cells.lean` (regenerated by the same translator) lists every place in `src/` — outside test modules and `use` items,
macro bodies included — that names a type offering interior mutability (`Cell`, `RefCell`, `OnceCell`, `OnceLock`,
`Lazy`, `LazyLock`, `Mutex`, `RwLock`, atomics, …) and every `unsafe`.  Without such a type and without `unsafe`, a
`&Linter`, a `&dyn LintRule` and a `&'static` table are deeply immutable (Rust's aliasing rules), so a second
`lint_file` call cannot observe the first.  The theorem is re-decided on every run: the only uses are

* `Lazy` as the type / initialiser of a `static` (whose payload type `no_mutable_statics` shows immutable),
* `Rc<RefCell<RawScope>>` inside prefer-const (a scope tree built and dropped within one `lint_program` call; `Rc` is
  neither `Send` nor `Sync`, so it cannot be stored in a rule: `LintRule: Send + Sync`),
* the one `unsafe { char::from_u32_unchecked }` of `js_regex/mod.rs` (guarded by `is_scalar`).

A memo table in a rule struct, a `OnceLock` / `Mutex` / atomic field in `Linter` or `LinterContext`, a lock in a local
that is leaked into a static — each adds a row that fails this. -/
def cellRowOk (r : String × String × String × String) : Bool :=
  (r.2.1 == "Lazy" && r.2.2.1 == "static")
  || (r.1 == "src/rules/prefer_const.rs" && r.2.1 == "RefCell" && (r.2.2.1 == "fn" || r.2.2 == ("struct", "Scope")))
  || r == ("src/js_regex/mod.rs", "unsafe", "macro", "macro_rules")

theorem no_hidden_cells : DL.Gen.cellUses.all cellRowOk = true := by decide +kernel

/-- the `unsafe` row occurs exactly once (a second `unsafe` in that macro, or anywhere, is a new row) -/
theorem one_unsafe : (DL.Gen.cellUses.filter (fun r => r.2.1 == "unsafe")).length = 1 := by decide +kernel

/-! ## … and a rule value has nothing to keep state in

`Gen/RuleStructs.lean`: every `impl LintRule for T` of `src/` with the number of fields of `struct T`.  All of them are unit
structs, and there are exactly as many as the registry has rules: whatever a rule computes lives in a visitor / handler
built inside `lint_program_with_ast_view` and dropped before it returns. -/
theorem rules_are_unit_structs :
    DL.Gen.ruleStructs.all (fun r => r.2.2 == "0") = true ∧ DL.Gen.ruleStructs.length = DL.Gen.ruleTable.length := by
  decide +kernel

end DL.Props.C02
