import DL.Props.C16

/-!
# C03 — every diagnostic is well-formed and points at real source text (the repository's own part)

Proved here: the ordering clause (for every raw list, directive state, configuration, external result) and
position facts of the accounting diagnostics.  The text-scanning rules' range arithmetic is in `DL.Props.C03Txt`.
Ranges of AST-based rules are swc spans (a parameter); they are exercised by the search step only.
-/
namespace DL.Props.C03
open DL.Pipe

/-- the comparator's key: `Option<SourcePos>` (`None` first), then code -/
def keyLe (a b : Diag) : Prop :=
  match a.pos, b.pos with
  | none, none => a.code ≤ b.code
  | none, some _ => True
  | some _, none => False
  | some (x, _), some (y, _) => x < y ∨ (x = y ∧ a.code ≤ b.code)

theorem diagLe_iff (a b : Diag) : diagLe a b = true ↔ keyLe a b := by
  unfold diagLe keyLe
  rcases a.pos with _ | ⟨x, _⟩ <;> rcases b.pos with _ | ⟨y, _⟩ <;> simp

/-- the returned list is ordered by start position, then rule code -/
theorem result_ordered (cfg : Cfg) (st : St) (ruleDiags : List Diag) (ext : Option (List Diag × List String)) :
    (lintInner cfg st ruleDiags ext).Pairwise keyLe := by
  refine (DL.Props.C16.result_sorted cfg st ruleDiags ext).imp ?_
  intro a b h; exact (diagLe_iff a b).mp h

/-- every accounting diagnostic points at the start of the directive comment it is about -/
theorem accounting_points_at_directive (code : String) (mk : String → Payload) (p : DirKey → String → Bool) (st : St)
    (x : Diag) (h : x ∈ allDirDiags code mk p st) :
    (∃ f, st.file = some f ∧ x.pos = some (f.start, f.line)) ∨ (∃ kd ∈ st.lines, x.pos = some (kd.2.start, kd.2.line)) := by
  rcases mem_allDirDiags_iff.mp h with ⟨f, hf, c, _, _, rfl⟩ | ⟨kd, hk, c, _, _, rfl⟩
  · exact Or.inl ⟨f, hf, rfl⟩
  · exact Or.inr ⟨kd, hk, rfl⟩

example : keyLe ⟨"a", none, .raw 0⟩ ⟨"a", some (0, 0), .raw 1⟩ := trivial

end DL.Props.C03
