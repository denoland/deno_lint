import DL.Lemmas.CFClaimsMain

/-!
# C11 — getter-return and no-fallthrough never miss a path that falls off the end

The property in full, for all programs:
* for every getter `g` of `prog`, `g.body.compl.n → getterReported (analyze prog) g`;
* for every reachable non-empty case `c` without comment, `c.body.compl.n → caseReported (analyze prog) c`;
* equivalently, for every reachable statement `s` (not a loop body key, not a declaration/expression statement),
  `(analyze prog s.pos).stops → (s.compl ls).n = false`.
It is proved for the programs of the fragment `inF`.  The soundness invariant is developed in `DL.Lemmas.CFSound*`, the
claims of the rule layers in `DL.Lemmas.CFClaims*`; this file holds the facts about the rule layers themselves, the
statement form for one statement or list visited from a fresh scope (`C11_partial`, `C11_partial_body`), and the
whole-program theorems.
-/
namespace DL.Props.C11
open DL.CF

/-- `getter-return` reports a getter iff the recorded end of its body block is absent or `Continue` -/
theorem getterReported_iff (info : Info) (g : Getter) (m : Meta) (h : info g.bodyP = some m) :
    getterReported info g = true ↔ (m.end_ = none ∨ m.end_ = some .cont) := by
  unfold getterReported Meta.continues
  rw [h]
  obtain ⟨u, e⟩ := m
  rcases e with _ | ⟨r, t, i⟩ | _ | _ <;> simp

/-- `no-fallthrough` stays silent on a case only if it is empty, has a fall-through comment, or some statement of it
(other than a declaration or expression statement) has metadata that stops -/
theorem case_silent_only_if (info : Info) (c : SwCase) (h : caseReported info c = false) :
    c.empty = true ∨ c.ftComment = true ∨ stmtsStop info c.body = true := by
  unfold caseReported at h
  cases h1 : c.empty <;> cases h2 : c.ftComment <;> cases h3 : stmtsStop info c.body <;> simp_all

/-- stops and continues are complementary readings of the recorded end -/
theorem stops_iff_not_continues (m : Meta) : m.stops = !m.continues := by
  unfold Meta.stops Meta.continues
  obtain ⟨u, e⟩ := m
  rcases e with _ | ⟨r, t, i⟩ | _ | _ <;> rfl

/-- **C11 (statement form) on the fragment `inF`**.  For a statement of the fragment (expressions may contain
nested functions, see `C10_partial`) analysed at a reachable point of a fresh scope: if the end recorded under its
position "stops execution" — for a statement that is not an expression or declaration statement, whose key may be
shared with a function it starts with and is never consulted by the rules — or the scope has stopped after it, then no
execution completes the statement normally. -/
theorem C11_partial (s : Stmt) (hf : s.inF = true) (hnd : s.positions.Nodup) :
    let a' := visitStmt s { sc := {}, info := Info.empty }
    (s.isDeclOrExpr = false → stopsEnd (a'.info.endAt s.pos) = true → (s.compl []).n = false) ∧
    (stopsEnd a'.sc.end_ = true → (s.compl []).n = false) := by
  have hpre : Pre true s.positions { sc := {}, info := Info.empty } :=
    ⟨fun h => by simp at h, fun _ _ => rfl, hnd⟩
  have h := visitStmt_ok s [] true _ hf hpre
  exact ⟨fun hde hs => by simpa using h.p4 hde hs, fun hs => by simpa using h.p1 hs⟩

/-- …and a whole statement list (e.g. the body of a getter): if the scope has stopped at the end of the list, the list
cannot complete normally — so a body that can fall off its end is never claimed to stop -/
theorem C11_partial_body (l : Stmts) (hf : l.inF = true) (hnd : l.positions.Nodup) :
    stopsEnd (visitStmts l { sc := {}, info := Info.empty }).sc.end_ = true → l.compl.n = false := by
  have hpre : Pre true l.positions { sc := {}, info := Info.empty } :=
    ⟨fun h => by simp at h, fun _ _ => rfl, hnd⟩
  have h := visitStmts_ok l true _ hf hpre
  intro hs; simpa using h.p1 hs

/-- why expression/declaration statements are excluded from the first claim: for `() => { return 1; };` the end
recorded under the statement's position (0, shared with the arrow function) stops, yet the statement completes
normally; the analyzer never reads it (`stmtEnd`) -/
example :
    let s : Stmt := .simple 0 .exprStmt (.cons (.expr .other (.cons (.fnScope 0 (.cons (.block 6
      (.cons (.ret 8 (.cons (.expr .other .nil) .nil)) .nil)) .nil)) .nil)) .nil)
    s.inF = true ∧ s.positions.Nodup ∧ (s.compl []).n = true ∧ s.isDeclOrExpr = true ∧
      stopsEnd ((visitStmt s { sc := {}, info := Info.empty }).info.endAt s.pos) = true ∧
      stopsEnd (visitStmt s { sc := {}, info := Info.empty }).sc.end_ = false := by decide

/-- non-vacuity: `do { if (x) continue; return; } while (c);` is in the fragment, and its metadata does not stop -/
example :
    let s : Stmt := .doWhileS 0 (.block 3 (.cons (.ifS 5 (.cons (.expr (.ident "x") .nil) .nil) (.cont 12 none) none)
      (.cons (.ret 22 .nil) .nil))) (.cons (.expr (.ident "c") .nil) .nil) false
    s.inF = true ∧ s.positions.Nodup ∧ (s.compl []).n = true ∧
      stopsEnd ((visitStmt s { sc := {}, info := Info.empty }).info.endAt s.pos) = false := by decide

/-! ## the rule layers, composed with the invariant (whole programs of the fragment)

`Program.stopViol`, `getterReported`, `stmtsStop`/`caseReported` read the *final* metadata at keys anywhere inside the
program.  What a visit records under the keys of a piece of syntax is never touched again (`Stmt.writes` in
`DL.Lemmas.CFWrites`, unconditional), except the key of a loop body, which is re-used for the end of the loop (and is
filtered out by `stopViol`); `DL.Lemmas.CFClaims*` transport the facts established when each statement was visited to the
final map. -/

/-- **`stopViol` (C11, statement form, whole programs).**  `Program.stopViol` is *not* conditioned on reachability (see the
example below: a dead `if` records the inherited forced end), so it is not empty in general.  The strongest true
statement: every statement whose metadata says "stops" although it can complete normally was visited after its scope
had ended — it is marked `unreachable` by the analyzer, and it is unreachable in the reference semantics. -/
theorem C11_stopViol (prog : Program) (hf : itemsInF prog.items = true) (hnd : (itemsPositions prog.items).Nodup) (p : Nat)
    (hp : p ∈ prog.stopViol (analyze prog)) : (analyze prog).ur p = true ∧ prog.reachable p = false := by
  have h := (program_claims prog hf hnd).sv p hp
  exact ⟨h, program_ur_unreachable prog hf hnd p h⟩

/-- …in particular there is no violation at all when the analyzer marks no statement `unreachable` -/
theorem C11_stopViol_nil (prog : Program) (hf : itemsInF prog.items = true) (hnd : (itemsPositions prog.items).Nodup)
    (hno : ∀ q, (analyze prog).ur q = false) : prog.stopViol (analyze prog) = [] := by
  cases h : prog.stopViol (analyze prog) with
  | nil => rfl
  | cons q r =>
    have := (C11_stopViol prog hf hnd q (by rw [h]; simp)).1
    rw [hno q] at this; cases this

/-- **`getter-return` is never silent on a body that can fall off its end.**  For every function scope with a body block
occurring anywhere in a program of the fragment (`Program.getters`): if the rule does not report it, the body cannot
complete normally. -/
theorem C11_getter (prog : Program) (hf : itemsInF prog.items = true) (hnd : (itemsPositions prog.items).Nodup) (g : Getter)
    (hg : g ∈ prog.getters) (hrep : getterReported (analyze prog) g = false) : g.body.compl.n = false := by
  refine (program_claims prog hf hnd).gv g hg ?_
  unfold getterReported at hrep
  unfold metaStops
  cases h : (analyze prog) g.bodyP with
  | none => rw [h] at hrep; cases hrep
  | some m =>
    rw [h] at hrep
    simp only at hrep ⊢
    rw [stops_iff_not_continues, hrep]; rfl

/-- **`no-fallthrough`: a stopping statement silences the rule only when the case cannot fall through.**  For every case
`(sp, body)` of a `switch` statement at `sp` occurring anywhere in a program of the fragment (`Program.swCases`), if the
`switch` is reachable (every case of a reached `switch` can be entered, `Cases.reach`) and some statement of the body has
metadata that stops (`stmtsStop`), then the body cannot complete normally. -/
theorem C11_case (prog : Program) (hf : itemsInF prog.items = true) (hnd : (itemsPositions prog.items).Nodup)
    (c : Nat × Stmts) (hc : c ∈ prog.swCases) (hreach : prog.reachable c.1 = true)
    (hst : stmtsStop (analyze prog) c.2 = true) : c.2.compl.n = false := by
  cases hn : c.2.compl.n with
  | false => rfl
  | true =>
    have hur := (program_claims prog hf hnd).cv c hc hst hn
    have := program_ur_unreachable prog hf hnd c.1 hur
    rw [this] at hreach; cases hreach

/-- the positions of the cases of a `switch` -/
def casePositions : Cases → List Nat
  | .nil => []
  | .cons p _ _ _ r => p :: casePositions r

/-- the reachability hypothesis of `C11_case` is about the `switch` statement: in the reference semantics every case of a
reached `switch` whose discriminant can complete normally can be entered directly -/
theorem cases_reach_every_case : ∀ (cs : Cases) (cp : Nat), cp ∈ casePositions cs → cs.reach cp = true
  | .nil, cp, h => by simp [casePositions] at h
  | .cons p dflt t b r, cp, h => by
    simp only [casePositions, List.mem_cons] at h
    rcases h with h | h
    · simp [Cases.reach, h]
    · simp [Cases.reach, cases_reach_every_case r cp h]

theorem switch_reaches_every_case (sp : Nat) (d : Kids) (hd : d.compl.n = true) (cs : Cases) (cp : Nat)
    (h : cp ∈ casePositions cs) : (Stmt.switchS sp d cs).reach cp = true := by
  simp [Stmt.reach, hd, cases_reach_every_case cs cp h]

/-- …in terms of the rule: a non-empty case without fall-through comment that can fall through is reported -/
theorem C11_case_reported (prog : Program) (hf : itemsInF prog.items = true) (hnd : (itemsPositions prog.items).Nodup)
    (sp : Nat) (c : SwCase) (hc : (sp, c.body) ∈ prog.swCases) (hreach : prog.reachable sp = true)
    (he : c.empty = false) (hft : c.ftComment = false) (hn : c.body.compl.n = true) :
    caseReported (analyze prog) c = true := by
  unfold caseReported
  cases hst : stmtsStop (analyze prog) c.body with
  | false => simp [he, hft]
  | true => have := C11_case prog hf hnd (sp, c.body) hc hreach hst; rw [hn] at this; cases this

/-- `stopViol` is not empty in general: in `return; if (x) {}` the dead `if` (10) and its block (17) inherit the forced
end; they are marked `unreachable` and they are unreachable -/
example :
    let prog : Program := { isModule := false, items := [.stmt (.ret 0 .nil),
      .stmt (.ifS 10 (.cons (.expr (.ident "x") .nil) .nil) (.block 17 .nil) none)] }
    itemsInF prog.items = true ∧ (itemsPositions prog.items).Nodup ∧
    prog.stopViol (analyze prog) = [10, 17] ∧ (analyze prog).ur 10 = true ∧ prog.reachable 10 = false ∧
    (analyze prog).ur 17 = true ∧ prog.reachable 17 = false := by decide

/-- getters: `function f() { return 1; }  function g() { if (x) return 1; }` — `f` (body block 13) is not reported and
its body cannot complete normally; `g` (body block 43) can, and is reported -/
example :
    let one : Kids := .cons (.expr .other .nil) .nil
    let fbody : Stmts := .cons (.ret 15 one) .nil
    let gbody : Stmts := .cons (.ifS 45 (.cons (.expr (.ident "x") .nil) .nil) (.ret 52 one) none) .nil
    let prog : Program := { isModule := false, items := [
      .stmt (.simple 0 (.fnDecl "f") (.cons (.fnScope 0 (.cons (.block 13 fbody) .nil)) .nil)),
      .stmt (.simple 30 (.fnDecl "g") (.cons (.fnScope 30 (.cons (.block 43 gbody) .nil)) .nil))] }
    itemsInF prog.items = true ∧ (itemsPositions prog.items).Nodup ∧
    prog.getters.map (fun g => (g.at_, g.bodyP)) = [(0, 13), (30, 43)] ∧
    prog.getters.map (fun g => (getterReported (analyze prog) g, g.body.compl.n)) = [(false, false), (true, true)] := by
  decide

/-- cases: `switch (x) { case 1: return; case 2: foo(); default: bar(); }` — the first body stops and cannot complete
normally; the second does not stop (and would be reported by `no-fallthrough`) -/
example :
    let call : Kids := .cons (.expr .other .nil) .nil
    let prog : Program := { isModule := false, items := [.stmt (.switchS 0 (.cons (.expr (.ident "x") .nil) .nil)
      (.cons 13 false call (.cons (.ret 21 .nil) .nil)
        (.cons 29 false call (.cons (.simple 37 .exprStmt call) .nil)
          (.cons 44 true .nil (.cons (.simple 53 .exprStmt call) .nil) .nil))))] }
    itemsInF prog.items = true ∧ (itemsPositions prog.items).Nodup ∧ prog.reachable 0 = true ∧
    prog.swCases.map (fun c => (c.1, stmtsStop (analyze prog) c.2, c.2.compl.n)) =
      [(0, true, false), (0, false, true), (0, false, true)] := by
  decide

end DL.Props.C11
