import DL.Model.FixSmall
import DL.Lemmas.Rounds
/-!
# C13 for two more fix-providing rules, completely modelled (M-FIX small)

`jsx-no-unescaped-entities`: the fixed text is never reported again, contains neither `>` nor `}`, and introduces no
character that would end the JSX text.  `jsx-props-no-spread-multi`: the fix of any reported attribute leaves exactly one
report less; repeated fixing terminates with none left.  For every text / every attribute list.
-/
namespace DL.Props.C13Small
open DL.FixSmall

/-! ### jsx-no-unescaped-entities -/

/-- a character of the fixed text is a character of the text that needed no escape, or one of an entity's -/
theorem mem_escChar {c d : Char} (h : d ∈ escChar c) :
    (d = c ∧ c ≠ '>' ∧ c ≠ '}') ∨ (d ≠ '>' ∧ d ≠ '}' ∧ d ≠ '<' ∧ d ≠ '{') := by
  unfold escChar at h
  split at h
  · simp at h; rcases h with h | h | h | h <;> subst h <;> exact Or.inr (by decide)
  · split at h
    · simp at h; rcases h with h | h | h | h | h | h <;> subst h <;> exact Or.inr (by decide)
    · exact Or.inl ⟨List.mem_singleton.mp h, ‹_›, ‹_›⟩

theorem escChar_no_special (c : Char) : ∀ d ∈ escChar c, d ≠ '>' ∧ d ≠ '}' := by
  intro d hd
  rcases mem_escChar hd with ⟨rfl, h⟩ | h
  · exact h
  · exact ⟨h.1, h.2.1⟩

/-- the fixed text contains neither character the rule looks for -/
theorem escape_no_special (t : List Char) : ∀ d ∈ escape t, d ≠ '>' ∧ d ≠ '}' := by
  induction t with
  | nil => intro d hd; simp [escape] at hd
  | cons c t ih =>
    intro d hd
    simp only [escape, List.mem_append] at hd
    rcases hd with h | h
    · exact escChar_no_special c d h
    · exact ih d h

theorem escape_id_of_no_special (t : List Char) (h : ∀ d ∈ t, d ≠ '>' ∧ d ≠ '}') : escape t = t := by
  induction t with
  | nil => rfl
  | cons c t ih =>
    have hc := h c (by simp)
    have : escChar c = [c] := by simp [escChar, hc.1, hc.2]
    simp only [escape, this, List.singleton_append]
    rw [ih (fun d hd => h d (by simp [hd]))]

/-- **C13 for jsx-no-unescaped-entities**: the fixed text is not reported again (whatever the text was), so the one
diagnostic of the text node is gone after its fix -/
theorem entFix_not_reported (t : List Char) : entReported (escape t) = false := by
  simp [entReported, escape_id_of_no_special _ (escape_no_special t)]

/-- the fix introduces no character that ends a JSX text (`<`, `{`) -/
theorem escape_keeps_text (t : List Char) (h : ∀ d ∈ t, d ≠ '<' ∧ d ≠ '{') : ∀ d ∈ escape t, d ≠ '<' ∧ d ≠ '{' := by
  induction t with
  | nil => intro d hd; simp [escape] at hd
  | cons c t ih =>
    intro d hd
    simp only [escape, List.mem_append] at hd
    rcases hd with hd | hd
    · rcases mem_escChar hd with ⟨rfl, _⟩ | hd
      · exact h d (by simp)
      · exact hd.2.2
    · exact ih (fun d hd => h d (by simp [hd])) d hd

theorem entReported_iff (t : List Char) : entReported t = true ↔ ∃ d ∈ t, d = '>' ∨ d = '}' := by
  constructor
  · intro h
    apply Classical.byContradiction
    intro hn
    have : escape t = t := escape_id_of_no_special t (by
      intro d hd
      constructor
      · intro e; exact hn ⟨d, hd, Or.inl e⟩
      · intro e; exact hn ⟨d, hd, Or.inr e⟩)
    simp [entReported, this] at h
  · intro ⟨d, hd, hs⟩
    simp only [entReported, bne_iff_ne, ne_eq]
    intro he
    have := escape_no_special t d (by rw [he]; exact hd)
    rcases hs with e | e
    · exact this.1 e
    · exact this.2 e

example : entReported "a > b }".toList = true := by decide +kernel
example : escape "a>}".toList = "a&gt;&#125;".toList := by decide +kernel

/-! ### jsx-props-no-spread-multi -/

/-- the number of reports depends on the texts seen so far only as a set, and not on the index offset -/
theorem spreadDiags_length_congr (r : List Attr) (s s' : List (List Char)) (i i' : Nat)
    (h : ∀ x, s.contains x = s'.contains x) : (spreadDiags r s i).length = (spreadDiags r s' i').length := by
  induction r generalizing s s' i i' with
  | nil => rfl
  | cons a r ih =>
    cases a with
    | none => simpa [spreadDiags] using ih s s' (i + 1) (i' + 1) h
    | some t =>
      simp only [spreadDiags, List.length_append]
      rw [ih (t :: s) (t :: s') (i + 1) (i' + 1) (by
        intro x
        have := h x
        simp only [List.contains_cons] at this ⊢
        rw [this])]
      rw [h t]
      split <;> rfl

theorem spreadDiags_bounds (r : List Attr) (s : List (List Char)) (i : Nat) :
    ∀ n ∈ spreadDiags r s i, i ≤ n ∧ n < i + r.length := by
  induction r generalizing s i with
  | nil => intro n hn; simp [spreadDiags] at hn
  | cons a r ih =>
    intro n hn
    cases a with
    | none =>
      simp only [spreadDiags] at hn
      have := ih s (i + 1) n hn
      simp only [List.length_cons]; omega
    | some t =>
      simp only [spreadDiags, List.mem_append] at hn
      rcases hn with hn | hn
      · split at hn
        · simp at hn; subst hn; simp
        · simp at hn
      · have := ih (t :: s) (i + 1) n hn
        simp only [List.length_cons]; omega

/-- removing the reported attribute at relative position `j` removes exactly one report -/
theorem spreadDiags_erase (r : List Attr) (s : List (List Char)) (i j : Nat) (h : i + j ∈ spreadDiags r s i) :
    (spreadDiags (r.eraseIdx j) s i).length + 1 = (spreadDiags r s i).length := by
  induction r generalizing s i j with
  | nil => simp [spreadDiags] at h
  | cons a r ih =>
    cases j with
    | zero =>
      cases a with
      | none =>
        simp only [spreadDiags] at h
        have := (spreadDiags_bounds r s (i + 1) _ h).1
        omega
      | some t =>
        simp only [spreadDiags, List.mem_append] at h
        have ht : s.contains t = true := by
          rcases h with h | h
          · split at h
            · assumption
            · simp at h
          · have := (spreadDiags_bounds r (t :: s) (i + 1) _ h).1
            omega
        simp only [List.eraseIdx_cons_zero, spreadDiags, ht, if_true, List.length_append, List.length_singleton]
        rw [spreadDiags_length_congr r s (t :: s) i (i + 1) (by
          intro x; simp only [List.contains_cons]
          by_cases hx : x == t
          · have hxt : x = t := by simpa using hx
            rw [hxt, ht]; simp
          · simp [hx])]
        omega
    | succ j =>
      cases a with
      | none =>
        simp only [spreadDiags] at h
        have h' : (i + 1) + j ∈ spreadDiags r s (i + 1) := by
          have e : i + (j + 1) = (i + 1) + j := by omega
          rw [← e]; exact h
        simpa [List.eraseIdx_cons_succ, spreadDiags] using ih s (i + 1) j h'
      | some t =>
        simp only [spreadDiags, List.mem_append] at h
        have h' : (i + 1) + j ∈ spreadDiags r (t :: s) (i + 1) := by
          rcases h with h | h
          · split at h
            · simp at h
            · simp at h
          · have e : i + (j + 1) = (i + 1) + j := by omega
            rw [← e]; exact h
        have := ih (t :: s) (i + 1) j h'
        simp only [List.eraseIdx_cons_succ, spreadDiags, List.length_append]
        omega

/-- **C13 for jsx-props-no-spread-multi**: the fix of any reported attribute leaves exactly one report less -/
theorem spreadFix_one_fewer (attrs : List Attr) (i : Nat) (h : i ∈ spreadReported attrs) :
    (spreadReported (spreadFix attrs i)).length + 1 = (spreadReported attrs).length := by
  have := spreadDiags_erase attrs [] 0 i (by simpa [spreadReported] using h)
  simpa [spreadReported, spreadFix] using this

def spreadRepair : Nat → List Attr → List Attr
  | 0, a => a
  | fuel + 1, a =>
    match spreadReported a with
    | [] => a
    | i :: _ => spreadRepair fuel (spreadFix a i)

theorem spreadRepair_of_le (fuel : Nat) (a : List Attr) (h : (spreadReported a).length ≤ fuel) :
    spreadReported (spreadRepair fuel a) = [] :=
  Rounds.repair_nil spreadReported spreadFix spreadRepair (fun _ => rfl) (fun _ a h => by simp only [spreadRepair, h])
    (fun _ a i r h => by simp only [spreadRepair, h])
    (fun a i hi => Nat.lt_of_succ_le (Nat.le_of_eq (spreadFix_one_fewer a i hi))) fuel a h

theorem spreadRepair_terminates (a : List Attr) : spreadReported (spreadRepair (spreadReported a).length a) = [] :=
  spreadRepair_of_le _ a (Nat.le_refl _)

-- `<div {...p} x="1" {...p} {...q} {...p} />`: the second and third `{...p}` are reported
example : spreadReported [some ['p'], none, some ['p'], some ['q'], some ['p']] = [2, 4] := by decide +kernel
example : spreadReported (spreadFix [some ['p'], none, some ['p'], some ['q'], some ['p']] 2) = [3] := by decide +kernel

end DL.Props.C13Small
