import DL.Props.C06

/-!
# C07 — every code in every directive is accounted for exactly once

For **every** raw list (rule and external diagnostics), directive state (any number of directives, codes, prior
marks), configuration (with or without the two accounting rules), known-code set and external code list.

`dirAt st key` is the directive (`none` = the file-level one, `some k` = the line-level one stored under line `k`);
`c` ranges over its codes.  `reportUnknown dir c` / `reportUnused dir c` are the two possible reports *at that directive
for that code*.
-/
namespace DL.Props.C07
open DL.Pipe DL.Props.C06

def dirAt (st : St) : DirKey → Option Dir
  | none => st.file
  | some k => lookupLine k st.lines

def reportUnknown (dir : Dir) (c : String) : Diag := ⟨cUnknown, some (dir.start, dir.line), .unknown c⟩
def reportUnused (dir : Dir) (c : String) : Diag := ⟨cUnused, some (dir.start, dir.line), .unused c⟩

/-- well-formedness of a directive state as produced by the parser: line keys distinct (it is a map), directive
comments start at distinct positions, codes of one directive distinct (it is a map) -/
structure WF (st : St) : Prop where
  keys : (st.lines.map (·.1)).Nodup
  starts : (st.lines.map (·.2.start)).Nodup
  fileStart : ∀ f, st.file = some f → ∀ kd ∈ st.lines, kd.2.start ≠ f.start
  fileCodes : ∀ f, st.file = some f → f.codes.Nodup
  lineCodes : ∀ kd ∈ st.lines, kd.2.codes.Nodup

theorem lookupLine_mem {k : Nat} {d : Dir} {ls : List (Nat × Dir)} (h : lookupLine k ls = some d) : (k, d) ∈ ls := by
  induction ls with
  | nil => cases h
  | cons kd r ih =>
    obtain ⟨k', d'⟩ := kd
    simp only [lookupLine] at h
    split at h
    · rename_i hk; subst hk; injection h with h; subst h; exact List.mem_cons_self
    · exact List.mem_cons_of_mem _ (ih h)

theorem lookupLine_of_mem {k : Nat} {d : Dir} {ls : List (Nat × Dir)} (hn : (ls.map (·.1)).Nodup) (h : (k, d) ∈ ls) :
    lookupLine k ls = some d := by
  induction ls with
  | nil => cases h
  | cons kd r ih =>
    obtain ⟨k', d'⟩ := kd
    simp only [List.map_cons, List.nodup_cons, List.mem_map, not_exists, not_and] at hn
    simp only [lookupLine]
    rcases List.mem_cons.mp h with h | h
    · injection h with h1 h2; subst h1; subst h2; simp
    · have : k' ≠ k := fun e => hn.1 (k, d) h (e ▸ rfl)
      simp [this, ih hn.2 h]

/-- the final bookkeeping state (after the filter pass and `ban_unknown_rule_code`) -/
def finalSt (cfg : Cfg) (extCodes : List String) (st : St) (raw : List Diag) : St :=
  (banUnknown (cfg.allCodes ++ extCodes) cfg.checkUnknown (checkUsage st raw).1).1

/-- some directive lists a code that is not known (then the file-level `ban-unknown-rule-code` entry counts as used) -/
def anyUnknown (cfg : Cfg) (extCodes : List String) (st : St) : Prop :=
  allDirDiags cUnknown .unknown (unknownP (cfg.allCodes ++ extCodes)) st ≠ []

/-- when is a code of a directive marked used in the end: it was marked before, or it suppressed a diagnostic, or
it is the file-level `ban-unknown-rule-code` switch and an unknown code exists -/
theorem used_final_iff (cfg : Cfg) (extCodes : List String) (st : St) (raw : List Diag) (key : DirKey) (c : String) :
    (finalSt cfg extCodes st raw).used key c = true ↔
      (key, c) ∈ st.marks ∨ (∃ d ∈ raw, hits st d = some (key, c)) ∨
      (key = none ∧ c = cUnknown ∧ fileNames st cUnknown = true ∧ anyUnknown cfg extCodes st) := by
  unfold finalSt St.used
  rw [List.contains_iff_mem]
  unfold banUnknown anyUnknown
  dsimp only
  have hA : allDirDiags cUnknown Payload.unknown (unknownP (cfg.allCodes ++ extCodes)) (checkUsage st raw).1
      = allDirDiags cUnknown Payload.unknown (unknownP (cfg.allCodes ++ extCodes)) st := by
    unfold allDirDiags; simp
  rw [hA]
  by_cases he : (allDirDiags cUnknown Payload.unknown (unknownP (cfg.allCodes ++ extCodes)) st).isEmpty = true
  · rw [if_pos he, mem_marks_checkUsage]
    have : allDirDiags cUnknown Payload.unknown (unknownP (cfg.allCodes ++ extCodes)) st = [] := List.isEmpty_iff.mp he
    simp [this]
  · rw [if_neg he]
    have hne : allDirDiags cUnknown Payload.unknown (unknownP (cfg.allCodes ++ extCodes)) st ≠ [] :=
      fun e => he (List.isEmpty_iff.mpr e)
    unfold markFile
    rw [fileNames_congr (checkUsage_file st raw)]
    by_cases hf : fileNames st cUnknown = true
    · rw [if_pos hf]
      simp only [mark_marks, List.mem_cons, mem_marks_checkUsage, Prod.mk.injEq]
      constructor
      · rintro (⟨h1, h2⟩ | h | h)
        · exact Or.inr (Or.inr ⟨h1, h2, hf, hne⟩)
        · exact Or.inl h
        · exact Or.inr (Or.inl h)
      · rintro (h | h | ⟨h1, h2, _, _⟩)
        · exact Or.inr (Or.inl h)
        · exact Or.inr (Or.inr h)
        · exact Or.inl ⟨h1, h2⟩
    · rw [if_neg hf, mem_marks_checkUsage]
      simp [hf]

theorem isRaw_false_of_acc (dir : Dir) (c : String) :
    Diag.isRaw (reportUnknown dir c) = false ∧ Diag.isRaw (reportUnused dir c) = false := ⟨rfl, rfl⟩

theorem cUnknown_ne_cUnused : cUnknown ≠ cUnused := by decide

/-- which selection put an accounting diagnostic for the code `c` at byte `s` into the list -/
theorem sel_of_mem {code : String} {mk : String → Payload} (hmk : ∀ a b, mk a = mk b → a = b)
    {p : DirKey → String → Bool} {st : St} {c : String} {s l : Nat}
    (h : (⟨code, some (s, l), mk c⟩ : Diag) ∈ allDirDiags code mk p st) :
    (∃ f, st.file = some f ∧ f.start = s ∧ p none c = true) ∨
      ∃ kd ∈ st.lines, kd.2.start = s ∧ p (some kd.1) c = true := by
  rcases mem_allDirDiags_iff.mp h with ⟨f, hf, c', _, hp, he⟩ | ⟨kd, hk, c', _, hp, he⟩ <;>
    simp only [Diag.mk.injEq, Option.some.injEq, Prod.mk.injEq, true_and] at he <;>
    obtain ⟨⟨rfl, _⟩, he⟩ := he <;> cases hmk _ _ he
  · exact Or.inl ⟨f, hf, rfl, hp⟩
  · exact Or.inr ⟨kd, hk, rfl, hp⟩

theorem mem_of_sel {code : String} {mk : String → Payload} {p : DirKey → String → Bool} {st : St} {key : DirKey}
    {dir : Dir} (hd : dirAt st key = some dir) {c : String} (hc : c ∈ dir.codes) (hp : p key c = true) :
    (⟨code, some (dir.start, dir.line), mk c⟩ : Diag) ∈ allDirDiags code mk p st := by
  apply mem_allDirDiags_iff.mpr
  cases key with
  | none => exact Or.inl ⟨dir, hd, c, hc, hp, rfl⟩
  | some k => exact Or.inr ⟨(k, dir), lookupLine_mem hd, c, hc, hp, rfl⟩

/-- **unknown**: the code is reported as unknown at its directive iff it names no known or external rule, unknown-code
checking is enabled, and the file-level switch is not set -/
theorem unknown_reported_iff (cfg : Cfg) (extCodes : List String) (st : St) (raw : List Diag)
    (hraw : ∀ d ∈ raw, Diag.isRaw d = true)
    (key : DirKey) (dir : Dir) (hd : dirAt st key = some dir) (c : String) (hc : c ∈ dir.codes) :
    reportUnknown dir c ∈ collect cfg extCodes st raw ↔
      c ∉ cfg.allCodes ++ extCodes ∧ cfg.checkUnknown = true ∧ fileNames st cUnknown = false := by
  rw [mem_collect_iff, ← unknownSel_iff (k := key)]
  constructor
  · rintro (⟨h, _⟩ | h | h)
    · cases hraw _ h
    · rcases sel_of_mem (fun _ _ h => Payload.unknown.inj h) h with ⟨_, _, _, hp⟩ | ⟨_, _, _, hp⟩ <;> exact hp
    · exact absurd (mem_allDirDiags h).1 cUnknown_ne_cUnused
  · exact fun h => Or.inr (Or.inl (mem_of_sel hd hc h))

theorem inj_start : ∀ (ls : List (Nat × Dir)), (ls.map (·.2.start)).Nodup → ∀ {a b}, a ∈ ls → b ∈ ls →
    a.2.start = b.2.start → a = b
  | [], _, _, _, ha, _, _ => by cases ha
  | x :: l, hn, a, b, ha, hb, hc => by
    simp only [List.map_cons, List.nodup_cons, List.mem_map, not_exists, not_and] at hn
    rcases List.mem_cons.mp ha with rfl | ha' <;> rcases List.mem_cons.mp hb with rfl | hb'
    · rfl
    · exact absurd hc.symm (hn.1 b hb')
    · exact absurd hc (hn.1 a ha')
    · exact inj_start l hn.2 ha' hb' hc

/-- a report positioned at `dir` can only come from `dir` itself -/
theorem directive_of_start {st : St} (hwf : WF st) {key : DirKey} {dir : Dir} (hd : dirAt st key = some dir) :
    (∀ f, st.file = some f → f.start = dir.start → key = none) ∧
    (∀ kd ∈ st.lines, kd.2.start = dir.start → key = some kd.1) := by
  cases key with
  | none =>
    have hf : st.file = some dir := hd
    exact ⟨fun _ _ _ => rfl, fun kd hk he => absurd he (hwf.fileStart dir hf kd hk)⟩
  | some k =>
    have hm : (k, dir) ∈ st.lines := lookupLine_mem hd
    refine ⟨fun f hf he => absurd he.symm (hwf.fileStart f hf (k, dir) hm), fun kd hk he => ?_⟩
    rw [inj_start st.lines hwf.starts hk hm he]

/-- **unused**: the code is reported as unused at its directive iff it was not used, its rule is enabled (configured or
declared by the external linter), `ban-unused-ignore` is enabled, and the file-level switch is not set -/
theorem unused_reported_iff (cfg : Cfg) (extCodes : List String) (st : St) (raw : List Diag) (hwf : WF st)
    (hraw : ∀ d ∈ raw, Diag.isRaw d = true)
    (key : DirKey) (dir : Dir) (hd : dirAt st key = some dir) (c : String) (hc : c ∈ dir.codes) :
    reportUnused dir c ∈ collect cfg extCodes st raw ↔
      (finalSt cfg extCodes st raw).used key c = false ∧ c ∈ extCodes ++ cfg.configured ∧
      cUnused ∈ extCodes ++ cfg.configured ∧ fileNames st cUnused = false := by
  refine (mem_collect_iff.trans ?_).trans unusedSel_iff
  constructor
  · rintro (⟨h, _⟩ | h | h)
    · cases hraw _ h
    · exact absurd (mem_allDirDiags h).1.symm cUnknown_ne_cUnused
    · -- the directive that starts where `dir` starts is `dir`
      rcases sel_of_mem (fun _ _ h => Payload.unused.inj h) h with ⟨f, hf, hs, hp⟩ | ⟨kd, hk, hs, hp⟩
      · rwa [(directive_of_start hwf hd).1 f hf hs]
      · rwa [(directive_of_start hwf hd).2 kd hk hs]
  · exact fun h => Or.inr (Or.inr (mem_of_sel hd hc h))

/-- **at most once**: the accounting diagnostics of a well-formed directive state are pairwise distinct, so each
(directive, code) report occurs at most once in the result -/
theorem allDirDiags_nodup (code : String) (mk : String → Payload) (hmk : ∀ a b, mk a = mk b → a = b)
    (p : DirKey → String → Bool) (st : St) (hwf : WF st) : (allDirDiags code mk p st).Nodup := by
  have hdir : ∀ (q : String → Bool) (d : Dir), d.codes.Nodup → (dirDiags code mk q d).Nodup := by
    intro q d hn
    unfold dirDiags
    have h1 : ((d.codes.filter q).mergeSort strLe).Nodup :=
      (List.mergeSort_perm _ _).nodup_iff.mpr (hn.sublist List.filter_sublist)
    refine List.Pairwise.map _ ?_ h1
    intro a b hab he
    simp only [Diag.mk.injEq] at he
    exact hab (hmk _ _ he.2.2)
  unfold allDirDiags
  rw [List.nodup_append]
  refine ⟨?_, ?_, ?_⟩
  · cases hf : st.file with
    | none => exact List.Pairwise.nil
    | some f => exact hdir _ f (hwf.fileCodes f hf)
  · rw [List.Nodup, List.pairwise_flatMap]
    refine ⟨fun kd hk => hdir _ kd.2 (hwf.lineCodes kd hk), ?_⟩
    have hs := hwf.starts
    rw [List.Nodup, List.pairwise_map] at hs
    refine hs.imp ?_
    intro a b hab x hx y hy hxy
    obtain ⟨_, _, _, rfl⟩ := mem_dirDiags.mp hx
    obtain ⟨_, _, _, rfl⟩ := mem_dirDiags.mp hy
    simp only [Diag.mk.injEq, Option.some.injEq, Prod.mk.injEq] at hxy
    exact hab hxy.2.1.1
  · intro x hx y hy hxy
    cases hf : st.file with
    | none => simp [hf] at hx
    | some f =>
      simp only [hf] at hx
      obtain ⟨_, _, _, rfl⟩ := mem_dirDiags.mp hx
      obtain ⟨kd, hk, hy⟩ := List.mem_flatMap.mp hy
      obtain ⟨_, _, _, rfl⟩ := mem_dirDiags.mp hy
      simp only [Diag.mk.injEq, Option.some.injEq, Prod.mk.injEq] at hxy
      exact hwf.fileStart f hf kd hk hxy.2.1.1.symm

theorem reported_at_most_once (cfg : Cfg) (extCodes : List String) (st : St) (raw : List Diag) (hwf : WF st)
    (hraw : ∀ d ∈ raw, Diag.isRaw d = true) (x : Diag) (hx : Diag.isRaw x = false) :
    (collect cfg extCodes st raw).count x ≤ 1 := by
  rw [collect_closed, (List.mergeSort_perm _ _).count_eq, List.append_assoc, List.count_append,
    List.count_eq_zero.mpr fun h => (by rw [hraw _ (List.mem_filter.mp h).1] at hx; cases hx), Nat.zero_add]
  refine List.nodup_iff_count.mp (List.nodup_append.mpr
    ⟨allDirDiags_nodup _ _ (fun _ _ h => Payload.unknown.inj h) _ _ hwf,
      allDirDiags_nodup _ _ (fun _ _ h => Payload.unused.inj h) _ _ hwf, fun a ha b hb hab => ?_⟩) x
  exact cUnknown_ne_cUnused ((mem_allDirDiags ha).1.symm.trans (hab ▸ (mem_allDirDiags hb).1))

/-- **exactly one** of the four outcomes, under the two sanity conditions of the setting: every configured rule is a
known rule (`all_rule_codes ⊇ rules`), and every diagnostic carries a known or declared code. -/
theorem exactly_one (cfg : Cfg) (extCodes : List String) (st : St) (raw : List Diag) (hwf : WF st)
    (hraw : ∀ d ∈ raw, Diag.isRaw d = true)
    (hknown : ∀ x ∈ cfg.configured, x ∈ cfg.allCodes)
    (hcodes : ∀ d ∈ raw, d.code ∈ cfg.allCodes ++ extCodes)
    (hmarks : st.marks = [])
    (key : DirKey) (dir : Dir) (hd : dirAt st key = some dir) (c : String) (hc : c ∈ dir.codes)
    (hsw : ¬ (key = none ∧ (c = cUnknown ∨ c = cUnused))) :
    let suppressedSomething := ∃ d ∈ raw, hits st d = some (key, c)
    let repU := reportUnused dir c ∈ collect cfg extCodes st raw
    let repK := reportUnknown dir c ∈ collect cfg extCodes st raw
    (suppressedSomething → ¬ repU ∧ ¬ repK) ∧ (repU → ¬ repK) ∧
    (¬ suppressedSomething ∧ ¬ repU ∧ ¬ repK →
      -- silent: the named rule is not enabled / `ban-unused-ignore` is off, resp. unknown-code checking is off
      (c ∈ cfg.allCodes ++ extCodes ∧
        (c ∉ extCodes ++ cfg.configured ∨ cUnused ∉ extCodes ++ cfg.configured ∨ fileNames st cUnused = true)) ∨
      (c ∉ cfg.allCodes ++ extCodes ∧ (cfg.checkUnknown = false ∨ fileNames st cUnknown = true))) := by
  intro sup repU repK
  have hU := unused_reported_iff cfg extCodes st raw hwf hraw key dir hd c hc
  have hK := unknown_reported_iff cfg extCodes st raw hraw key dir hd c hc
  have hused := used_final_iff cfg extCodes st raw key c
  have hhit_known : sup → c ∈ cfg.allCodes ++ extCodes := by
    rintro ⟨d, hdm, hh⟩
    exact (hits_some hh).1 ▸ hcodes d hdm
  refine ⟨fun hs => ⟨fun hu => ?_, fun hk => ?_⟩, fun hu hk => ?_, fun ⟨hns, hnu, hnk⟩ => ?_⟩
  · have := (hU.mp hu).1
    have h' : (finalSt cfg extCodes st raw).used key c = true := hused.mpr (Or.inr (Or.inl hs))
    rw [h'] at this; cases this
  · exact (hK.mp hk).1 (hhit_known hs)
  · have h1 := (hU.mp hu).2.1
    have h2 := (hK.mp hk).1
    apply h2
    rcases List.mem_append.mp h1 with h | h
    · exact List.mem_append.mpr (Or.inr h)
    · exact List.mem_append.mpr (Or.inl (hknown c h))
  · by_cases hkn : c ∈ cfg.allCodes ++ extCodes
    · left
      refine ⟨hkn, ?_⟩
      have hnotused : (finalSt cfg extCodes st raw).used key c = false := by
        cases hh : (finalSt cfg extCodes st raw).used key c with
        | false => rfl
        | true =>
          rcases hused.mp hh with h | h | ⟨h1, h2, _, _⟩
          · rw [hmarks] at h; cases h
          · exact absurd h hns
          · exact absurd ⟨h1, Or.inl h2⟩ hsw
      by_cases h1 : c ∈ extCodes ++ cfg.configured
      · by_cases h2 : cUnused ∈ extCodes ++ cfg.configured
        · cases h3 : fileNames st cUnused with
          | true => exact Or.inr (Or.inr rfl)
          | false => exact absurd (hU.mpr ⟨hnotused, h1, h2, h3⟩) hnu
        · exact Or.inr (Or.inl h2)
      · exact Or.inl h1
    · right
      refine ⟨hkn, ?_⟩
      cases h2 : cfg.checkUnknown with
      | false => exact Or.inl rfl
      | true =>
        cases h3 : fileNames st cUnknown with
        | true => exact Or.inr rfl
        | false => exact absurd (hK.mpr ⟨hkn, h2, h3⟩) hnk

/-- naming an accounting rule in a *line-level* directive has no suppressing effect on that rule's reports:
the two switches read the file-level directive only -/
theorem line_level_switch_has_no_effect (cfg : Cfg) (extCodes : List String) (st : St) (raw : List Diag)
    (hraw : ∀ d ∈ raw, Diag.isRaw d = true)
    (key : DirKey) (dir : Dir) (hd : dirAt st key = some dir) (c : String) (hc : c ∈ dir.codes)
    (hfile : st.file = none) :
    reportUnknown dir c ∈ collect cfg extCodes st raw ↔ c ∉ cfg.allCodes ++ extCodes ∧ cfg.checkUnknown = true := by
  rw [unknown_reported_iff cfg extCodes st raw hraw key dir hd c hc]
  simp [fileNames, hfile]

example : WF { file := some ⟨0, 0, ["a", "b"]⟩, lines := [(2, ⟨30, 2, ["b"]⟩), (5, ⟨70, 5, ["zz", "a"]⟩)] } :=
  ⟨by decide, by decide, by decide, by decide, by decide⟩

end DL.Props.C07
