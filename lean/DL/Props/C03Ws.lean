import DL.Gen.RuleStructs
import DL.Model.Ws
import DL.Props.C03Txt
/-!
# C03 / C09 — the text-scanning rule `no-irregular-whitespace` (M-WS)

For every file given as its gaps and tokens: each reported range is non-empty and inside the file (`scan_bounds`), moving
the file moves the ranges (`scan_shift`), and a prefix without irregular characters only moves them
(`clean_prefix_only_shifts`).  `ws_regexes_as_modelled` compares the two regular expressions of the rule with the source.
-/
namespace DL.Props.C03Ws
open DL.Txt (utf8Len bytes)
open DL.Ws
open DL.Props.C03Txt (utf8Len_pos)

theorem bytes_cons (c : Char) (t : List Char) : bytes (c :: t) = utf8Len c + bytes t := by simp [bytes]
theorem bytes_append (a b : List Char) : bytes (a ++ b) = bytes a + bytes b := by simp [bytes, List.map_append, List.sum_append]

def curOk (cur : Option Nat) (i : Nat) : Prop := ∀ s, cur = some s → s < i

/-- every run is a non-empty range inside the text (or starting at the run in progress) -/
theorem runs_bounds : ∀ (t : List Char) (cur : Option Nat) (i : Nat), curOk cur i →
    ∀ r ∈ runs cur i t, r.start < r.stop ∧ (cur.getD i) ≤ r.start ∧ r.stop ≤ i + bytes t := by
  intro t
  induction t with
  | nil =>
    intro cur i hc r hr
    cases cur with
    | none => simp [runs] at hr
    | some s =>
      simp [runs] at hr; subst hr
      have := hc s rfl
      simp [bytes]; omega
  | cons c t ih =>
    intro cur i hc r hr
    have hp := utf8Len_pos c
    simp only [runs] at hr
    split at hr
    · have := ih (some (cur.getD i)) (i + utf8Len c) (by
        intro s hs; cases cur with
        | none => simp at hs; omega
        | some s' => simp at hs; have := hc s' rfl; omega) r hr
      simp only [Option.getD_some] at this
      rw [bytes_cons]; omega
    · rw [List.mem_append] at hr
      rcases hr with hr | hr
      · cases cur with
        | none => simp at hr
        | some s =>
          simp at hr; subst hr
          have := hc s rfl
          simp [bytes_cons]; omega
      · have := ih none (i + utf8Len c) (by intro s hs; simp at hs) r hr
        simp only [Option.getD_none] at this
        rw [bytes_cons]
        cases cur with
        | none => simp; omega
        | some s => have := hc s rfl; simp; omega

theorem lineTerms_bounds : ∀ (t : List Char) (i : Nat), ∀ r ∈ lineTerms i t, r.start < r.stop ∧ i ≤ r.start ∧ r.stop ≤ i + bytes t := by
  intro t
  induction t with
  | nil => intro i r hr; simp [lineTerms] at hr
  | cons c t ih =>
    intro i r hr
    have hp := utf8Len_pos c
    simp only [lineTerms, List.mem_append] at hr
    rcases hr with hr | hr
    · split at hr
      · simp at hr; subst hr; simp [bytes_cons]; omega
      · simp at hr
    · have := ih (i + utf8Len c) r hr
      rw [bytes_cons]; omega

/-- **C03 for no-irregular-whitespace**: every reported range is non-empty and lies inside the file -/
theorem scan_bounds : ∀ (segs : List (Bool × List Char)) (i : Nat), ∀ r ∈ scan i segs,
    r.start < r.stop ∧ i ≤ r.start ∧ r.stop ≤ i + bytes (segs.flatMap (·.2)) := by
  intro segs
  induction segs with
  | nil => intro i r hr; simp [scan] at hr
  | cons sg rest ih =>
    intro i r hr
    obtain ⟨b, t⟩ := sg
    simp only [List.flatMap_cons, bytes_append]
    cases b with
    | true =>
      simp only [scan, List.mem_append, gap] at hr
      rcases hr with (hr | hr) | hr
      · have := runs_bounds t none i (by intro s hs; simp at hs) r hr
        simp only [Option.getD_none] at this; omega
      · have := lineTerms_bounds t i r hr; omega
      · have := ih (i + bytes t) r hr; omega
    | false =>
      simp only [scan] at hr
      have := ih (i + bytes t) r hr; omega

def shift (k : Nat) (r : Rng) : Rng := ⟨r.start + k, r.stop + k⟩

theorem runs_shift : ∀ (t : List Char) (cur : Option Nat) (i k : Nat),
    runs (cur.map (· + k)) (i + k) t = (runs cur i t).map (shift k) := by
  intro t
  induction t with
  | nil => intro cur i k; cases cur <;> simp [runs, shift]
  | cons c t ih =>
    intro cur i k
    simp only [runs]
    split
    · have := ih (some (cur.getD i)) (i + utf8Len c) k
      have e : i + k + utf8Len c = i + utf8Len c + k := by omega
      rw [e]
      cases cur with
      | none => simpa using this
      | some s => simpa using this
    · have := ih none (i + utf8Len c) k
      have e : i + k + utf8Len c = i + utf8Len c + k := by omega
      rw [e, List.map_append]
      cases cur with
      | none => simpa using this
      | some s => simp [shift]; simpa using this

theorem lineTerms_shift : ∀ (t : List Char) (i k : Nat), lineTerms (i + k) t = (lineTerms i t).map (shift k) := by
  intro t
  induction t with
  | nil => intro i k; simp [lineTerms]
  | cons c t ih =>
    intro i k
    have e : i + k + utf8Len c = i + utf8Len c + k := by omega
    simp only [lineTerms, List.map_append, e, ih]
    split <;> simp [shift] <;> omega

/-- **C09 for no-irregular-whitespace**: moving the file by `k` bytes moves every range by `k` -/
theorem scan_shift : ∀ (segs : List (Bool × List Char)) (i k : Nat), scan (i + k) segs = (scan i segs).map (shift k) := by
  intro segs
  induction segs with
  | nil => intro i k; simp [scan]
  | cons sg rest ih =>
    intro i k
    obtain ⟨b, t⟩ := sg
    have e : i + k + bytes t = i + bytes t + k := by omega
    cases b with
    | true =>
      simp only [scan, gap, List.map_append, e, ih]
      have := runs_shift t none i k
      simp only [Option.map_none] at this
      rw [this, lineTerms_shift]
    | false => simp only [scan, e, ih]

/-- a prefix without irregular characters contributes nothing of its own … -/
theorem runs_clean_prefix : ∀ (p g : List Char) (i : Nat), (∀ c ∈ p, isIrregular c = false) →
    runs none i (p ++ g) = runs none (i + bytes p) g := by
  intro p
  induction p with
  | nil => intro g i _; simp [bytes]
  | cons c p ih =>
    intro g i h
    have hc : isIrregular c = false := h c (by simp)
    simp only [List.cons_append, runs, hc, Bool.false_eq_true, if_false, List.nil_append]
    rw [ih g (i + utf8Len c) (fun d hd => h d (by simp [hd])), bytes_cons]
    congr 1; omega

theorem lineTerms_clean_prefix : ∀ (p g : List Char) (i : Nat), (∀ c ∈ p, isLineTerm c = false) →
    lineTerms i (p ++ g) = lineTerms (i + bytes p) g := by
  intro p
  induction p with
  | nil => intro g i _; simp [bytes]
  | cons c p ih =>
    intro g i h
    have hc : isLineTerm c = false := h c (by simp)
    simp only [List.cons_append, lineTerms, hc, Bool.false_eq_true, if_false, List.nil_append]
    rw [ih g (i + utf8Len c) (fun d hd => h d (by simp [hd])), bytes_cons]
    congr 1; omega

/-- … so text without irregular characters put in front of the first gap (blank lines, spaces, ordinary comments) only
moves the findings of the file -/
theorem clean_prefix_only_shifts (p g : List Char) (rest : List (Bool × List Char))
    (h1 : ∀ c ∈ p, isIrregular c = false) (h2 : ∀ c ∈ p, isLineTerm c = false) :
    noIrregularWhitespace ((true, p ++ g) :: rest) = (noIrregularWhitespace ((true, g) :: rest)).map (shift (bytes p)) := by
  simp only [noIrregularWhitespace, scan, gap, List.map_append]
  rw [runs_clean_prefix p g 0 h1, lineTerms_clean_prefix p g 0 h2, bytes_append]
  have r1 := runs_shift g none 0 (bytes p)
  have r2 := lineTerms_shift g 0 (bytes p)
  have r3 := scan_shift rest (0 + bytes g) (bytes p)
  simp only [Option.map_none, Nat.zero_add] at r1 r2 r3 ⊢
  rw [r1, r2, ← r3]
  congr 2; omega

-- `a  b ` as one gap: one run of two no-break spaces, one line separator
example : noIrregularWhitespace [(true, ['a', ' ', ' ', 'b', ' '])] = [⟨1, 5⟩, ⟨6, 9⟩] := by decide +kernel
-- inside a token nothing is reported
example : noIrregularWhitespace [(true, [' ']), (false, ['"', ' ', '"']), (true, ['　'])] = [⟨5, 8⟩] := by decide +kernel

/-! ## the two regular expressions of no-irregular-whitespace, read off the source on every run

M-WS re-implements `IRREGULAR_WHITESPACE` (maximal runs of 22 characters) and `IRREGULAR_LINE_TERMINATORS` by hand.  The
literals of the source (`Gen/RuleStructs.lean`, every `Regex::new(<literal>)`) are the ones modelled. -/
theorem ws_regexes_as_modelled :
    DL.Gen.regexLiterals.filter (fun r => r.1 == "src/rules/no_irregular_whitespace.rs") =
      [("src/rules/no_irregular_whitespace.rs", "IRREGULAR_WHITESPACE",
         "[\\f\\v\\u0085\\ufeff\\u00a0\\u1680\\u180e\\u2000\\u2001\\u2002\\u2003\\u2004\\u2005\\u2006\\u2007\\u2008\\u2009\\u200a\\u200b\\u202f\\u205f\\u3000]+"),
       ("src/rules/no_irregular_whitespace.rs", "IRREGULAR_LINE_TERMINATORS", "[\\u2028\\u2029]")] := by
  decide +kernel

end DL.Props.C03Ws
