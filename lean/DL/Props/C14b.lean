import DL.Lemmas.Scope2

/-!
# C14 (richer model) — rules about global names respect lexical scoping, with hoisting

Model: `DL.Scope2` (`Model/Scope2.lean`): lexical declarations (visible in the whole of their scope), `var` (hoisted to
the nearest enclosing function or the program, through blocks / catch bodies / loop bodies), parameters, names of
function expressions, catch parameters and `let`/`const` loop heads.  A global-name rule is `globalReports g`: it reports
the reference occurrences spelled `g` that the resolver left unresolved.

`reported_iff`: a reference under an arbitrary stack of enclosing scopes (all scope kinds, arbitrary statements before
and after the hole in each, any depth) is reported iff no enclosing scope *declares* `g` (`declares`): as its name /
parameter / catch parameter / loop variable, by a lexical declaration anywhere in the scope (before or after the
reference), or — a function — by a `var` anywhere in its body that is not inside a nested function (in a sibling
subtree of the function itself or of any scope between the function and the reference: `hoisted`, `mem_hoisted`).
-/
namespace DL.Props.C14b
open DL.Scope2 DL.Binding

/-- **C14 (model with hoisting)**: a reference to `g` placed under the scopes `ls` (outermost first) produces exactly
one occurrence at the hole, and the rule reports it iff none of the enclosing scopes declares `g`. -/
theorem reported_iff (g : Nat) (ls : List Layer) :
    ∃ pre post e, (plug ls (.ref g)).res [] = pre ++ e :: post ∧ e.kind = .ref ∧ e.name = g ∧
      (isGlobalRef g e = true ↔ ¬ declares g ls) := by
  obtain ⟨pre, post, h⟩ := plug_res ls (.ref g) rfl []
  refine ⟨pre, post, ⟨.ref, g, lookup (envOf ls [] []) g⟩, by simpa [Item.res, Item.vars] using h.symm, rfl, rfl, ?_⟩
  simp only [isGlobalRef, BEq.rfl, Bool.true_and, beq_iff_eq, lookup_envOf_none_iff, lookup, and_true]

/-- what a program (the module scope, like a function without parameters) declares around a hole under `ls` -/
def programDeclares (g : Nat) (pre post : Items) (ls : List Layer) : Prop :=
  g ∈ pre.lets ++ post.lets ∨ g ∈ pre.vars ++ post.vars ∨ g ∈ hoisted ls ∨ declares g ls

/-- the same for whole programs: `pre; <ls[ g ]>; post` at module level — `var`s of the module level and of blocks
below it (beside the hole or in other statements) bind as well -/
theorem reported_iff_program (g : Nat) (pre post : Items) (ls : List Layer) :
    ∃ preE postE e, Program.res (pre.append (.cons (plug ls (.ref g)) post)) = preE ++ e :: postE ∧
      e.kind = .ref ∧ e.name = g ∧ (isGlobalRef g e = true ↔ ¬ programDeclares g pre post ls) := by
  have hfr : funcFrame [] (pre.append (.cons (plug ls (.ref g)) post)) =
      (pre.lets ++ post.lets) ++ (pre.vars ++ (holeVars ls [] ++ post.vars)) := by
    simp only [funcFrame, lets_hole pre post _ (plug_notLet ls (.ref g) rfl), vars_hole, plug_vars, Item.vars,
      List.nil_append]
  obtain ⟨preE, postE, h⟩ := (plug_res ls (.ref g) rfl _).trans
    (res_hole [(.scope 0, funcFrame [] (pre.append (.cons (plug ls (.ref g)) post)))] pre post _)
  refine ⟨preE, postE, ⟨.ref, g, _⟩, by simpa [Program.res, Item.res] using h.symm, rfl, rfl, ?_⟩
  simp only [isGlobalRef, BEq.rfl, Bool.true_and, beq_iff_eq, Item.vars, lookup_envOf_none_iff]
  rw [lookup_cons, push_eq_none_iff, hfr]
  simp only [programDeclares, List.mem_append, mem_holeVars_nil, lookup, and_true, not_or]
  constructor
  · rintro ⟨hd, ⟨hl1, hl2⟩, hv1, hh, hv2⟩
    exact ⟨⟨hl1, hl2⟩, ⟨hv1, hv2⟩, hh, hd⟩
  · rintro ⟨⟨hl1, hl2⟩, ⟨hv1, hv2⟩, hh, hd⟩
    exact ⟨hd, ⟨hl1, hl2⟩, hv1, hh, hv2⟩

/-- the bound direction for whole subtrees: below a binding of `g` nothing is reported, whatever the subtree is
(all nesting depths at once, all scope kinds) -/
theorem bound_subtree_silent (g : Nat) (i : Item) (env : Env) (h : lookup env g ≠ none) :
    ∀ e ∈ i.res env, isGlobalRef g e = false := Item.bound_silent g i env h

/-- enclosing scopes further out do not undo a declaration -/
theorem declares_append (g : Nat) (a b : List Layer) (h : declares g b) : declares g (a ++ b) := by
  induction a with
  | nil => exact h
  | cons l r ih => exact Or.inr (Or.inr ih)

/-! ### sibling subtrees: the interesting difference between functions and blocks -/

/-- one more statement `it` beside the hole of a function layer adds to what the context declares exactly the `var`s it
lets out: none for a function, those of the body for a block, a catch clause or a loop -/
theorem sibling_iff (g id : Nat) (nm : Option Nat) (ps : List Nat) (pre post : Items) (it : Item)
    (hl : it.notLet = true) (ls : List Layer) :
    declares g (Layer.func id nm ps (pre.append (.cons it .nil)) post :: ls) ↔
      (g ∈ it.vars ∨ declares g (Layer.func id nm ps pre post :: ls)) := by
  simp only [declares, Layer.own, Layer.isFunc, lets_hole pre .nil it hl, vars_append, Items.lets, Items.vars,
    List.mem_append, List.append_nil]
  grind

/-- a sibling **function** is opaque: whatever it contains — in particular a `var g` — changes neither the frames the
enclosing function pushes nor what the context declares -/
theorem sibling_func_var_does_not_bind (g id id' : Nat) (nm nm' : Option Nat) (ps ps' : List Nat)
    (pre post inner : Items) (ls : List Layer) (v : List Nat) :
    (Layer.func id nm ps (pre.append (.cons (.func id' nm' ps' inner) .nil)) post).frames v =
      (Layer.func id nm ps pre post).frames v ∧
    (declares g (Layer.func id nm ps (pre.append (.cons (.func id' nm' ps' inner) .nil)) post :: ls) ↔
      declares g (Layer.func id nm ps pre post :: ls)) :=
  ⟨by simp [Layer.frames, lets_append, vars_append, Items.lets, Items.vars, Item.vars],
    (sibling_iff g id nm ps pre post _ rfl ls).trans (or_iff_right List.not_mem_nil)⟩

/-- a sibling **block** (likewise a catch body or loop body) of the same function is transparent for `var`: the
enclosing function declares exactly the `var`s of the block in addition -/
theorem sibling_block_var_binds_iff (g id id' : Nat) (nm : Option Nat) (ps : List Nat) (pre post inner : Items)
    (ls : List Layer) :
    declares g (Layer.func id nm ps (pre.append (.cons (.block id' inner) .nil)) post :: ls) ↔
      (g ∈ inner.vars ∨ declares g (Layer.func id nm ps pre post :: ls)) :=
  sibling_iff g id nm ps pre post _ rfl ls

theorem sibling_block_var_binds (g id id' : Nat) (nm : Option Nat) (ps : List Nat) (pre post inner : Items)
    (ls : List Layer) (h : g ∈ inner.vars) :
    declares g (Layer.func id nm ps (pre.append (.cons (.block id' inner) .nil)) post :: ls) :=
  (sibling_iff g id nm ps pre post _ rfl ls).mpr (Or.inl h)

theorem sibling_catch_var_binds (g id id' : Nat) (nm p : Option Nat) (ps : List Nat) (pre post inner : Items)
    (ls : List Layer) (h : g ∈ inner.vars) :
    declares g (Layer.func id nm ps (pre.append (.cons (.catchC id' p inner) .nil)) post :: ls) :=
  (sibling_iff g id nm ps pre post _ rfl ls).mpr (Or.inl h)

theorem sibling_loop_var_binds (g id id' z : Nat) (nm : Option Nat) (ps : List Nat) (pre post inner : Items)
    (ls : List Layer) (h : g ∈ inner.vars) :
    declares g (Layer.func id nm ps (pre.append (.cons (.forLet id' z inner) .nil)) post :: ls) :=
  (sibling_iff g id nm ps pre post _ rfl ls).mpr (Or.inl h)

/-- …and the `var` may sit beside the reference arbitrarily deep below the function, as long as no function lies in
between: `function f() { { { g; { var g; } } } }` -/
theorem deep_sibling_block_var_binds (g id : Nat) (nm : Option Nat) (ps : List Nat) (pre post : Items)
    (mid : List Layer) (hmid : ∀ l ∈ mid, l.isFunc = false) (l : Layer) (hl : l.isFunc = false) (hg : g ∈ l.sideVars)
    (ls : List Layer) : declares g (Layer.func id nm ps pre post :: (mid ++ l :: ls)) :=
  Or.inr (Or.inl ⟨rfl, (mem_hoisted _ g).mpr ⟨mid, l, ls, rfl, hmid, hl, hg⟩⟩)

/-- a function between the `var` and an outer function stops the hoisting: seen from outside, the function layer lets no
`var` through -/
theorem hoisted_stops_at_func (id : Nat) (nm : Option Nat) (ps : List Nat) (pre post : Items) (ls : List Layer) :
    hoisted (Layer.func id nm ps pre post :: ls) = [] := rfl

/-- a sibling *lexical* declaration inside a block stays there; property keys and references declare nothing -/
theorem declared_ignores_siblings (id id' x : Nat) (pre post inner : Items) (h : inner.vars = []) :
    (Layer.block id (pre.append (.cons (.block id' inner) .nil)) post).own = (Layer.block id pre post).own ∧
    (Layer.block id (pre.append (.cons (.block id' inner) .nil)) post).sideVars = (Layer.block id pre post).sideVars ∧
    (Layer.block id (pre.append (.cons (.key x) .nil)) post).own = (Layer.block id pre post).own ∧
    (Layer.block id (pre.append (.cons (.ref x) .nil)) post).own = (Layer.block id pre post).own := by
  simp [Layer.own, Layer.sideVars, lets_append, vars_append, Items.lets, Items.vars, Item.vars, h]

/-- property keys and member names are never occurrences at all -/
theorem key_is_no_occurrence (x : Nat) (env : Env) : (Item.key x).res env = [] := rfl

/-! g = 7; `l` builds statement lists -/
def l : List Item → Items := fun xs => xs.foldr Items.cons .nil

/-- `function f() { g; { var g; } }` — bound: the `var` in the sibling block is hoisted to `f` -/
def varInBlock : Items := l [.letDecl 1, .func 1 none [] (l [.ref 7, .block 2 (l [.varDecl 7])])]
example : globalReports 7 varInBlock = [] := by decide +kernel
example : (Program.res varInBlock).map (·.bind) = [some (.scope 0), some (.scope 1), some (.scope 1)] := by decide +kernel

/-- `function f() { g; }  function h() { var g; }` — not bound: reported (occurrence 1) -/
def varInOtherFunc : Items :=
  l [.letDecl 1, .func 1 none [] (l [.ref 7]), .letDecl 2, .func 2 none [] (l [.varDecl 7])]
example : globalReports 7 varInOtherFunc = [1] := by decide +kernel
example : (Program.res varInOtherFunc).map (·.bind) = [some (.scope 0), none, some (.scope 0), some (.scope 2)] := by
  decide +kernel

/-- `function f() { g; function h() { var g; } }` — a nested function does not leak its `var` either -/
example : globalReports 7 (l [.letDecl 1, .func 1 none [] (l [.ref 7, .letDecl 2, .func 2 none [] (l [.varDecl 7])])])
    = [1] := by decide +kernel

/-- `g; try { } catch (g) { g; }  g;` — the catch parameter binds inside the clause only -/
def catchParam : Items := l [.ref 7, .block 1 .nil, .catchC 2 (some 7) (l [.ref 7]), .ref 7]
example : globalReports 7 catchParam = [0, 3] := by decide +kernel
example : (Program.res catchParam).map (·.bind) = [none, some (.scope 2), some (.scope 2), none] := by decide +kernel

/-- `(function g(a) { g; a; });  g;` — a named function expression refers to itself; the name is not visible outside -/
def namedFuncExpr : Items := l [.func 1 (some 7) [3] (l [.ref 7, .ref 3]), .ref 7]
example : globalReports 7 namedFuncExpr = [4] := by decide +kernel
example : (Program.res namedFuncExpr).map (·.bind) =
    [some (.head 1), some (.scope 1), some (.head 1), some (.scope 1), none] := by decide +kernel

/-- `(function g(g) { g; })` / `(function g() { var g; g; })` — parameter and `var` shadow the name (distinct bindings) -/
example : (Program.res (l [.func 1 (some 7) [7] (l [.ref 7])])).map (·.bind) =
    [some (.head 1), some (.scope 1), some (.scope 1)] := by decide +kernel
example : (Program.res (l [.func 1 (some 7) [] (l [.varDecl 7, .ref 7])])).map (·.bind) =
    [some (.head 1), some (.scope 1), some (.scope 1)] := by decide +kernel

/-- `for (const g of …) { g; let g; }  g;` — the head binding is shadowed by the body's own declaration; a `let` after
the reference binds it (temporal dead zone is not a scoping matter) -/
example : (Program.res (l [.forLet 1 7 (l [.ref 7, .letDecl 7]), .ref 7])).map (·.bind) =
    [some (.head 1), some (.scope 1), some (.scope 1), none] := by decide +kernel
example : globalReports 7 (l [.forLet 1 7 (l [.ref 7]), .ref 7]) = [2] := by decide +kernel

/-- `{ g; }  { { var g; } }` at module level — a `var` in a block is a module-level binding -/
example : globalReports 7 (l [.block 1 (l [.ref 7]), .block 2 (l [.block 3 (l [.varDecl 7])])]) = [] := by decide +kernel

/-- all of these are well-formed -/
example : Program.wf varInBlock = true ∧ Program.wf varInOtherFunc = true ∧ Program.wf catchParam = true ∧
    Program.wf namedFuncExpr = true := by decide +kernel
/-- and `WF` does reject the early errors: `{ let a; { var a; } }`, `let a; let a;`, `function f(a) { let a; }`,
`catch (a) { var a; }`, `for (const a of …) { var a; }` -/
example : Program.wf (l [.block 1 (l [.letDecl 1, .block 2 (l [.varDecl 1])])]) = false ∧
    Program.wf (l [.letDecl 1, .letDecl 1]) = false ∧
    Program.wf (l [.func 1 none [1] (l [.letDecl 1])]) = false ∧
    Program.wf (l [.catchC 1 (some 1) (l [.varDecl 1])]) = false ∧
    Program.wf (l [.forLet 1 1 (l [.varDecl 1])]) = false := by decide +kernel

/-- the instance of `reported_iff` for the first example, through the context machinery -/
example : plug [.func 1 none [] .nil (l [.block 2 (l [.varDecl 7])])] (.ref 7) =
    .func 1 none [] (l [.ref 7, .block 2 (l [.varDecl 7])]) := by decide +kernel
example : declares 7 [.func 1 none [] .nil (l [.block 2 (l [.varDecl 7])])] := Or.inl (by decide)
example : declares 7 [.func 1 none [] (l [.block 2 (l [.varDecl 7])]) .nil] :=
  sibling_block_var_binds 7 1 2 none [] .nil .nil (l [.varDecl 7]) [] (by decide)

end DL.Props.C14b
