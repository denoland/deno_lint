import DL.Model.Sel
import DL.Gen.RuleTable
import DL.Lemmas.StrOrder

/-!
# C15 — rule selection by tags, include and exclude follows its documented algebra

Theorems about `DL.Sel` (model of `filtered_rules`, `recommended_rules`, `sort_rules_by_priority`) for **every**
registry, tag set, include and exclude list; and table facts decided on the registry regenerated from /repo.
-/
namespace DL.Props.C15
open DL.Sel

/-- the property's membership law -/
def spec (tags excl incl : Option (List String)) (r : Rule) : Prop :=
  ((tags = none) ∨ (∃ ts, tags = some ts ∧ ∃ t ∈ r.tags, t ∈ ts) ∨ (∃ is, incl = some is ∧ r.code ∈ is)) ∧
  ¬ (∃ xs, excl = some xs ∧ r.code ∈ xs)

/-- the closure of `filtered_rules` as one Boolean expression: (tagged, or no tag list, or included) and not excluded -/
theorem passes_eq (tags excl incl : Option (List String)) (r : Rule) :
    passes tags excl incl r =
      ((tags.elim true (fun ts => r.tags.any fun t => ts.contains t) || incl.elim false (·.contains r.code)) &&
        !excl.elim false (·.contains r.code)) := by
  have h1 : ∀ b p : Bool, (if b then p || true else p) = (p || b) := by decide
  have h2 : ∀ b p : Bool, (if b then p && false else p) = (p && !b) := by decide
  unfold passes
  cases tags <;> cases incl <;> cases excl <;>
    simp only [Option.elim, h1, h2, Bool.or_false, Bool.not_false, Bool.and_true]

theorem passes_iff_spec (tags excl incl : Option (List String)) (r : Rule) :
    passes tags excl incl r = true ↔ spec tags excl incl r := by
  rw [passes_eq]
  unfold spec
  cases tags <;> cases incl <;> cases excl <;> simp

/-- membership law: a rule is selected iff it is in the registry, (carries a tag in T, or T is absent, or is
listed in I) and is not listed in X -/
theorem mem_filtered (all : List Rule) (tags excl incl : Option (List String)) (r : Rule) :
    r ∈ filtered all tags excl incl ↔ r ∈ all ∧ spec tags excl incl r := by
  simp [filtered, List.mem_mergeSort, List.mem_filter, passes_iff_spec]

/-- "each once": the result is a permutation of the filtered registry, so multiplicities are those of the registry -/
theorem filtered_perm (all : List Rule) (tags excl incl : Option (List String)) :
    (filtered all tags excl incl).Perm (all.filter (passes tags excl incl)) :=
  List.mergeSort_perm _ _

theorem filtered_nodup (all : List Rule) (tags excl incl : Option (List String))
    (h : (all.map (·.code)).Nodup) : ((filtered all tags excl incl).map (·.code)).Nodup := by
  have hp := (filtered_perm all tags excl incl).map (·.code)
  refine hp.nodup_iff.mpr ?_
  exact List.Nodup.sublist (List.Sublist.map _ List.filter_sublist) h

theorem filtered_sorted (all : List Rule) (tags excl incl : Option (List String)) :
    (filtered all tags excl incl).Pairwise (fun a b => a.code ≤ b.code) := by
  have := List.pairwise_mergeSort (le := codeLe)
    (fun a b c h1 h2 => by simp only [codeLe, decide_eq_true_eq] at *; exact String.le_trans h1 h2)
    (fun a b => by simp only [codeLe, Bool.or_eq_true, decide_eq_true_eq]; exact String.le_total _ _)
    (all.filter (passes tags excl incl))
  simpa [filtered, codeLe] using this

theorem filtered_congr {all : List Rule} {t e i t' e' i' : Option (List String)}
    (h : ∀ r ∈ all, passes t e i r = passes t' e' i' r) : filtered all t e i = filtered all t' e' i' := by
  unfold filtered; rw [List.filter_congr h]

/-- unknown names are ignored: a name that is no rule's code can be added to / removed from the lists freely -/
theorem unknown_include_ignored (all : List Rule) (tags excl : Option (List String)) (is : List String) (x : String)
    (hx : ∀ r ∈ all, r.code ≠ x) :
    filtered all tags excl (some (x :: is)) = filtered all tags excl (some is) :=
  filtered_congr fun r hr => by
    rw [passes_eq, passes_eq, Option.elim, Option.elim, List.contains_cons, beq_false_of_ne (hx r hr), Bool.false_or]

theorem unknown_exclude_ignored (all : List Rule) (tags incl : Option (List String)) (xs : List String) (x : String)
    (hx : ∀ r ∈ all, r.code ≠ x) :
    filtered all tags (some (x :: xs)) incl = filtered all tags (some xs) incl :=
  filtered_congr fun r hr => by
    rw [passes_eq, passes_eq, Option.elim, Option.elim, List.contains_cons, beq_false_of_ne (hx r hr), Bool.false_or]

/-- the recommended set is exactly the rules tagged `recommended`, in registry order -/
theorem mem_recommended (all : List Rule) (r : Rule) :
    r ∈ recommended all ↔ r ∈ all ∧ "recommended" ∈ r.tags := by
  simp [recommended, List.mem_filter]

theorem recommended_sublist (all : List Rule) : (recommended all).Sublist all := List.filter_sublist

/-- the linter runs exactly the selected rules: `sort_rules_by_priority` permutes -/
theorem sortByPriority_perm (rs : List Rule) : (sortByPriority rs).Perm rs := List.mergeSort_perm _ _

theorem prioLe_trans (a b c : Rule) (h1 : prioLe a b = true) (h2 : prioLe b c = true) : prioLe a c = true := by
  simp only [prioLe, Bool.or_eq_true, Bool.and_eq_true, decide_eq_true_eq, beq_iff_eq] at *
  rcases h1 with h1 | ⟨h1, h1'⟩ <;> rcases h2 with h2 | ⟨h2, h2'⟩
  · left; omega
  · left; omega
  · left; omega
  · right; exact ⟨by omega, String.le_trans h1' h2'⟩

theorem prioLe_total (a b : Rule) : (prioLe a b || prioLe b a) = true := by
  simp only [prioLe, Bool.or_eq_true, Bool.and_eq_true, decide_eq_true_eq, beq_iff_eq]
  rcases Nat.lt_trichotomy a.priority b.priority with h | h | h
  · left; left; exact h
  · rcases String.le_total a.code b.code with h' | h'
    · left; right; exact ⟨h, h'⟩
    · right; right; exact ⟨h.symm, h'⟩
  · right; left; exact h

theorem sortByPriority_sorted (rs : List Rule) : (sortByPriority rs).Pairwise (fun a b => prioLe a b = true) :=
  List.pairwise_mergeSort prioLe_trans prioLe_total rs

/-- … ordering them internally so that rules with a higher priority number run later: in the execution order no
rule of higher priority precedes one of lower priority -/
theorem sortByPriority_priority_monotone (rs : List Rule) :
    (sortByPriority rs).Pairwise (fun a b => a.priority ≤ b.priority) := by
  refine (sortByPriority_sorted rs).imp ?_
  intro a b h
  simp only [prioLe, Bool.or_eq_true, Bool.and_eq_true, decide_eq_true_eq, beq_iff_eq] at h
  omega

theorem inj_of_nodup_map : ∀ (l : List Rule), (l.map (·.code)).Nodup → ∀ {a b}, a ∈ l → b ∈ l → a.code = b.code → a = b
  | [], _, _, _, ha, _, _ => by cases ha
  | x :: l, hn, a, b, ha, hb, hc => by
    simp only [List.map_cons, List.nodup_cons, List.mem_map, not_exists, not_and] at hn
    rcases List.mem_cons.mp ha with rfl | ha' <;> rcases List.mem_cons.mp hb with rfl | hb'
    · rfl
    · exact absurd hc.symm (hn.1 b hb')
    · exact absurd hc (hn.1 a ha')
    · exact inj_of_nodup_map l hn.2 ha' hb' hc

/-- the execution order does not depend on the order in which the rules were supplied (distinct codes) -/
theorem sortByPriority_order_independent (rs rs' : List Rule) (hp : rs.Perm rs')
    (hn : (rs.map (·.code)).Nodup) : sortByPriority rs = sortByPriority rs' := by
  have h1 := sortByPriority_sorted rs
  have h2 := sortByPriority_sorted rs'
  have hperm : (sortByPriority rs).Perm (sortByPriority rs') :=
    (sortByPriority_perm rs).trans (hp.trans (sortByPriority_perm rs').symm)
  refine List.Perm.eq_of_pairwise (le := fun a b => prioLe a b = true) ?_ h1 h2 hperm
  intro a b ha hb hab hba
  have ha' : a ∈ rs := (sortByPriority_perm rs).mem_iff.mp ha
  have hb' : b ∈ rs := hp.symm.mem_iff.mp ((sortByPriority_perm rs').mem_iff.mp hb)
  simp only [prioLe, Bool.or_eq_true, Bool.and_eq_true, decide_eq_true_eq, beq_iff_eq] at hab hba
  have hc : a.code = b.code := by
    rcases hab with h | ⟨_, h⟩ <;> rcases hba with h' | ⟨_, h'⟩
    · omega
    · omega
    · omega
    · exact String.le_antisymm h h'
  exact inj_of_nodup_map rs hn ha' hb' hc

/-! ## facts about the registry regenerated from /repo (re-decided on every run) -/
open DL.Gen

/-- what is asked of one rule of the registry: a priority other than 0 goes with exactly the two accounting codes, and
every tag is a known one -/
def rowOk (r : Rule) : Bool :=
  ((r.priority != 0) == (r.code == "ban-unused-ignore" || r.code == "ban-unknown-rule-code")) &&
    r.tags.all ["recommended", "fresh", "jsr", "react", "jsx"].contains

/-- the codes ascend and every rule passes `rowOk`: one test, so that the registry's literals are evaluated once -/
def registryOk (t : List Rule) : Bool :=
  DL.Str.ascending (t.map (DL.Str.codes ∘ Rule.code)) && t.all rowOk

theorem registry_ok : registryOk ruleTable = true := by decide +kernel

theorem registry_row {r : Rule} (hr : r ∈ ruleTable) : rowOk r = true :=
  List.all_eq_true.mp (Bool.and_eq_true_iff.mp registry_ok).2 r hr

/-- order and distinctness of the codes together -/
theorem table_strictly_sorted : ruleTable.Pairwise (fun a b => a.code < b.code) :=
  DL.Str.pairwise_lt_of_ascending Rule.code (Bool.and_eq_true_iff.mp registry_ok).1

theorem table_codes_nodup : (ruleTable.map (·.code)).Nodup :=
  List.pairwise_map.mpr (table_strictly_sorted.imp String.ne_of_lt)

theorem table_sorted_by_code : ruleTable.Pairwise (fun a b => a.code ≤ b.code) :=
  table_strictly_sorted.imp fun h => String.lt_asymm h

/-- the only rules with a non-zero priority are the two directive-accounting rules -/
theorem table_priorities :
    ∀ r ∈ ruleTable, (r.priority ≠ 0 ↔ (r.code = "ban-unused-ignore" ∨ r.code = "ban-unknown-rule-code")) := by
  intro r hr
  rw [← bne_iff_ne, beq_iff_eq.mp (Bool.and_eq_true_iff.mp (registry_row hr)).1, Bool.or_eq_true, beq_iff_eq,
    beq_iff_eq]

theorem table_tags_known :
    ∀ r ∈ ruleTable, ∀ t ∈ r.tags, t ∈ ["recommended", "fresh", "jsr", "react", "jsx"] :=
  fun _ hr t ht => List.contains_iff_mem.mp (List.all_eq_true.mp (Bool.and_eq_true_iff.mp (registry_row hr)).2 t ht)

/-- hence: for any selection from the real registry the accounting rules run after every ordinary rule -/
theorem accounting_rules_run_last (rs : List Rule) (hs : ∀ r ∈ rs, r ∈ ruleTable) :
    (sortByPriority rs).Pairwise (fun a b =>
      (a.code = "ban-unused-ignore" ∨ a.code = "ban-unknown-rule-code") →
      (b.code = "ban-unused-ignore" ∨ b.code = "ban-unknown-rule-code")) := by
  have hmono := sortByPriority_priority_monotone rs
  have hmem : ∀ r ∈ sortByPriority rs, r ∈ ruleTable := fun r hr => hs r ((sortByPriority_perm rs).mem_iff.mp hr)
  rw [List.pairwise_iff_forall_sublist] at *
  intro a b hab ha
  have h := hmono hab
  have ha' := hmem a (hab.subset (by simp))
  have hb' := hmem b (hab.subset (by simp))
  have pa := (table_priorities a ha').mpr ha
  exact (table_priorities b hb').mp (by omega)

example : (⟨"no-debugger", ["recommended"], 0⟩ : Rule) ∈
    filtered ruleTable (some ["jsr"]) (some ["no-slow-types"]) (some ["no-debugger", "nope"]) :=
  (mem_filtered _ _ _ _ _).mpr ⟨by decide +kernel, by simp [spec]⟩
example : (⟨"no-slow-types", ["jsr"], 0⟩ : Rule) ∉
    filtered ruleTable (some ["jsr"]) (some ["no-slow-types"]) (some ["no-debugger", "nope"]) :=
  fun h => ((mem_filtered _ _ _ _ _).mp h).2.2 ⟨_, rfl, by simp⟩
example : spec (some ["jsr"]) none none ⟨"x", ["jsr"], 0⟩ := by simp [spec]

end DL.Props.C15
