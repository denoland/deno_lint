import DL.Gen.CtxAccess

/-!
# C18 — JSX factory configuration affects nothing but unused-variable analysis

* `effectiveFactory`: the factory expression `Context::new` ends up with (`context.rs`): the in-file pragma if
  there is one, else the configured default;
* non-interference: a rule that does not read the two factory fields of the context computes the same diagnostics under
  any two configurations; *which* rules read them is the translator table `Gen/CtxAccess` (syn, regenerated on every run);
* for `no-unused-vars`: marking the identifiers of the factory expression as used can only remove reports, and only
  reports about those identifiers.
-/
namespace DL.Props.C18

/-- pragma first, configured default second -/
def effectiveFactory (pragma default_ : Option String) : Option String :=
  match pragma with
  | some p => some p
  | none => default_

theorem pragma_takes_precedence (p : String) (d d' : Option String) :
    effectiveFactory (some p) d = effectiveFactory (some p) d' := rfl

theorem default_used_without_pragma (d : Option String) : effectiveFactory none d = d := rfl

/-- what a rule sees of a file: everything that does not depend on the configuration, plus the two factory fields -/
structure FileCtx (F : Type) where
  facts : F
  jsx : Option String
  jsxFrag : Option String

/-- "does not read the factory fields" -/
def IgnoresFactories {F D : Type} (rule : FileCtx F → List D) : Prop := ∃ r' : F → List D, ∀ c, rule c = r' c.facts

theorem config_noninterference {F D : Type} (rule : FileCtx F → List D) (h : IgnoresFactories rule)
    (facts : F) (j j' f f' : Option String) :
    rule { facts := facts, jsx := j, jsxFrag := f } = rule { facts := facts, jsx := j', jsxFrag := f' } := by
  obtain ⟨r', hr⟩ := h
  rw [hr, hr]

/-! ## no-unused-vars: the factory identifiers are added to the used set -/
def unusedReport (declared used : List String) : List String := declared.filter (fun x => !used.contains x)

/-- it can only remove reports … -/
theorem factory_only_removes (declared used fac : List String) :
    (unusedReport declared (used ++ fac)).Sublist (unusedReport declared used) := by
  unfold unusedReport
  induction declared with
  | nil => exact List.Sublist.refl _
  | cons x r ih =>
    rw [List.filter_cons, List.filter_cons]
    by_cases h1 : used.contains x = true
    · have h2 : (used ++ fac).contains x = true := by
        rw [List.contains_iff_mem] at h1 ⊢; exact List.mem_append.mpr (Or.inl h1)
      rw [h1, h2]; exact ih
    · have h1' : used.contains x = false := by simpa using h1
      rw [h1']
      by_cases h2 : (used ++ fac).contains x = true
      · rw [h2]; exact List.Sublist.cons _ ih
      · have h2' : (used ++ fac).contains x = false := by simpa using h2
        rw [h2']; exact List.Sublist.cons_cons _ ih

/-- … and only reports about identifiers occurring in the effective factory expression -/
theorem removed_are_factory_idents (declared used fac : List String) (x : String)
    (h1 : x ∈ unusedReport declared used) (h2 : x ∉ unusedReport declared (used ++ fac)) : x ∈ fac := by
  unfold unusedReport at *
  rw [List.mem_filter] at h1 h2
  have hu : used.contains x = false := by simpa using h1.2
  have hc : (used ++ fac).contains x = true := by
    cases h : (used ++ fac).contains x with
    | true => rfl
    | false => exact absurd ⟨h1.1, by rw [h]; rfl⟩ h2
  rw [List.contains_iff_mem] at hc
  rcases List.mem_append.mp hc with h | h
  · rw [List.contains_iff_mem.mpr h] at hu; cases hu
  · exact h

/-- no factory configured, or no JSX element visited (the factory is consumed by `visit_jsx_element` only): nothing changes -/
theorem no_factory_no_change (declared used : List String) : unusedReport declared (used ++ []) = unusedReport declared used := by
  simp

/-! ## which rules read the factory fields (regenerated from /repo) -/
open DL.Gen

theorem only_no_unused_vars_reads_factories :
    ∀ row ∈ ctxMethodCalls, (row.2.contains "jsx_factory" || row.2.contains "jsx_fragment_factory") = true →
      row.1 = "src/rules/no_unused_vars.rs" := by decide +kernel

example : unusedReport ["h", "x", "y"] ["x"] = ["h", "y"] ∧ unusedReport ["h", "x", "y"] (["x"] ++ ["h"]) = ["y"] := by decide +kernel

end DL.Props.C18
