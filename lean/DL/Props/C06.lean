import DL.Lemmas.Pipe
import DL.Lemmas.Dir
import DL.Lemmas.DirSpec
import DL.Gen.RuleStructs

/-!
# C06 — ignore directives suppress exactly the diagnostics they name

For **every** raw diagnostic list, directive state (any number of directives, any codes, any `used` flags),
configuration and external code list.  `suppressed st d` is the property's own predicate: the file-level directive
names `d.code`, or `d` has a range starting on line `ℓ > 0` and the directive on line `ℓ-1` names `d.code`.
-/
namespace DL.Props.C06
open DL.Pipe

/-- the accounting diagnostics appended by `collect_diagnostics` -/
def accounting (cfg : Cfg) (extCodes : List String) (st : St) (raw : List Diag) : List Diag :=
  let r1 := checkUsage st raw
  let r2 := banUnknown (cfg.allCodes ++ extCodes) cfg.checkUnknown r1.1
  r2.2 ++ (if (extCodes ++ cfg.configured).contains cUnused then banUnused (extCodes ++ cfg.configured) r2.1 else [])

def Diag.isRaw (d : Diag) : Bool := match d.payload with | .raw _ => true | _ => false

/-- the filter keeps exactly the unsuppressed diagnostics, unaltered and in their original order -/
theorem kept_exact (st : St) (raw : List Diag) :
    (checkUsage st raw).2 = raw.filter (fun d => !suppressed st d) := checkUsage_kept st raw

theorem accounting_eq (cfg : Cfg) (extCodes : List String) (st : St) (raw : List Diag) :
    accounting cfg extCodes st raw = allDirDiags cUnknown .unknown (unknownSel cfg extCodes st) st ++
      allDirDiags cUnused .unused (unusedSel cfg extCodes st raw) st := by
  rw [← banUnused_usedSt, ← banUnknown_checkUsage_snd]
  rfl

/-- the result is the stable sort of (unsuppressed raw diagnostics ++ accounting diagnostics) -/
theorem collect_eq (cfg : Cfg) (extCodes : List String) (st : St) (raw : List Diag) :
    collect cfg extCodes st raw =
      (raw.filter (fun d => !suppressed st d) ++ accounting cfg extCodes st raw).mergeSort diagLe := by
  rw [collect_closed, accounting_eq, List.append_assoc]

theorem accounting_not_raw {cfg : Cfg} {extCodes : List String} {st : St} {raw : List Diag} {x : Diag}
    (h : x ∈ accounting cfg extCodes st raw) : Diag.isRaw x = false ∧ (x.code = cUnknown ∨ x.code = cUnused) := by
  rw [accounting_eq, List.mem_append] at h
  rcases h with h | h <;> obtain ⟨h1, _, c, _, h3⟩ := mem_allDirDiags h
  · exact ⟨by simp [Diag.isRaw, h3], Or.inl h1⟩
  · exact ⟨by simp [Diag.isRaw, h3], Or.inr h1⟩

/-- a rule's (or the external linter's) diagnostic is in the result iff it was produced and is not suppressed -/
theorem raw_mem_collect (cfg : Cfg) (extCodes : List String) (st : St) (raw : List Diag) (d : Diag)
    (hd : Diag.isRaw d = true) :
    d ∈ collect cfg extCodes st raw ↔ d ∈ raw ∧ suppressed st d = false := by
  rw [collect_eq, List.mem_mergeSort, List.mem_append, List.mem_filter]
  constructor
  · rintro (h | h)
    · exact ⟨h.1, by simpa using h.2⟩
    · rw [(accounting_not_raw h).1] at hd; cases hd
  · rintro ⟨h1, h2⟩; exact Or.inl ⟨h1, by simp [h2]⟩

/-- …and exactly as often as it was produced: nothing is duplicated or lost -/
theorem raw_count_collect (cfg : Cfg) (extCodes : List String) (st : St) (raw : List Diag) (d : Diag)
    (hd : Diag.isRaw d = true) :
    (collect cfg extCodes st raw).count d = if suppressed st d then 0 else raw.count d := by
  rw [collect_eq, (List.mergeSort_perm _ _).count_eq, List.count_append]
  have h0 : (accounting cfg extCodes st raw).count d = 0 := by
    apply List.count_eq_zero.mpr
    intro h; rw [(accounting_not_raw h).1] at hd; cases hd
  rw [h0, Nat.add_zero]
  cases hsup : suppressed st d
  · rw [List.count_filter (by simp [hsup])]; simp
  · simp only [if_true]
    apply List.count_eq_zero.mpr
    intro h; simp [List.mem_filter, hsup] at h

/-- "not moved": when the raw list is already in report order, the kept diagnostics appear in the result in
exactly their original relative order (stability of the final sort) -/
theorem kept_sublist (cfg : Cfg) (extCodes : List String) (st : St) (raw : List Diag)
    (hs : raw.Pairwise (fun a b => diagLe a b = true)) :
    (raw.filter (fun d => !suppressed st d)).Sublist (collect cfg extCodes st raw) := by
  rw [collect_eq]
  refine List.sublist_mergeSort diagLe_trans diagLe_total ?_ (List.sublist_append_left _ _)
  exact hs.sublist List.filter_sublist

/-- with every directive neutralised the result is just the sorted raw list: the difference the property
observes ("with directives" vs "neutralised in place") is exactly the suppressed diagnostics plus accounting -/
theorem no_directives (cfg : Cfg) (extCodes : List String) (raw : List Diag) :
    collect cfg extCodes { file := none, lines := [] } raw = raw.mergeSort diagLe := by
  have hs : ∀ d, suppressed { file := none, lines := [] } d = false := by
    intro d; unfold suppressed fileNames lineNamesAt; cases d.pos <;> simp [lookupLine]
  have ha : accounting cfg extCodes { file := none, lines := [] } raw = [] := by
    simp [accounting_eq, allDirDiags]
  rw [collect_eq, ha]
  have : raw.filter (fun d => !suppressed { file := none, lines := [] } d) = raw := by
    apply List.filter_eq_self.mpr; intro d _; simp [hs]
  rw [this, List.append_nil]

/-! a state with a file and a line directive, three diagnostics, one kept -/
example :
    let st : St := { file := some ⟨0, 0, ["a"]⟩, lines := [(2, ⟨30, 2, ["b"]⟩)] }
    let raw : List Diag := [⟨"a", some (50, 5), .raw 0⟩, ⟨"b", some (40, 3), .raw 1⟩, ⟨"b", some (60, 6), .raw 2⟩]
    raw.filter (fun d => !suppressed st d) = [⟨"b", some (60, 6), .raw 2⟩] := by decide +kernel

/-! ## "the way codes are separated … or an appended `-- reason` does not change which codes are meant" -/
open DL.Dir in
/-- what `parse_ignore_comment` returns is the token list of the text between the directive word and the reason -/
theorem directive_codes_are_tokens (word : List Char) (kind : Kind) (text : List Char) (cs : List (List Char))
    (h : parseIgnore word kind text = some cs) :
    ∃ rest, word.isPrefixOf? (trim text) = some rest ∧ cs = tokens (stripReason rest) := by
  obtain ⟨_, _, rest, hr, rfl⟩ := parseIgnore_eq_some_iff.mp h
  exact ⟨rest, hr, codes_eq_tokens _⟩

open DL.Dir in
/-- **separator independence**: codes `c1 … cn` separated by arbitrary non-empty mixtures of white space and commas
(with arbitrary leading separators, optional trailing ones) always denote `[c1, …, cn]` -/
theorem separator_independence (s0 : List Char) (l : List (List Char × List Char)) (h0 : IsSeps s0)
    (hl : ∀ ws ∈ l, IsCode ws.1 ∧ IsSeps ws.2) (hsep : ∀ i, i + 1 < l.length → (l[i]?.map (·.2)) ≠ some []) :
    tokens (s0 ++ joinCodes l) = l.map (·.1) := tokens_joinCodes s0 l h0 hl hsep

open DL.Dir in
/-- **reason independence**: appending white space, `--` and any reason to a reason-free code text denotes the same
codes (at least one white-space character before the dashes: `a---r` means `a`, see `DirSpec`) -/
theorem reason_independence (x : List Char) (w : Char) (ws r : List Char) (hx : stripReason x = x)
    (hw : isWs w = true) (hws : AllWs ws) :
    tokens (stripReason (x ++ (w :: ws ++ '-' :: '-' :: r))) = tokens x := tokens_stripReason_append x w ws r hx hw hws

/-! the three spellings of the property text, evaluated on the model parser itself -/
example : DL.Dir.parseIgnore (chars! "deno-lint-ignore") .line (chars! " deno-lint-ignore no-var no-eval") =
    some [chars! "no-var", chars! "no-eval"] := by decide +kernel
example : DL.Dir.parseIgnore (chars! "deno-lint-ignore") .line (chars! " deno-lint-ignore no-var,no-eval") =
    some [chars! "no-var", chars! "no-eval"] := by decide +kernel
example : DL.Dir.parseIgnore (chars! "deno-lint-ignore") .line (chars! " deno-lint-ignore no-var ,\t no-eval  -- because, reasons") =
    some [chars! "no-var", chars! "no-eval"] := by decide +kernel

/-! ## the two regular expressions of `parse_ignore_comment`, read off the source on every run

M-DIR re-implements `IGNORE_COMMENT_REASON_RE` and `IGNORE_COMMENT_CODE_RE` by hand (`Model/Dir.lean`; closed form in
`directive_codes_are_tokens`).  `Gen/RuleStructs.lean` lists every `Regex::new(<literal>)` of `src/`; the theorem is
re-decided on every run: the literals are the ones the model implements — "cut at the leftmost `\s*--`" and "separators
are `,\s*` or one white-space character". -/
theorem directive_regexes_as_modelled :
    DL.Gen.regexLiterals.filter (fun r => r.1 == "src/ignore_directives.rs") =
      [("src/ignore_directives.rs", "IGNORE_COMMENT_REASON_RE", "\\s*--.*"),
       ("src/ignore_directives.rs", "IGNORE_COMMENT_CODE_RE", ",\\s*|\\s")] := by
  decide +kernel

end DL.Props.C06
