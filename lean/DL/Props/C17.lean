import DL.Props.C05
import DL.Gen.LinterCtx

/-!
# C17 — custom directive names are honoured independently of each other

* a model of the word selection of `LinterContext::new`, and its independence properties;
* the translator table `Gen/LinterCtx` (regenerated from `src/linter.rs` by syn on every run) decides that the real
  initialisers are the model's: each word field reads *its own* option with its own default, and each directive
  parser receives its own field;
* the directive parser theorems (C05–C07) are parametric in the word, so "all guarantees of C05-C07" carry over.
-/
namespace DL.Props.C17

structure Options where
  customFile : Option String
  customLine : Option String

def fileWord (o : Options) : String := o.customFile.getD "deno-lint-ignore-file"
def lineWord (o : Options) : String := o.customLine.getD "deno-lint-ignore"

/-- overriding one kind leaves the other kind's word unchanged -/
theorem file_override_leaves_line (o : Options) (w : Option String) :
    lineWord { o with customFile := w } = lineWord o := rfl
theorem line_override_leaves_file (o : Options) (w : Option String) :
    fileWord { o with customLine := w } = fileWord o := rfl

theorem custom_file_word (o : Options) (w : String) (h : o.customFile = some w) : fileWord o = w := by simp [fileWord, h]
theorem custom_line_word (o : Options) (w : String) (h : o.customLine = some w) : lineWord o = w := by simp [lineWord, h]
theorem default_words : fileWord ⟨none, none⟩ = "deno-lint-ignore-file" ∧ lineWord ⟨none, none⟩ = "deno-lint-ignore" := ⟨rfl, rfl⟩

open DL.Dir in
/-- a comment is recognised as a directive only if its first word *is* the configured word: the default word of an
overridden kind stops being recognised, and no other word is -/
theorem only_configured_word_acts (word : List Char) (text : List Char) (codes : List (List Char))
    (h : parseIgnore word .line text = some codes) : firstWord (trim text) = some word :=
  (parseIgnore_eq_some_iff.mp h).2.1

/-! ## the real code computes the words as the model does (re-decided on every run from /repo) -/
open DL.Gen

theorem table_word_fields :
    linterCtxWordFields =
      [("ignore_file_directive", "custom_ignore_file_directive", "deno-lint-ignore-file"),
       ("ignore_diagnostic_directive", "custom_ignore_diagnostic_directive", "deno-lint-ignore")] := rfl

theorem table_parser_calls :
    directiveParserCalls =
      [("parse_file_ignore_directives", "ignore_file_directive"),
       ("parse_line_ignore_directives", "ignore_diagnostic_directive")] := rfl

/-- no other field of `LinterContext` depends on the two custom-word options -/
theorem table_other_fields_do_not_read_words :
    ∀ f ∈ linterCtxOtherFields, f.2 ∈ ["check_unknown_rules", "rules", "options . all_rule_codes"] := by decide +kernel

example : fileWord ⟨some "x-file", none⟩ = "x-file" ∧ lineWord ⟨some "x-file", none⟩ = "deno-lint-ignore" := ⟨rfl, rfl⟩
example : DL.Dir.parseIgnore (chars! "my-ignore") .line (chars! " deno-lint-ignore no-var") = none := by decide +kernel
example : DL.Dir.parseIgnore (chars! "my-ignore") .line (chars! " my-ignore no-var") = some [chars! "no-var"] := by decide +kernel

end DL.Props.C17
