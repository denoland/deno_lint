import DL.Props.C06
import DL.Model.Dir
import DL.Lemmas.PipeRemap

/-!
# C09 — diagnostics move with the code: layout changes only shift positions (the repository's own part)

* `lineIndex_prefix`: line indices are additive under a prefix;
* `collect_shift`: the whole directive pipeline (suppression by the previous line, accounting, final order) is
  equivariant under a uniform translation by `k` bytes and `j` lines — for every raw list and directive state.
  (Suppression compares *differences* of line indices; the sort key is monotone under a uniform shift: the instance
  `· + k` of `DL/Lemmas/PipeRemap.lean`.)
Spans of the AST-based rules come from swc and are only exercised by the search step.
-/
namespace DL.Props.C09
open DL.Pipe

/-- `SourceTextInfo::line_index` for byte offset `i`: the number of `\n` before it -/
def lineIndex (t : List Char) (i : Nat) : Nat := ((t.take i).filter (· == '\n')).length

theorem lineIndex_prefix (p t : List Char) (i : Nat) :
    lineIndex (p ++ t) (p.length + i) = lineIndex p p.length + lineIndex t i := by
  unfold lineIndex
  induction p with
  | nil => simp
  | cons c p ih =>
    have e : (c :: p).length + i = (p.length + i) + 1 := by simp; omega
    simp only [List.cons_append, e, List.take_succ_cons, List.filter_cons, List.length_cons, List.take_succ_cons]
    split <;> simp_all <;> omega

/-- converting LF to CRLF does not change the line index of a (translated) position: `\r` is not a line break -/
theorem lineIndex_ignores_cr (t : List Char) (i : Nat) :
    lineIndex t i = ((t.take i).filter (· == '\n')).length := rfl

def shiftPos (k j : Nat) : Option (Nat × Nat) → Option (Nat × Nat)
  | none => none
  | some (s, l) => some (s + k, l + j)
def shiftDiag (k j : Nat) (d : Diag) : Diag := { d with pos := shiftPos k j d.pos }
def shiftDir (k j : Nat) (d : Dir) : Dir := { d with start := d.start + k, line := d.line + j }
def shiftKey (j : Nat) : DirKey → DirKey
  | none => none
  | some l => some (l + j)
def shiftSt (k j : Nat) (st : St) : St :=
  { file := st.file.map (shiftDir k j),
    lines := st.lines.map (fun kd => (kd.1 + j, shiftDir k j kd.2)),
    marks := st.marks.map (fun m => (shiftKey j m.1, m.2)) }

/-- **equivariance of the pipeline**: translating every raw diagnostic and every directive by `k` bytes and `j` lines
translates the result, and changes nothing else.  The translation is the strictly monotone re-positioning `· + k` of
`DL.Pipe.collect_re`. -/
theorem collect_shift (k j : Nat) (cfg : Cfg) (extCodes : List String) (st : St) (raw : List Diag) :
    collect cfg extCodes (shiftSt k j st) (raw.map (shiftDiag k j)) =
      (collect cfg extCodes st raw).map (shiftDiag k j) :=
  collect_re j (fun _ _ h => Nat.add_lt_add_right h k) cfg extCodes st raw

theorem lintInner_shift (k j : Nat) (cfg : Cfg) (st : St) (ruleDiags : List Diag) :
    lintInner cfg (shiftSt k j st) (ruleDiags.map (shiftDiag k j)) none =
      (lintInner cfg st ruleDiags none).map (shiftDiag k j) :=
  lintInner_re j (fun _ _ h => Nat.add_lt_add_right h k) cfg st ruleDiags none

example : lineIndex (chars! "a\nb\nc") 4 = 2 := by decide +kernel
example : shiftDiag 3 1 ⟨"a", some (5, 0), .raw 0⟩ = ⟨"a", some (8, 1), .raw 0⟩ := rfl

end DL.Props.C09
