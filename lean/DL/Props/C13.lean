import DL.Model.Fix
import DL.Model.FixBuild

/-!
# C13 — applying a quick fix (text algebra part)

For every text and every list of changes that is sorted, non-overlapping and in bounds: the spliced result is the
same whether the changes are applied in one left-to-right pass or one at a time from the last to the first (so the
offsets of earlier changes are never disturbed); the untouched prefix and suffix survive; lengths add up.
"Strictly fewer diagnostics" is proved rule by rule, on models of the rules that offer fixes, in `C13Vms`, `C13Imp`,
`C13ImpReal`, `C13Rest` and `C13Small`.  "Still parses" needs swc: it is checked by the search step only (every offered
fix is applied, re-parsed and re-linted).
-/
namespace DL.Props.C13
open DL.Fix

variable {α : Type}

/-- one pass = one at a time, last change first -/
theorem applyFrom_foldr (text : List α) : ∀ (cursor : Nat) (cs : List (Change α)), WF text.length cursor cs →
    text.take cursor ++ applyFrom text cursor cs = cs.foldr applyOne text
  | cursor, [], _ => by simp [applyFrom]
  | cursor, c :: r, h => by
    obtain ⟨h1, h2, h3, h4⟩ := h
    have ih := applyFrom_foldr text c.stop r h4
    simp only [applyFrom, List.foldr_cons, applyOne]
    rw [← ih]
    have hlen : (text.take c.stop).length = c.stop := by simp; omega
    have e1 : (text.take c.stop ++ applyFrom text c.stop r).take c.start = text.take c.start := by
      rw [List.take_append_of_le_length (by omega), List.take_take]; congr 1; omega
    have e2 : (text.take c.stop ++ applyFrom text c.stop r).drop c.stop = applyFrom text c.stop r := by
      rw [List.drop_append_of_le_length (by omega)]
      have : (text.take c.stop).drop c.stop = [] := by
        apply List.drop_eq_nil_of_le; omega
      rw [this, List.nil_append]
    rw [e1, e2]
    have e3 : text.take cursor ++ (text.drop cursor).take (c.start - cursor) = text.take c.start := by
      have : c.start = cursor + (c.start - cursor) := by omega
      rw [this, List.take_add]; simp
    rw [← List.append_assoc, ← List.append_assoc, e3]

theorem applyFix_foldr (text : List α) (cs : List (Change α)) (h : WF text.length 0 cs) :
    applyFix text cs = cs.foldr applyOne text := by
  have := applyFrom_foldr text 0 cs h
  simpa [applyFix] using this

theorem prefix_preserved (text : List α) (c : Change α) (r : List (Change α)) (h : WF text.length 0 (c :: r)) :
    (applyFix text (c :: r)).take c.start = text.take c.start := by
  obtain ⟨_, h2, h3, _⟩ := h
  simp only [applyFix, applyFrom, Nat.sub_zero, List.drop_zero]
  rw [List.append_assoc, List.take_append_of_le_length (by simp; omega)]
  rw [List.take_take]; congr 1; omega

theorem applyFix_nil (text : List α) : applyFix text [] = text := by simp [applyFix, applyFrom]

theorem applyFix_single (text : List α) (c : Change α) :
    applyFix text [c] = text.take c.start ++ c.newText ++ text.drop c.stop := by
  simp [applyFix, applyFrom]

theorem applyFrom_length (text : List α) : ∀ (cursor : Nat) (cs : List (Change α)), WF text.length cursor cs →
    (applyFrom text cursor cs).length + cursor + (cs.map (fun c => c.stop - c.start)).sum =
      text.length + (cs.map (fun c => c.newText.length)).sum
  | cursor, [], h => by simp [applyFrom, WF] at *; omega
  | cursor, c :: r, h => by
    obtain ⟨h1, h2, h3, h4⟩ := h
    have ih := applyFrom_length text c.stop r h4
    simp only [applyFrom, List.length_append, List.length_take, List.length_drop, List.map_cons, List.sum_cons]
    omega

example : applyFix [1, 2, 3, 4, 5, 6] [⟨1, 2, [9, 9]⟩, ⟨4, 6, []⟩] = [1, 9, 9, 3, 4] := by decide +kernel
example : WF (α := Nat) 6 0 [⟨1, 2, [9, 9]⟩, ⟨4, 6, []⟩] := by simp [WF]

/-! ## builders: the text of `jsx-curly-braces`' attribute fix is one JSX string token denoting the value -/
open DL.FixBuild in
theorem untilQuote_append (q : Char) (v rest : List Char) (hv : q ∉ v) :
    untilQuote q (v ++ q :: rest) = some (v, rest) := by
  induction v with
  | nil => simp [untilQuote]
  | cons c t ih =>
    have hc : c ≠ q := fun h => hv (by simp [h])
    have ht : q ∉ t := fun h => hv (List.mem_cons_of_mem _ h)
    simp [untilQuote, hc, ih ht]

open DL.FixBuild in
/-- for every attribute value: if a fix is offered, then whatever follows it in the file, the replacement lexes as
exactly one JSX attribute string whose content is the value (deno_lint 27a9c7f: a value containing `"` is not put between
double quotes, where `"a"b"` would end after `a`) -/
theorem jsxAttrQuote_lexes (v t rest : List Char) (h : jsxAttrQuote v = some t) :
    lexJsxAttrString (t ++ rest) = some (v, rest) := by
  unfold jsxAttrQuote at h
  by_cases h1 : (!v.contains '"') = true
  · rw [if_pos h1] at h
    injection h with h; subst h
    have : '"' ∉ v := by simpa using h1
    simp only [List.cons_append, List.append_assoc, lexJsxAttrString, true_or, if_true]
    exact untilQuote_append '"' v rest this
  · rw [if_neg h1] at h
    by_cases h2 : (!v.contains '\'') = true
    · rw [if_pos h2] at h
      injection h with h; subst h
      have : '\'' ∉ v := by simpa using h2
      simp only [List.cons_append, List.append_assoc, lexJsxAttrString, or_true, if_true]
      exact untilQuote_append '\'' v rest this
    · rw [if_neg h2] at h; cases h

open DL.FixBuild in
/-- a fix is withheld only when the value contains both kinds of quote (then no delimiter works) -/
theorem jsxAttrQuote_none_iff (v : List Char) : jsxAttrQuote v = none ↔ ('"' ∈ v ∧ '\'' ∈ v) := by
  unfold jsxAttrQuote
  by_cases h1 : '"' ∈ v <;> by_cases h2 : '\'' ∈ v <;> simp [h1, h2]

open DL.FixBuild in
example : jsxAttrQuote ['a', '"', 'b'] = some ['\'', 'a', '"', 'b', '\''] ∧
    lexJsxAttrString (['\'', 'a', '"', 'b', '\''] ++ [' ', '/', '>']) = some (['a', '"', 'b'], [' ', '/', '>']) := by decide +kernel

end DL.Props.C13
