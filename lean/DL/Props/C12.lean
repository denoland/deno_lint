import DL.Model.Regex

/-!
# C12 — no-invalid-regexp agrees with the ECMAScript regular-expression grammar

Model: `DL.Rx` (`Model/Regex.lean`), a function-by-function transcription of `js_regex/{reader,validator}.rs` and of
the rule's `check_regex`, tied to the code by exact verdict correspondence on generated pattern sequences (incl. panics),
and to ECMAScript by 39k verdicts recorded once from V8 11.3 (`corpus/regex_v8.jsonl`).

Here: the flag grammar exactly (`flags_exact`), the UTF-16 unit bookkeeping of the reader, and kernel-evaluated verdicts
on the patterns that showed six defects of the validator (each example names the repair in deno_lint it guards).
The pattern grammar: `checkRegex_u_iff` (`C12Spec`, `C12Complete`) and `checkRegex_nonU_iff` (`C12SpecB`, `C12CompleteB`)
say that the rule reports a literal with valid flags iff its pattern is not derivable in the ES2022 grammar, resp. the
Annex B grammar.  That these grammars are the engine's is checked by the recorded-verdict oracle only.
-/
namespace DL.Props.C12
open DL.Rx

set_option maxRecDepth 100000

def allowedFlags : List Nat := [ch 'g', ch 'i', ch 'm', ch 'u', ch 'y', ch 's', ch 'd', ch 'v']

theorem flagsLoop_ok (flags existing : List Nat) :
    validateFlagsLoop flags existing = .ok () ↔
      (∀ f ∈ flags, f ∈ allowedFlags) ∧ flags.Nodup ∧ (∀ f ∈ flags, f ∉ existing) := by
  induction flags generalizing existing with
  | nil => simp [validateFlagsLoop]
  | cons f r ih =>
    simp only [validateFlagsLoop]
    by_cases hdup : existing.contains f = true
    · simp only [hdup, if_true]
      constructor
      · intro h; cases h
      · rintro ⟨_, _, h3⟩
        exact absurd (List.contains_iff_mem.mp hdup) (h3 f List.mem_cons_self)
    · simp only [hdup, Bool.false_eq_true, if_false]
      have hne : f ∉ existing := fun h => hdup (List.contains_iff_mem.mpr h)
      by_cases hal : f ∈ allowedFlags
      · have hcond : (f == ch 'g' || f == ch 'i' || f == ch 'm' || (f == ch 'u' && true) || (f == ch 'y' && true) ||
            (f == ch 's' && true) || (f == ch 'd' && true) || (f == ch 'v' && true)) = true := by
          simp only [allowedFlags, List.mem_cons, List.not_mem_nil, or_false] at hal
          rcases hal with h | h | h | h | h | h | h | h <;> subst h <;> decide
        rw [if_pos hcond, ih]
        constructor
        · rintro ⟨h1, h2, h3⟩
          refine ⟨?_, ?_, ?_⟩
          · intro x hx; rcases List.mem_cons.mp hx with rfl | hx
            · exact hal
            · exact h1 x hx
          · exact List.nodup_cons.mpr ⟨fun hf => h3 f hf List.mem_cons_self, h2⟩
          · intro x hx; rcases List.mem_cons.mp hx with rfl | hx
            · exact hne
            · exact fun he => h3 x hx (List.mem_cons_of_mem _ he)
        · rintro ⟨h1, h2, h3⟩
          have h2' := List.nodup_cons.mp h2
          refine ⟨fun x hx => h1 x (List.mem_cons_of_mem _ hx), h2'.2, ?_⟩
          intro x hx he
          rcases List.mem_cons.mp he with rfl | he
          · exact h2'.1 hx
          · exact h3 x (List.mem_cons_of_mem _ hx) he
      · have hcond : (f == ch 'g' || f == ch 'i' || f == ch 'm' || (f == ch 'u' && true) || (f == ch 'y' && true) ||
            (f == ch 's' && true) || (f == ch 'd' && true) || (f == ch 'v' && true)) = false := by
          simp only [allowedFlags, List.mem_cons, List.not_mem_nil, or_false, not_or] at hal
          simp [hal.1, hal.2.1, hal.2.2.1, hal.2.2.2.1, hal.2.2.2.2.1, hal.2.2.2.2.2.1, hal.2.2.2.2.2.2.1, hal.2.2.2.2.2.2.2]
        rw [hcond]
        simp only [Bool.false_eq_true, if_false]
        constructor
        · intro h; cases h
        · rintro ⟨h1, _, _⟩; exact absurd (h1 f List.mem_cons_self) hal

/-- **flags**: accepted iff every flag is one of `dgimsuyv` and no flag is repeated -/
theorem flags_exact (flags : List Nat) :
    validateFlags flags = .ok () ↔ (∀ f ∈ flags, f ∈ allowedFlags) ∧ flags.Nodup := by
  unfold validateFlags
  rw [flagsLoop_ok]
  constructor
  · rintro ⟨h1, h2, _⟩; exact ⟨h1, h2⟩
  · rintro ⟨h1, h2⟩; exact ⟨h1, h2, fun _ _ h => by cases h⟩

theorem flags_history_independent (flags : List Nat) : checkForInvalidFlags flags = true ↔ ¬ ((∀ f ∈ flags, f ∈ allowedFlags) ∧ flags.Nodup) := by
  unfold checkForInvalidFlags
  rw [← flags_exact]
  cases h : validateFlags flags with
  | ok u => simp
  | error e => simp

/-- number of UTF-16 code units of a scalar value -/
def units (c : Nat) : Nat := if c < 0x10000 then 1 else 2

theorem encodeUtf16_length (s : List Nat) : (encodeUtf16 s).length = (s.map units).sum := by
  induction s with
  | nil => rfl
  | cons c r ih =>
    simp only [encodeUtf16, List.map_cons, List.sum_cons, units]
    split <;> simp [ih] <;> omega

/-- without astral characters both measures coincide: confusing them (repair d08fa84) shows only on an astral character -/
theorem encodeUtf16_bmp (s : List Nat) (h : ∀ c ∈ s, c < 0x10000) : encodeUtf16 s = s := by
  induction s with
  | nil => rfl
  | cons c r ih =>
    have hc := h c List.mem_cons_self
    simp only [encodeUtf16, hc, if_true]
    rw [ih (fun x hx => h x (List.mem_cons_of_mem _ hx))]

/-- every emitted unit is a 16-bit value; astral characters become a lead/trail surrogate pair -/
theorem encodeUtf16_units (s : List Nat) (h : ∀ c ∈ s, c < 0x110000) : ∀ u ∈ encodeUtf16 s, u < 0x10000 := by
  induction s with
  | nil => intro u hu; cases hu
  | cons c r ih =>
    have hc := h c List.mem_cons_self
    have ihr := ih (fun x hx => h x (List.mem_cons_of_mem _ hx))
    intro u hu
    simp only [encodeUtf16] at hu
    split at hu
    · rcases List.mem_cons.mp hu with rfl | hu
      · assumption
      · exact ihr u hu
    · have hq : (c - 65536) / 1024 < 1024 := Nat.div_lt_of_lt_mul (by omega)
      have hr : (c - 65536) % 1024 < 1024 := Nat.mod_lt _ (by decide)
      rcases List.mem_cons.mp hu with h1 | hu
      · rw [h1]
        generalize (c - 65536) / 1024 = q at hq; omega
      · rcases List.mem_cons.mp hu with h2 | hu
        · rw [h2]
          generalize (c - 65536) % 1024 = q at hr; omega
        · exact ihr u hu

/-- The verdict of the rule on a fresh validator.  The fuel 300 is above `5 · unitCount + 15` (`validatePattern_fuel`) for
every pattern below. -/
def verdict (pattern flags : List Char) : Option Bool :=
  match checkRegex 300 (strOf pattern) (strOf flags) St.new with
  | .ok b _ => some b
  | _ => none          -- panic / out of fuel

-- fe30608: a group name cut off by the end of the pattern is reported (an `unwrap` of the missing code point panics)
example : verdict (chars! "(?<a") [] = some true := by decide +kernel
-- e995e57: a quantifier beyond `i64` is valid (the digit accumulators saturate instead of overflowing)
example : verdict (chars! "a{99999999999999999999}") [] = some false := by decide +kernel
-- d08fa84: without `u` the end of the pattern is counted in UTF-16 units, as it is indexed
example : verdict (chars! "[😀]") (chars! "g") = some false := by decide +kernel
example : verdict (chars! "😀(") [] = some true := by decide +kernel
-- feb5d01: the `^` of a negated class is not a class atom
example : verdict (chars! "[^-9]") (chars! "u") = some false := by decide +kernel
-- 22e4b8a: a DecimalEscape does not start with `0`
example : verdict (chars! "\\00") (chars! "u") = some true := by decide +kernel
-- 871be28: a literal is checked in the one mode its flags select (no flags: without `u`)
example : verdict (chars! "\\u{61}+") [] = some true := by decide +kernel
example : verdict (chars! "\\u{61}+") (chars! "u") = some false := by decide +kernel
example : verdict (chars! "a") (chars! "gg") = some true := by decide +kernel
example : verdict (chars! "a") (chars! "dgimsuy") = some false := by decide +kernel

end DL.Props.C12
