import DL.Props.C06
import DL.Gen.CtxAccess

/-!
# C04 — only enabled rules report; rules do not influence one another (pipeline part)

`codes_enabled`: for every raw list whose codes are enabled-or-external, every directive state and configuration,
each code of the result is the code of a raw diagnostic, or an accounting rule's code *and that rule is enabled*.
The per-rule independence (append-only contract of `Context`) is `project_run`, with the contract read off the source by
`rules_use_only_reviewed_context_api`.
-/
namespace DL.Props.C04
open DL.Pipe DL.Props.C06

theorem codes_enabled (cfg : Cfg) (extCodes : List String) (st : St) (raw : List Diag) (d : Diag)
    (h : d ∈ collect cfg extCodes st raw) :
    d ∈ raw ∨ (d.code = cUnknown ∧ cUnknown ∈ cfg.configured) ∨
      (d.code = cUnused ∧ (cUnused ∈ cfg.configured ∨ cUnused ∈ extCodes)) := by
  rcases mem_collect_iff.mp h with ⟨h, _⟩ | h | h
  · exact Or.inl h
  · obtain ⟨h1, _, _, hp, _⟩ := mem_allDirDiags h
    exact Or.inr (Or.inl ⟨h1, by simpa [Cfg.checkUnknown] using (unknownSel_iff.mp hp).2.1⟩)
  · obtain ⟨h1, _, _, hp, _⟩ := mem_allDirDiags h
    exact Or.inr (Or.inr ⟨h1, (List.mem_append.mp (unusedSel_iff.mp hp).2.2.1).symm⟩)

/-- in terms of `lint_inner`: every reported code was reported by a configured rule / the external linter, or is an
enabled accounting rule's -/
theorem lintInner_codes_enabled (cfg : Cfg) (st : St) (ruleDiags : List Diag) (ext : Option (List Diag × List String))
    (d : Diag) (h : d ∈ lintInner cfg st ruleDiags ext) :
    d ∈ ruleDiags ∨ (∃ e, ext = some e ∧ d ∈ e.1) ∨ (d.code = cUnknown ∧ cUnknown ∈ cfg.configured) ∨
      (d.code = cUnused ∧ (cUnused ∈ cfg.configured ∨ ∃ e, ext = some e ∧ cUnused ∈ e.2)) := by
  rw [lintInner_eq] at h
  split at h
  · cases h
  · rcases codes_enabled _ _ _ _ _ h with h | h | ⟨h1, h2⟩
    · rcases List.mem_append.mp h with h | h
      · exact Or.inl h
      · cases ext with
        | none => cases h
        | some e => exact Or.inr (Or.inl ⟨e, rfl, h⟩)
    · exact Or.inr (Or.inr (Or.inl h))
    · refine Or.inr (Or.inr (Or.inr ⟨h1, h2.imp_right fun h2 => ?_⟩))
      cases ext with
      | none => cases h2
      | some e => exact ⟨e, rfl, h2⟩

/-! ## rules do not influence one another: the append-only contract of `Context` -/

/-- an ordinary rule: reads immutable facts about the file, appends diagnostics tagged with its own code -/
structure ARule (F : Type) where
  code : String
  report : F → List Diag
  own : ∀ f, ∀ d ∈ report f, d.code = code

/-- `for rule in rules { rule.lint_program_with_ast_view(&mut context, pg) }` for append-only rules -/
def runRules {F : Type} (rules : List (ARule F)) (f : F) : List Diag := rules.flatMap fun r => r.report f

/-- the diagnostics a rule contributes are the same whether it runs alone or together with any other rules, in any
position of the rule list -/
theorem project_run {F : Type} (rules : List (ARule F)) (hn : (rules.map (·.code)).Nodup) (r : ARule F) (hr : r ∈ rules)
    (f : F) : (runRules rules f).filter (fun d => d.code == r.code) = r.report f := by
  unfold runRules
  induction rules with
  | nil => cases hr
  | cons x rest ih =>
    simp only [List.map_cons, List.nodup_cons, List.mem_map, not_exists, not_and] at hn
    simp only [List.flatMap_cons, List.filter_append]
    rcases List.mem_cons.mp hr with rfl | hr'
    · have h1 : (r.report f).filter (fun d => d.code == r.code) = r.report f := by
        apply List.filter_eq_self.mpr; intro d hd; simp [r.own f d hd]
      have h2 : (rest.flatMap fun y => y.report f).filter (fun d => d.code == r.code) = [] := by
        apply List.filter_eq_nil_iff.mpr
        intro d hd
        obtain ⟨y, hy, hdy⟩ := List.mem_flatMap.mp hd
        have := y.own f d hdy
        simp only [beq_iff_eq]
        intro e; exact hn.1 y hy (by rw [← this, e])
      rw [h1, h2, List.append_nil]
    · have h1 : (x.report f).filter (fun d => d.code == r.code) = [] := by
        apply List.filter_eq_nil_iff.mpr
        intro d hd
        have := x.own f d hd
        simp only [beq_iff_eq]
        intro e; exact hn.1 r hr' (by rw [← e, this])
      rw [h1, List.nil_append]; exact ih hn.2 hr'

/-- the order in which the rules were supplied does not matter for any single rule's contribution -/
theorem project_run_perm {F : Type} (rules rules' : List (ARule F)) (hp : rules.Perm rules')
    (hn : (rules.map (·.code)).Nodup) (r : ARule F) (hr : r ∈ rules) (f : F) :
    (runRules rules f).filter (fun d => d.code == r.code) = (runRules rules' f).filter (fun d => d.code == r.code) := by
  rw [project_run rules hn r hr f, project_run rules' ((hp.map _).nodup_iff.mp hn) r (hp.mem_iff.mp hr) f]

/-! the contract is read off the source on every run: no rule reads the diagnostics collected so far -/
open DL.Gen in
theorem no_rule_reads_collected_diagnostics : ∀ row ∈ ctxMethodCalls, row.2.contains "diagnostics" = false := by
  decide +kernel

/-- what a rule may ask of the `Context`: per-file data that is fixed before the first rule runs (program, text, comments,
scope and control-flow analyses, media type, specifier, the parsed directives — whose `used` marks are written only by
`check_ignore_directive_usage`, after the last rule — the JSX factories, the unresolved syntax context), the three
append-only `add_diagnostic*` methods, and `stop_traverse` (a one-shot flag the traversal engine clears: C08
`rules_sequence_ok`) -/
def reviewedContextApi : List String :=
  ["add_diagnostic", "add_diagnostic_with_fixes", "add_diagnostic_with_hint", "all_comments", "control_flow",
   "file_ignore_directive", "jsx_factory", "jsx_fragment_factory", "leading_comments_at", "line_ignore_directives",
   "media_type", "program", "scope", "specifier", "stop_traverse", "text_info", "trailing_comments_at", "unresolved_ctxt"]

/-- re-decided on every run: no rule file calls a `Context` method outside the reviewed set — in particular none that
writes anything a later rule could read (the append-only contract of `project_run`) -/
theorem rules_use_only_reviewed_context_api :
    DL.Gen.ctxMethodCalls.all (fun row => row.2.all (fun m => reviewedContextApi.contains m)) = true := by
  decide +kernel

end DL.Props.C04
