import DL.Lemmas.Scope

/-!
# C20 — diagnostics do not depend on how local bindings are spelled

Model: `DL.Scope`.  `Program.ren t x y` renames the binding (`x`, declared by scope `t`) to `y` in place: its
declarations / parameter and exactly the references that resolve to it (not those shadowed by an inner declaration of
`x`, not property keys).  A binding-tracking rule is a function of the resolver's output `Program.res` (occurrences with
the binding they denote = swc `Id`).

Proved here: (1) the resolver's output is invariant under the renaming except for the spelling of the occurrences of
that one binding (`resolution_invariant`) — so every rule that is a function of (kind, binding) per occurrence is
spelling-independent; (2) instantiated for the model of no-unused-vars keyed on the binding (`unused_invariant`);
(3) a rule keyed on the name instead is *not* invariant (`unusedByName_not_invariant`) — the shape of prefer-const
looking up reassigned names by spelling (deno_lint 13eaeaf, 884a5d8).  That the ~100 real rules are such functions is
established by the C20 driver (every rule, corpus + generated programs, every eligible binding class), not by proof.
-/
namespace DL.Props.C20
open DL.Scope

/-- **C20 (model), resolution**: if `y` is fresh, resolving the renamed program gives the resolved original with the
occurrences of the renamed binding — and only those — spelled `y`; bindings (scope ids) are untouched. -/
theorem resolution_invariant (t x y : Nat) (p : Items) (hy : y ∉ p.names) :
    Program.res (Program.ren t x y p) = (Program.res p).map (swE t x y) := by
  have h0 : Rel t x y false [] [] := Binding.Rel.init t x y
  have hs := h0.step 0 p.lets (fun hh => hy (lets_sub_names p y hh))
  unfold Program.res Program.ren
  have ha : act' t x false 0 p.lets = (0 == t && decide (x ∈ p.lets)) := by simp [act']
  rw [ha] at hs
  rw [lets_ren]
  exact Items.res_ren t x y p _ _ _ hs hy

theorem swE_kind (t x y : Nat) (e : Entry) : (swE t x y e).kind = e.kind := by unfold swE; split <;> rfl
theorem swE_bind (t x y : Nat) (e : Entry) : (swE t x y e).bind = e.bind := by unfold swE; split <;> rfl
theorem swE_name (t x y : Nat) (e : Entry) :
    (swE t x y e).name = if e.name = x ∧ e.bind = some t then y else e.name := by unfold swE; split <;> rfl

/-- for entries not spelled `y`, "same binding" (same spelling and same scope) is preserved and reflected -/
theorem swE_same (t x y : Nat) (e f : Entry) (he : e.name ≠ y) (hf : f.name ≠ y) :
    ((swE t x y f).kind == .ref && (swE t x y f).name == (swE t x y e).name && (swE t x y f).bind == (swE t x y e).bind) =
      (f.kind == .ref && f.name == e.name && f.bind == e.bind) := by
  rw [swE_kind, swE_bind, swE_bind, swE_name, swE_name]
  by_cases hb : f.bind = e.bind
  · rw [hb, Bool.eq_iff_iff]
    simp only [Bool.and_eq_true, beq_iff_eq, Binding.swName_inj hf he]
  · rw [beq_false_of_ne hb, Bool.and_false, Bool.and_false]

theorem any_swE (t x y : Nat) (all : List Entry) (e : Entry) (he : e.name ≠ y) (hall : ∀ f ∈ all, f.name ≠ y) :
    ((all.map (swE t x y)).any fun f => f.kind == .ref && f.name == (swE t x y e).name && f.bind == (swE t x y e).bind) =
      all.any fun f => f.kind == .ref && f.name == e.name && f.bind == e.bind := by
  induction all with
  | nil => rfl
  | cons f r ih =>
    rw [List.forall_mem_cons] at hall
    rw [List.map_cons, List.any_cons, List.any_cons, ih hall.2, swE_same t x y e f he hall.1]

theorem unusedIdx_swE (t x y : Nat) (all : List Entry) (hall : ∀ f ∈ all, f.name ≠ y) (k : Nat) (l : List Entry)
    (hl : ∀ f ∈ l, f.name ≠ y) :
    unusedIdx (all.map (swE t x y)) k (l.map (swE t x y)) = unusedIdx all k l := by
  induction l generalizing k with
  | nil => rfl
  | cons e r ih =>
    rw [List.forall_mem_cons] at hl
    simp only [List.map_cons, unusedIdx, swE_kind, any_swE t x y all e hl.1 hall, ih (k + 1) hl.2]

/-- **C20 (model), a binding-keyed rule**: the positions reported by the no-unused-vars model are the same for the
renamed program -/
theorem unused_invariant (t x y : Nat) (p : Items) (hy : y ∉ p.names) :
    unused (Program.res (Program.ren t x y p)) = unused (Program.res p) := by
  rw [resolution_invariant t x y p hy]
  have hn : ∀ f ∈ Program.res p, f.name ≠ y := fun f hf hh => hy (hh ▸ Items.res_names p _ f hf)
  exact unusedIdx_swE t x y _ hn 0 _ hn

theorem isGlobalRef_swE (g t x y : Nat) (e : Entry) : isGlobalRef g (swE t x y e) = isGlobalRef g e := by
  unfold swE
  split
  · next h => simp [isGlobalRef, h.2]
  · rfl

/-- the global-name rule of C14 is spelling-independent as well.  `hgx`, `hgy` are not used: an unresolved reference is
never an occurrence of the renamed binding, whatever `g` is (`isGlobalRef_swE`). -/
theorem globalReports_invariant (g t x y : Nat) (p : Items) (hy : y ∉ p.names) (hgx : g ≠ x) (hgy : g ≠ y) :
    globalReports g (Program.ren t x y p) = globalReports g p := by
  unfold globalReports
  rw [resolution_invariant t x y p hy]
  generalize Program.res p = l
  generalize 0 = k
  induction l generalizing k with
  | nil => rfl
  | cons e r ih => simp only [List.map_cons, reportIdx, isGlobalRef_swE, ih]

/-! ### the mutant: a rule keyed on the spelling is **not** invariant
`let a; { let a; a; }` — keyed by name the outer `a` counts as used; after renaming the inner binding (scope 1) to `b`
it is reported.  (5 is fresh.) -/
def shadow : Items := .cons (.decl 1) (.cons (.block 1 (.cons (.decl 1) (.cons (.ref 1) .nil))) .nil)
theorem unusedByName_not_invariant :
    unusedByName (Program.res (Program.ren 1 1 5 shadow)) ≠ unusedByName (Program.res shadow) := by decide
/-- …while the binding-keyed rule reports the outer declaration in both -/
example : unused (Program.res shadow) = [0] ∧ unused (Program.res (Program.ren 1 1 5 shadow)) = [0] ∧
    5 ∉ shadow.names ∧ Program.res (Program.ren 1 1 5 shadow) ≠ Program.res shadow := by decide +kernel

end DL.Props.C20
