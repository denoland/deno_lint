import DL.Lemmas.RxBQuant
import DL.Lemmas.RxSpecClass

/-! # Annex B (no `u` flag): character classes -/
namespace DL.Rx
open DL.RxSpec DL.Gen.Unicode
attribute [local irreducible] isScalar
variable {src : List Nat} {K : Bool × Nat}

/-- `consume_class_escape`: the Annex B alternative `c ClassControlLetter`, tried in the state `s` -/
def classControlLetter (s : St) : M Bool := do
  if !s.strict && !s.uFlag && (← codePointWithOffset 0) == some (ch 'c') then
    match ← codePointWithOffset 1 with
    | some cp =>
      if isAsciiDigit cp || cp == ch '_' then do
        advance
        advance
        setInt ((cp : Int) % 0x20)
        pure true
      else pure false
    | none => pure false
  else pure false

theorem consumeClassEscape_eq (fuel : Nat) : consumeClassEscape fuel = (do
    if ← eat 'b' then
      setInt 0x08
      pure true
    else if ← ((do pure (← getSt).uFlag) <and> eat '-') then
      setInt (ch '-')
      pure true
    else
      let s ← getSt
      let hit ← classControlLetter s
      if hit then pure true
      else consumeCharacterClassEscape fuel <or> consumeCharacterEscape fuel) := rfl

theorem classControlLetter_wb (r : List Nat) (s : St) (h : BAt src K r s) :
    Wp (classControlLetter s s) (fun b s1 =>
      if b = true then ∃ l r1, r = c 'c' :: l :: r1 ∧ RxSpecB.ClassControlLetter l ∧ BAt src K r1 s1 ∧ KeepN s s1 ∧
        s1.lastIntValue = ((l % 32 : Nat) : Int)
      else s1 = s ∧ ¬∃ l r', r = c 'c' :: l :: r' ∧ RxSpecB.ClassControlLetter l) := by
  unfold classControlLetter
  rcases r with _ | ⟨x, _ | ⟨y, r'⟩⟩
  · rx6_auto
    all_goals rw [if_neg Bool.false_ne_true]
    all_goals exact ⟨rfl, fun ⟨_, _, e, _⟩ => nomatch e⟩
  · rx6_auto
    all_goals rw [if_neg Bool.false_ne_true]
    all_goals exact ⟨rfl, fun ⟨_, _, e, _⟩ => nomatch e⟩
  · rx6_auto
    · rename_i hn
      rw [if_neg Bool.false_ne_true]
      refine ⟨rfl, fun ⟨_, _, e, _⟩ => hn ?_⟩
      cases e
      rw [h.strict', h.uFlag']; rfl
    · rename_i d hd hn
      rw [if_neg Bool.false_ne_true]
      refine ⟨rfl, fun ⟨_, _, e, hl⟩ => hn ?_⟩
      cases e; cases hd
      rcases hl with hl | hl
      · rw [isAsciiDigit_of_decimalDigit hl]; rfl
      · rw [hl]; simp
    · rename_i hc _ d hd hcd _ _
      cases hd
      have hx : x = ch 'c' := by
        have := (Bool.and_eq_true _ _).mp hc
        simpa using this.2
      subst hx
      rw [if_pos rfl]
      refine ⟨y, r', rfl, ?_, by rx6_at, by rx6_keep, ?_⟩
      · rcases (Bool.or_eq_true _ _).mp hcd with h1 | h1
        · exact .inl (decimalDigit_of_isAsciiDigit h1)
        · exact .inr (by simpa using h1)
      · show _ = ((y % 32 : Nat) : Int)
        st_norm; omega
    · rename_i hd
      cases hd

theorem consumeClassEscape_wb (hsrc : ∀ x ∈ src, x ≤ 0xFFFF) (n : Nat) (r : List Nat) (s : St) (h : BAt src K r s) :
    Wp (consumeClassEscape n s) (fun b s1 => KeepN s s1 ∧
      if b = true then ∃ r1 v, BAt src K r1 s1 ∧ RxSpecB.ClassEscape K.1 r r1 v ∧ IntIs s1 v
      else BAt src K r s1 ∧ (¬∃ r1 v, RxSpecB.CharacterEscape K.1 r r1 v) ∧
        ¬∃ l r', r = c 'c' :: l :: r' ∧ RxSpecB.ClassControlLetter l) := by
  rw [consumeClassEscape_eq]
  rx6_autos
  · rx6_true
    exact ⟨_, some 8, by rx6_at, RxSpecB.ClassEscape.b _, rfl⟩
  · rename_i b s2 _ hb
    refine ⟨by rx6_keep, ?_⟩
    cases b
    · rw [if_neg Bool.false_ne_true] at hb ⊢
      exact ⟨hb.1, hb.2, ‹¬∃ l r', _ ∧ RxSpecB.ClassControlLetter l›⟩
    · rw [if_pos rfl] at hb ⊢
      obtain ⟨r1, v, hat, hce, hv⟩ := hb
      exact ⟨r1, some v, hat, RxSpecB.ClassEscape.character _ r1 v hce ‹_ ≠ some (ch 'b')›
        ‹¬∃ r', RxSpecB.CharacterClassEscape _ r'›, hv⟩
  · rx6_true
    exact ⟨_, none, ‹BAt src K _ _›, RxSpecB.ClassEscape.characterClass _ _ ‹RxSpecB.CharacterClassEscape _ _›, ‹_ = -1›⟩
  · rename_i l r1 e hl _ _ hv
    subst e
    rx6_true
    exact ⟨r1, some (l % 32), ‹BAt src K r1 _›, RxSpecB.ClassEscape.classControl l r1 hl, hv⟩

theorem consumeClassAtom_wb (hsrc : ∀ x ∈ src, x ≤ 0xFFFF) (n : Nat) (r : List Nat) (s : St) (h : BAt src K r s) :
    Wp (consumeClassAtom n s) (fun b s1 => KeepN s s1 ∧
      if b = true then ∃ r1 v, BAt src K r1 s1 ∧ RxSpecB.ClassAtom K.1 r r1 v ∧ IntIs s1 v else BAt src K r s1) := by
  unfold consumeClassAtom
  rx6_auto
  all_goals (try rx6_false)
  · -- `\` [lookahead = c]
    rename_i hn s1 hk y r' hat1 hat2 hnce hncc hc
    have hy : y = ch 'c' := by
      have := (Bool.and_eq_true _ _).mp hc
      simpa using this.2
    subst hy
    rx6_true
    refine ⟨_, some (c '\\'), by rx6_at, RxSpecB.ClassAtom.noDash _ _ _ (RxSpecB.ClassAtomNoDash.backslashC r' ?_), rfl⟩
    intro l hl
    cases r' with
    | nil => cases hl
    | cons l' r'' =>
      cases hl
      exact ⟨fun hcl => hncc ⟨l, r'', rfl, hcl⟩,
        fun hcl => hnce ⟨r'', l % 32, RxSpecB.CharacterEscape.controlLetter l r'' hcl⟩⟩
  · rename_i hc
    have := (Bool.and_eq_true _ _).mp hc
    exact absurd this.2 (by decide)
  · rename_i m hn hat0 s1 hk r1 v hat1 hce hv
    rx6_true
    exact ⟨r1, v, hat1, RxSpecB.ClassAtom.noDash _ r1 v (RxSpecB.ClassAtomNoDash.escape m r1 v hce), hv⟩
  · rename_i x r1 hc hat
    rx6_true
    have hx : x ≠ ch '\\' ∧ x ≠ ch ']' := by simpa using hc
    by_cases hd : x = ch '-'
    · subst hd
      exact ⟨r1, some (c '-'), by rx6_at, RxSpecB.ClassAtom.dash r1, rfl⟩
    · exact ⟨r1, some x, by rx6_at, RxSpecB.ClassAtom.noDash _ r1 _
        (RxSpecB.ClassAtomNoDash.char x r1 (hsrc x (h.mem_src List.mem_cons_self)) hx.1 hx.2 hd), rfl⟩

inductive ItemsB (nf : Bool) : Bool → Str → Str → Prop
  | nil (r : Str) : ItemsB nf false r r
  | atom (b : Bool) (r m r1 : Str) (v : Option Nat) : RxSpecB.ClassAtom nf r m v → m.head? ≠ some (c '-') →
      ItemsB nf b m r1 → ItemsB nf true r r1
  | range (b : Bool) (r m₁ m₂ r1 : Str) (x y : Option Nat) : RxSpecB.ClassAtom nf r (c '-' :: m₁) x →
      RxSpecB.ClassAtom nf m₁ m₂ y → RxSpecB.RangeOk x y → ItemsB nf b m₂ r1 → ItemsB nf true r r1
  | trailing (r m : Str) (v : Option Nat) : RxSpecB.ClassAtom nf r (c '-' :: m) v → ItemsB nf true r m

theorem rangeOkB_of {sa sb : St} {x y : Option Nat} (hx : IntIs sa x) (hy : IntIs sb y)
    (h2 : (sa.lastIntValue == -1 || sb.lastIntValue == -1) = true ∨ ¬sa.lastIntValue > sb.lastIntValue) :
    RxSpecB.RangeOk x y := by
  intro a b ha hb
  subst ha hb
  have ha : sa.lastIntValue = (a : Nat) := hx
  have hb : sb.lastIntValue = (b : Nat) := hy
  rw [ha, hb] at h2
  rcases h2 with h2 | h2
  · simp only [Bool.or_eq_true, beq_iff_eq] at h2
    omega
  · omega

theorem consumeClassRanges_wb (hsrc : ∀ x ∈ src, x ≤ 0xFFFF) : ∀ (n : Nat) (r : List Nat) (s : St), BAt src K r s →
    Wp (consumeClassRanges n s) (fun _ s1 => KeepN s s1 ∧ ∃ b r1, ItemsB K.1 b r r1 ∧ BAt src K r1 s1)
  | 0, _, _, _ => Wp.outOfFuel
  | n + 1, r, s, h => by
    have ih := consumeClassRanges_wb hsrc n
    unfold consumeClassRanges
    rx6_auto
    · -- a range, both ends characters in order
      rename_i s1 hk1 x hx m1 hat0 hat1 ha s2 hk2 m2 y hat2 hb hy hne hle _ s3 hk3 b r1 hit hat3
      exact ⟨by rx6_keep, true, r1, ItemsB.range b r m1 m2 r1 x y ha hb (rangeOkB_of hx hy (.inr hle)) hit, hat3⟩
    · -- a range with a class as an end (allowed without `u`)
      rename_i s1 hk1 x hx m1 hat0 hat1 ha s2 hk2 m2 y hat2 hb hy hc _ s3 hk3 b r1 hit hat3
      exact ⟨by rx6_keep, true, r1, ItemsB.range b r m1 m2 r1 x y ha hb (rangeOkB_of hx hy (.inl hc)) hit, hat3⟩
    · -- `atom -` at the end
      rename_i s1 hk1 x hx m1 hat0 hat1 ha s2 hk2 hat2
      exact ⟨by rx6_keep, true, m1, ItemsB.trailing r m1 x ha, hat2⟩
    · -- an atom not followed by `-`
      rename_i s1 hk1 m x hat1 ha hx hne _ s2 hk2 b r1 hit hat2
      exact ⟨by rx6_keep, true, r1, ItemsB.atom b r m r1 x ha hne hit, hat2⟩
    · -- no atom
      rename_i s1 hk1 hat1
      exact ⟨hk1, false, r, ItemsB.nil r, hat1⟩

theorem classAtom_noDashB {nf : Bool} {r m : Str} {v : Option Nat} (h : RxSpecB.ClassAtom nf r m v)
    (hne : r.head? ≠ some (c '-')) : RxSpecB.ClassAtomNoDash nf r m v := by
  cases h with
  | dash r => exact (hne rfl).elim
  | noDash i r v h => exact h

theorem items_crB {nf : Bool} {b : Bool} {r r1 : Str} (h : ItemsB nf b r r1) :
    RxSpecB.CR nf .ClassRanges r r1 ∧
      (b = true → r.head? ≠ some (c '-') → RxSpecB.CR nf .NonemptyClassRangesNoDash r r1) := by
  induction h with
  | nil r => exact ⟨.empty r, fun h => by cases h⟩
  | atom b r m r1 v ha hne hrest ih =>
    cases b with
    | false =>
      cases hrest
      exact ⟨.nonempty _ _ (.atom _ _ v ha), fun _ _ => .ndAtom _ _ v ha⟩
    | true =>
      have hnd := ih.2 rfl hne
      exact ⟨.nonempty _ _ (.atomMore _ _ _ v ha hnd),
        fun _ hr => .ndAtomMore _ _ _ v (classAtom_noDashB ha hr) hnd⟩
  | range b r m₁ m₂ r1 x y ha hb hok hrest ih =>
    exact ⟨.nonempty _ _ (.range _ _ _ _ x y ha hb hok ih.1),
      fun _ hr => .ndRange _ _ _ _ x y (classAtom_noDashB ha hr) hb hok ih.1⟩
  | trailing r m v ha =>
    exact ⟨.nonempty _ _ (.atomMore _ _ _ v ha (.ndAtom _ _ _ (.dash m))),
      fun _ hr => .ndAtomMore _ _ _ v (classAtom_noDashB ha hr) (.ndAtom _ _ _ (.dash m))⟩

theorem consumeCharacterClass_wb (hsrc : ∀ x ∈ src, x ≤ 0xFFFF) (n : Nat) (r : List Nat) (s : St)
    (h : BAt src K r s) :
    Wp (consumeCharacterClass n s) (fun b s1 => KeepN s s1 ∧
      if b = true then ∃ r1, BAt src K r1 s1 ∧ RxSpecB.CharacterClass K.1 r r1 else BAt src K r s1) := by
  unfold consumeCharacterClass
  rx6_auto
  all_goals (try rx6_false)
  · rename_i m hat0 hat1 _ s1 hk b r1 hat2 hit hat3
    rx6_true
    exact ⟨r1, by rx6_at, RxSpecB.CharacterClass.neg m r1 (items_crB hit).1⟩
  · rename_i m hat0 hne _ s1 hk b r1 hat2 hit hat3
    rx6_true
    exact ⟨r1, by rx6_at, RxSpecB.CharacterClass.pos m r1 hne (items_crB hit).1⟩

end DL.Rx
