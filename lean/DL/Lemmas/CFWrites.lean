import DL.Lemmas.CFMarks

/-! A visit writes `unreachable` flags under statement positions of the syntax visited only (`upos`), and anything at all
under its positions only (`positions`): `Writes`, composed along the definition of the visit from the flag `visit_stmt`
records, the visits of the parts, what the steps in between leave alone (`Marks`) and what a child scope shows its parent
(`Sees`).  Purely syntactic, for the whole statement language.  `Stmt.ur_frame`, `Stmt.info_frame` and `Stmt.own_ur`
(the flag under a statement's own position is the one `visit_stmt` recorded) are its readings. -/
namespace DL.CF

/-- the metadata `j` is `i` but for `unreachable` flags under keys of `us` and anything under keys of `ps` -/
structure Writes (us ps : List Nat) (i j : Info) : Prop where
  ur : ∀ q, q ∉ us → j.ur q = i.ur q
  info : ∀ q, q ∉ ps → j q = i q

section
variable {us vs ps qs ks : List Nat} {i j k : Info} {a b c r : A} {p : Nat}

theorem Writes.refl (i : Info) : Writes [] [] i i := ⟨fun _ _ => rfl, fun _ _ => rfl⟩

theorem Writes.seq (h1 : Writes us ps i j) (h2 : Writes vs qs j k) : Writes (us ++ vs) (ps ++ qs) i k :=
  ⟨fun q hq => (h2.ur q fun h => hq (List.mem_append.mpr (.inr h))).trans (h1.ur q fun h => hq (List.mem_append.mpr (.inl h))),
    fun q hq => (h2.info q fun h => hq (List.mem_append.mpr (.inr h))).trans (h1.info q fun h => hq (List.mem_append.mpr (.inl h)))⟩

/-- the parts may be listed in another order than they are visited in -/
theorem Writes.swap (h : Writes (us ++ vs) (ps ++ qs) i j) : Writes (vs ++ us) (qs ++ ps) i j :=
  ⟨fun q hq => h.ur q fun hm => hq (List.mem_append.mpr (List.mem_append.mp hm).symm),
    fun q hq => h.info q fun hm => hq (List.mem_append.mpr (List.mem_append.mp hm).symm)⟩

theorem Writes.monoP (h : Writes us ps i j) (hs : ∀ q, q ∈ ps → q ∈ qs) : Writes us qs i j :=
  ⟨h.ur, fun q hq => h.info q fun hp => hq (hs q hp)⟩

/-- a key the steps around the parts write under -/
theorem Writes.key (h : Writes us ps i j) (p : Nat) : Writes us (p :: ps) i j := h.monoP fun _ => List.mem_cons_of_mem _

/-- …which may be listed first although a part comes before it -/
theorem Writes.hoist (h : Writes us (ps ++ p :: qs) i j) : Writes us (p :: (ps ++ qs)) i j :=
  h.monoP fun q hq => by
    rcases List.mem_append.mp hq with h | h
    · exact .tail _ (List.mem_append.mpr (.inl h))
    · exact (List.mem_cons.mp h).elim (· ▸ .head _) fun h => .tail _ (List.mem_append.mpr (.inr h))

theorem Writes.marks (h : Writes us ps i a.info) (hm : Marks ks a b) (hk : ∀ q, q ∈ ks → q ∈ ps) : Writes us ps i b.info :=
  ⟨fun q hq => (hm.ur q).trans (h.ur q hq), fun q hq => (hm.info q fun hq' => hq (hk q hq')).trans (h.info q hq)⟩

theorem Writes.mark1 (h : Writes us (p :: ps) i a.info) (hm : Marks [p] a b) : Writes us (p :: ps) i b.info :=
  h.marks hm fun _ hq => List.mem_singleton.mp hq ▸ .head _

/-- a step that leaves the metadata alone -/
theorem Writes.same (h : Writes us ps i a.info) (hb : b.info = a.info) : Writes us ps i b.info := hb ▸ h

/-- the parts were visited by the closure of `with_child_scope(kind, p, ..)` -/
theorem Writes.scope {kind : BlockKind} (h : Writes us ps (childA kind a).info c.info) (w : Sees kind p a c r) (hp : p ∈ ps) :
    Writes us ps a.info r.info :=
  ⟨fun q hq => (w.ur q).trans (h.ur q hq), fun q hq => (w.info q fun e => hq (e ▸ hp)).trans (h.info q hq)⟩

/-- the loop scope: the body, then the tail of the closure, which only records ends -/
theorem Writes.loop {body : Stmt} (tail : A → A)
    (h : Writes us ps (childA .loop a).info (visitStmt body (childA .loop a)).info) (hm : ∀ y, Marks ks y (tail y))
    (hk : ∀ q, q ∈ ks → q ∈ ps) (hp : body.pos ∈ ps) :
    Writes us ps a.info (withChild .loop body.pos (fun x => tail (visitStmt body x)) a).info :=
  (h.marks (hm _) hk).scope (withChild_sees .loop body.pos (fun x => tail (visitStmt body x)) a) hp

theorem Stmt.upos_eq (s : Stmt) : s.upos = s.pos :: s.upos.tail := by
  cases s with
  | ifS p t c a => cases a <;> rfl
  | _ => rfl

/-- a statement: first the flag `visit_stmt` records under its position, then the rest -/
theorem Writes.ofRest {s : Stmt} (h : Writes s.upos.tail s.positions (flagA a s.pos s.tag).info j) :
    Writes s.upos s.positions a.info j := by
  rw [s.upos_eq]
  refine ⟨fun q hq => ?_, fun q hq => ?_⟩
  · rw [List.mem_cons, not_or] at hq
    rw [h.ur q hq.2]; simp [flagA, ur_setUnreach, hq.1]
  · have hne : q ≠ s.pos := fun e => hq (e ▸ s.pos_mem)
    rw [h.info q hq]; simp [flagA, Info.setUnreach, hne]

/-- …and through `visit_stmt_or_block` -/
theorem Writes.sob {s : Stmt} (h : Writes s.upos.tail s.positions (flagA a s.pos s.tag).info (visitStmt s a).info) :
    Writes s.upos s.positions a.info (sobTail s (visitStmt s a)).info :=
  (Writes.ofRest h).marks (sobTail_marks s _) fun _ hq => List.mem_singleton.mp hq ▸ s.pos_mem

/-- a branch of an `if`, visited in a child scope -/
theorem Writes.branch {s : Stmt}
    (h : Writes s.upos.tail s.positions (flagA (childA .ifK a) s.pos s.tag).info (visitStmt s (childA .ifK a)).info) :
    Writes s.upos s.positions a.info (withChild .ifK s.pos (fun x => sobTail s (visitStmt s x)) a).info :=
  (Writes.sob h).scope (withChild_sees .ifK s.pos (fun x => sobTail s (visitStmt s x)) a) s.pos_mem

theorem tryHandler_writes (hh : Bool) (cp : Nat) (ck : Kids) (prev : Option End) (a : A)
    (hck : ∀ x, Writes ck.upos ck.positions x.info (visitKids ck x).info) :
    Writes ck.upos (optPos hh cp ++ ck.positions) a.info (tryHandler hh cp ck prev a).info := by
  cases hh with
  | false => exact ⟨fun _ _ => rfl, fun _ _ => rfl⟩
  | true =>
    have hx : ∀ x : A, x.info = a.info → Writes ck.upos (cp :: ck.positions) a.info
        (tryCatchJoin a.sc.end_ a.sc.mayThrow (withChild .catch_ cp (visitKids ck) x)).info := fun x hx =>
      hx ▸ ((((hck (childA .catch_ x)).key cp).scope (withChild_sees .catch_ cp (visitKids ck) x) (.head _)).marks
        (tryCatchJoin_marks ..) nofun)
    exact hx _ (by split <;> rfl)

theorem tryFinalizer_writes (hf : Bool) (fp : Nat) (f : Stmts) (prev : Option End) (a : A)
    (hf' : ∀ x, Writes f.upos f.positions x.info (visitStmts f x).info) :
    Writes f.upos (optPos hf fp ++ f.positions) a.info (tryFinalizer hf fp f prev a).info := by
  cases hf with
  | false => exact ⟨fun _ _ => rfl, fun _ _ => rfl⟩
  | true =>
    exact ((((hf' (childA .finally_ _)).key fp).mark1 (blockTail_marks fp _)).scope
      (withChild_sees .finally_ fp (fun x => blockTail fp (visitStmts f x)) (a.setEnd prev)) (.head _)).marks
      (finallyJoin_marks ..) nofun
end

theorem exprEffect_info (k : EKind) (a : A) : (exprEffect k a).info = a.info := by
  unfold exprEffect; split
  · cases k <;> rfl
  · cases k <;> rfl
  · rfl

theorem throwEffect_info (a : A) : (throwEffect a).info = a.info := by
  unfold throwEffect; split <;> rfl

/- Each case follows the definition of the visit: the parts in the order they are visited in, `key` for the construct's
own keys, `mark1`/`marks` for a step that only records ends, `scope` for a child scope. -/
mutual
theorem Stmt.writes_rest : ∀ (s : Stmt) (a : A), Writes s.upos.tail s.positions (flagA a s.pos s.tag).info (visitStmt s a).info
  | .simple p t kids, a =>
    (Kids.writes kids _).monoP fun q hq => (Stmt.mem_positions_simple p t kids q).mpr (.inr hq)
  | .block p b, a => ((Stmts.writes b _).key p).mark1 (blockTail_marks p _)
  | .ifS p t c none, a =>
    (((Kids.writes t _).seq (Writes.branch (Stmt.writes_rest c _))).key p).mark1 (markSet_marks ..)
  | .ifS p t c (some al), a =>
    (((Kids.writes t _).seq ((Writes.branch (Stmt.writes_rest c _)).seq (Writes.branch (Stmt.writes_rest al _)))).key p).mark1
      (ifJoin_marks ..)
  | .whileS p t tt b, a =>
    (((Writes.loop (whileTail tt b.isDeclOrExpr b.pos) (.ofRest (Stmt.writes_rest b _)) (fun _ => whileTail_marks ..)
      (fun _ hq => List.mem_singleton.mp hq ▸ b.pos_mem) b.pos_mem).seq (Kids.writes t _)).swap).key p
  | .doWhileS p b t tt, a =>
    ((((Writes.loop (doWhileTail tt b.isDeclOrExpr b.pos) (.ofRest (Stmt.writes_rest b _)) (fun _ => doWhileTail_marks ..)
      (fun _ hq => List.mem_singleton.mp hq ▸ b.pos_mem) b.pos_mem).key p).mark1 (doWhileAfter_marks p b.pos _)).seq
      (Kids.writes t _)).swap.hoist
  | .forS p i u t ht tt b, a =>
    (((Kids.writes i _).seq ((Kids.writes u _).seq (Kids.writes t _))).seq
      (Writes.loop (forTail p b.pos b.isDeclOrExpr ht tt) ((Writes.ofRest (Stmt.writes_rest b _)).key p) (fun _ => forTail_marks ..)
        (fun q hq => (List.mem_cons.mp hq).elim (· ▸ .head _) fun h => .tail _ (List.mem_singleton.mp h ▸ b.pos_mem))
        (.tail _ b.pos_mem))).hoist
  | .forInOf p l r b, a =>
    (((Kids.writes l _).seq (Kids.writes r _)).seq
      (Writes.loop (forInOfTail b.pos) (.ofRest (Stmt.writes_rest b _)) (fun _ => forInOfTail_marks ..)
        (fun _ hq => List.mem_singleton.mp hq ▸ b.pos_mem) b.pos_mem)).key p
  | .switchS p d cs, a =>
    visitStmt_switch p d cs a ▸ (((Kids.writes d _).seq (Cases.writes cs _)).key p).mark1 (switchFin_marks ..)
  | .tryS p bp b hh cp ck hf fp f, a => by
    rw [visitStmt_try]
    exact (((((Stmts.writes b (tryStart p a)).key bp).mark1 (blockTail_marks bp _)).seq
      ((tryHandler_writes hh cp ck _ _ (Kids.writes ck)).seq (tryFinalizer_writes hf fp f _ _ (Stmts.writes f)))).key p).mark1
      (tryFin_marks p _) |>.same rfl
  | .labeled p l b, a =>
    ((Writes.sob (Stmt.writes_rest b _)).key p).scope
      (withChild_sees (.label l) p (fun x => sobTail b (visitStmt b x)) (flagA a p .other)) (.head _)
  | .brk p l, a => (Writes.refl _).key p
  | .cont p l, a => (Writes.refl _).key p
  | .ret p arg, a => ((Kids.writes arg _).key p).mark1 ((Marks.refl _).mark (.head _) _)
  | .throw p arg, a =>
    (((Kids.writes arg _).key p).same (throwEffect_info _)).mark1 ((Marks.refl _).mark (.head _) _)
theorem Stmts.writes : ∀ (l : Stmts) (a : A), Writes l.upos l.positions a.info (visitStmts l a).info
  | .nil, a => Writes.refl _
  | .cons s r, a => (Writes.sob (Stmt.writes_rest s a)).seq (Stmts.writes r _)
theorem Kid.writes : ∀ (k : Kid) (a : A), Writes k.upos k.positions a.info (visitKid k a).info
  | .expr e ks, a => (Kids.writes ks a).same (exprEffect_info e _)
  | .fnScope p ks, a => ((Kids.writes ks (childA .function a)).key p).scope (withChild_sees .function p _ a) (.head _)
  | .block p b, a => ((Stmts.writes b a).key p).mark1 (blockTail_marks p _)
  | .stmt s, a => Writes.ofRest (Stmt.writes_rest s a)
theorem Kids.writes : ∀ (ks : Kids) (a : A), Writes ks.upos ks.positions a.info (visitKids ks a).info
  | .nil, a => Writes.refl _
  | .cons k r, a => (Kid.writes k a).seq (Kids.writes r _)
theorem Cases.writes : ∀ (cs : Cases) (a : A), Writes cs.upos cs.positions a.info (visitCases cs a).info
  | .nil, a => Writes.refl _
  | .cons p _ t b r, a =>
    ((Kids.writes t a).seq (((((Stmts.writes b (childA .case _)).key p).scope (withChildR_sees .case p _ _) (.head _)).mark1
      (caseTail_marks p a.sc.end_ _)).seq (Cases.writes r _))).hoist
end

theorem Stmt.writes (s : Stmt) (a : A) : Writes s.upos s.positions a.info (visitStmt s a).info := .ofRest (s.writes_rest a)

theorem Kid.ur_frame : ∀ (k : Kid) (a : A) (q : Nat), q ∉ k.upos → (visitKid k a).info.ur q = a.info.ur q :=
  fun k a => (k.writes a).ur

/-- the flag `visit_stmt` records under the statement's position is what is found there afterwards, unless a statement
inside it has the same position -/
theorem Stmt.own_ur (s : Stmt) (a : A) (h : s.pos ∉ s.upos.tail) :
    (visitStmt s a).info.ur s.pos = unreachableFlag a.sc s.tag :=
  ((s.writes_rest a).ur s.pos h).trans (by simp [flagA, ur_setUnreach])

end DL.CF
