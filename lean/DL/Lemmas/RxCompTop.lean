import DL.Lemmas.RxCompRec5

/-! # Completeness: `consume_pattern`, `validate_pattern` (u-mode) -/
namespace DL.Rx
open DL.RxSpec DL.Gen.Unicode

attribute [local irreducible] isScalar
variable {src : List Nat} {N : Nat}

theorem NE.countCapturingParensLoop : ∀ n ic esc k, NE (DL.Rx.countCapturingParensLoop n ic esc k)
  | 0, _, _, _ => by unfold DL.Rx.countCapturingParensLoop; ne_auto
  | n + 1, ic, esc, k => by
    have ih := NE.countCapturingParensLoop n
    unfold DL.Rx.countCapturingParensLoop
    ne_auto
    all_goals exact ih _ _ _

theorem NE.countCapturingParens (n : Nat) : NE (DL.Rx.countCapturingParens n) := by
  have := NE.countCapturingParensLoop n false false 0
  unfold DL.Rx.countCapturingParens; ne_auto

theorem countCapturingParens_wc (n : Nat) (r : List Nat) (s : St) (h : UAt src N r s) :
    Wc (countCapturingParens n s) (fun v s1 => v = scan r false false 0 ∧ UAt src N r s1 ∧ KeepN s s1) :=
  Wc.of_wp (countCapturingParens_wp n r s h) (NE.countCapturingParens n)

/-- a valid pattern passes `consume_pattern` -/
theorem consumePattern_wc (a : Attr) (hder : Derives qokSat a.groups.length .Disjunction src [] a)
    (hnd : (groupNames a.groups).Nodup) (hrefs : ∀ x ∈ a.refs, x ∈ groupNames a.groups)
    (n : Nat) (s : St) (h : UAt src N src s) :
    Wc (consumePattern n s) (fun _ s1 => s1.nFlag = true) := by
  have hscan : scan src false false 0 = a.groups.length := by
    have := derives_scan hder 0
    rw [this]; simp [scan]
  have hdj : PDj src a.groups.length src [] a := disj_of_body (derives_complete hder) (.inl rfl)
  unfold consumePattern
  refine Wc.call (countCapturingParens_wc n src s h) (fun v s1 hpost => ?_)
  obtain ⟨hv, hat1, hk1⟩ := hpost
  rw [hscan] at hv
  subst hv
  with_reducible refine Wc.bind_modSt ?_
  have hat2 : UAt src a.groups.length src
      { s1 with numCapturingParens := a.groups.length, groupNames := [], backreferenceNames := [] } :=
    ⟨hat1.1, hat1.2.1, hat1.2.2.1, hat1.2.2.2.1, hat1.2.2.2.2.1, rfl⟩
  refine Wc.call (hdj n _ hat2 (by
    show ([] ++ groupNames a.groups).Nodup
    rw [List.nil_append]; exact hnd)) (fun _ s2 hpost => ?_)
  obtain ⟨hat3, htr⟩ := hpost
  rx5_auto
  · rename_i name hfind
    have hmem := List.mem_of_find?_eq_some hfind
    have hp := List.find?_some hfind
    have hin : name ∈ a.refs := by
      rcases (htr.bn name).mp hmem with h | h
      · exact nomatch h
      · exact h
    have hg : name ∈ s2.groupNames := by
      rw [htr.gn]
      exact List.mem_append_right _ (hrefs name hin)
    have : s2.groupNames.contains name = true := List.contains_iff_mem.mpr hg
    rw [this] at hp
    cases hp
  · exact hat3.nFlag'

/-- the prepared state from which `validate_pattern` runs `consume_pattern` -/
theorem validatePattern_wc (a : Attr) (hder : Derives qokSat a.groups.length .Disjunction src [] a)
    (hnd : (groupNames a.groups).Nodup) (hrefs : ∀ x ∈ a.refs, x ∈ groupNames a.groups)
    (fuel : Nat) (st : St) :
    Wc (validatePattern fuel src true st) (fun _ _ => True) := by
  rw [validatePattern_eq]
  have hstat : RStatic src (prep src true st).reader := ⟨rfl, rfl⟩
  have hrw := rewindLoop_eq (src := src) 0 (prep src true st) hstat 4 0 rfl (Nat.zero_le _)
  have hat : UAt src st.numCapturingParens src ((prep src true st).setPos src 0) :=
    ⟨RInv.setPos hstat (Nat.zero_le _), rfl, rfl, rfl, rfl, rfl⟩
  have hcp := fun n s (h : UAt src st.numCapturingParens src s) =>
    consumePattern_wc (src := src) (N := st.numCapturingParens) a hder hnd hrefs n s h
  unfold afterPrep
  refine Wc.bind ?_
  have e : rewindLoop 0 4 0 (prep src true st) = .ok () ((prep src true st).setPos src 0) := hrw
  rw [e]
  refine Wc.ok ?_
  rx5_auto
  all_goals trivial

end DL.Rx
