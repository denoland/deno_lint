import DL.Model.Dir

/-!
# What the code list of a directive means: tokens between separators, reason cut off

`parse_ignore_comment` turns the text after the directive word into codes by two regex replacements and a split.
This file proves the closed form: the codes are the maximal runs of non-separator characters (separator = white space
or comma) of the text before the reason (`tokens`), from which separator- and reason-independence follow.  The rules
about `tokens` all come from one: `pieces`, hence `tokens`, is additive at a separator (`pieces_append_sep`).
-/
namespace DL.Dir

def isSep (c : Char) : Bool := isWs c || c == ','

/-- split at every separator character (pieces may be empty) -/
def pieces : List Char → List (List Char)
  | [] => [[]]
  | c :: t =>
    match pieces t with
    | [] => [[]]
    | w :: ws => if isSep c then [] :: w :: ws else (c :: w) :: ws

def nonE (l : List (List Char)) : List (List Char) := l.filter (fun w => !w.isEmpty)

/-- the codes a text denotes: its maximal separator-free runs, in order -/
def tokens (t : List Char) : List (List Char) := nonE (pieces t)

theorem pieces_ne (t : List Char) : pieces t ≠ [] := by
  cases t with
  | nil => simp [pieces]
  | cons c t => simp only [pieces]; split <;> (try split) <;> simp

theorem splitComma_ne (t : List Char) : splitComma t ≠ [] := by
  cases t with
  | nil => simp [splitComma]
  | cons c t => simp only [splitComma]; split <;> (try split) <;> simp

theorem splitComma_comma (t : List Char) : splitComma (',' :: t) = [] :: splitComma t := by
  simp only [splitComma]
  cases h : splitComma t with
  | nil => exact absurd h (splitComma_ne t)
  | cons w ws => simp

theorem splitComma_other (c : Char) (t : List Char) (hc : c ≠ ',') (w : List Char) (ws : List (List Char))
    (h : splitComma t = w :: ws) : splitComma (c :: t) = (c :: w) :: ws := by
  simp [splitComma, h, hc]

theorem pieces_sep (c : Char) (t : List Char) (hc : isSep c = true) : pieces (c :: t) = [] :: pieces t := by
  simp only [pieces]
  cases h : pieces t with
  | nil => exact absurd h (pieces_ne t)
  | cons w ws => simp [hc]

theorem pieces_other (c : Char) (t : List Char) (hc : isSep c = false) (w : List Char) (ws : List (List Char))
    (h : pieces t = w :: ws) : pieces (c :: t) = (c :: w) :: ws := by
  simp [pieces, h, hc]

@[simp] theorem nonE_nil_cons (l : List (List Char)) : nonE ([] :: l) = nonE l := by simp [nonE]

theorem nonE_cons_congr (h : List Char) {r r' : List (List Char)} (hr : nonE r = nonE r') :
    nonE (h :: r) = nonE (h :: r') := by
  simp only [nonE, List.filter_cons] at hr ⊢
  rw [hr]

theorem nonE_cons_cons (c : Char) (w : List Char) (l : List (List Char)) : nonE ((c :: w) :: l) = (c :: w) :: nonE l := by
  simp [nonE]

theorem pieces_append_sep (a : List Char) (s : Char) (b : List Char) (hs : isSep s = true) :
    pieces (a ++ s :: b) = pieces a ++ pieces b := by
  induction a with
  | nil => exact pieces_sep s b hs
  | cons c a ih =>
    cases hp : pieces a with
    | nil => exact absurd hp (pieces_ne a)
    | cons w ws =>
      rw [hp] at ih
      cases hc : isSep c
      · rw [List.cons_append, pieces_other c _ hc _ _ ih, pieces_other c a hc w ws hp]; rfl
      · rw [List.cons_append, pieces_sep c _ hc, pieces_sep c a hc, ih, hp]; rfl

theorem pieces_code (w : List Char) (hw : ∀ c ∈ w, isSep c = false) : pieces w = [w] := by
  induction w with
  | nil => rfl
  | cons c u ih =>
    exact pieces_other c u (hw c List.mem_cons_self) u [] (ih fun d hd => hw d (List.mem_cons_of_mem _ hd))

theorem pieces_no_sep (x : List Char) : ∀ w ∈ pieces x, ∀ c ∈ w, isSep c = false := by
  induction x with
  | nil => intro w hw c hc; cases List.mem_singleton.mp hw; cases hc
  | cons d t ih =>
    cases hp : pieces t with
    | nil => exact absurd hp (pieces_ne t)
    | cons h r =>
      rw [hp] at ih
      cases hd : isSep d
      · rw [pieces_other d t hd h r hp]
        intro w hw c hc
        rcases List.mem_cons.mp hw with rfl | hw
        · rcases List.mem_cons.mp hc with rfl | hc
          · exact hd
          · exact ih h List.mem_cons_self c hc
        · exact ih w (List.mem_cons_of_mem _ hw) c hc
      · rw [pieces_sep d t hd, hp]
        intro w hw c hc
        rcases List.mem_cons.mp hw with rfl | hw
        · cases hc
        · exact ih w hw c hc

/-- With the flag of `replaceSepsAux` set (inside the `\s*` after a comma) white space is swallowed instead of turned into a
comma, so the split agrees with `pieces` only up to empty pieces.  With the flag clear the first piece is the same as
well, which is what the case of an ordinary character in front needs. -/
theorem replaceSeps_pieces (x : List Char) :
    (∃ h r r', splitComma (replaceSepsAux false x) = h :: r ∧ pieces x = h :: r' ∧ nonE r = nonE r') ∧
    nonE (splitComma (replaceSepsAux true x)) = nonE (pieces x) := by
  induction x with
  | nil => exact ⟨⟨[], [], [], by simp [replaceSepsAux, splitComma], by simp [pieces], rfl⟩, by simp [replaceSepsAux, splitComma, pieces]⟩
  | cons c t ih =>
    obtain ⟨⟨h, r, r', h1, h2, h3⟩, ih2⟩ := ih
    have hfalse : nonE (splitComma (replaceSepsAux false t)) = nonE (pieces t) := by
      rw [h1, h2]; exact nonE_cons_congr h h3
    by_cases hcomma : c = ','
    · subst hcomma
      have hs : isSep ',' = true := by decide
      constructor
      · refine ⟨[], splitComma (replaceSepsAux true t), pieces t, ?_, pieces_sep _ _ hs, ih2⟩
        simp only [replaceSepsAux, if_true]; exact splitComma_comma _
      · simp only [replaceSepsAux, if_true]; rw [splitComma_comma, pieces_sep _ _ hs]; simpa using ih2
    · by_cases hws : isWs c = true
      · have hs : isSep c = true := by simp [isSep, hws]
        constructor
        · refine ⟨[], splitComma (replaceSepsAux false t), pieces t, ?_, pieces_sep _ _ hs, hfalse⟩
          simp only [replaceSepsAux, hcomma, if_false, hws, if_true, Bool.false_eq_true]
          exact splitComma_comma _
        · simp only [replaceSepsAux, hcomma, if_false, hws, if_true]
          rw [pieces_sep _ _ hs]; simpa using ih2
      · have hws' : isWs c = false := by simpa using hws
        have hs : isSep c = false := by simp [isSep, hws', hcomma]
        have e1 : splitComma (c :: replaceSepsAux false t) = (c :: h) :: r := splitComma_other c _ hcomma h r h1
        have e2 : pieces (c :: t) = (c :: h) :: r' := pieces_other c t hs h r' h2
        constructor
        · refine ⟨c :: h, r, r', ?_, e2, h3⟩
          simp only [replaceSepsAux, hcomma, if_false, hws]; exact e1
        · simp only [replaceSepsAux, hcomma, if_false, hws, Bool.false_eq_true]
          rw [e1, e2, nonE_cons_cons, nonE_cons_cons, h3]

theorem trimEnd_no_ws (w : List Char) (h : ∀ c ∈ w, isWs c = false) : trimEnd w = w := by
  induction w with
  | nil => rfl
  | cons c t ih =>
    have iht := ih (fun d hd => h d (List.mem_cons_of_mem _ hd))
    simp only [trimEnd, iht]
    cases t with
    | nil => simp [h c List.mem_cons_self]
    | cons d t' => rfl

theorem trim_no_ws (w : List Char) (h : ∀ c ∈ w, isWs c = false) : trim w = w := by
  unfold trim trimStart
  have : w.dropWhile isWs = w := by
    cases w with
    | nil => rfl
    | cons c t => simp [List.dropWhile, h c List.mem_cons_self]
  rw [this]; exact trimEnd_no_ws w h

/-- **closed form of the code list**: the non-empty pieces after the replacement are the tokens, and a token holds no
white space to trim -/
theorem codes_eq_tokens (x : List Char) :
    (splitComma (replaceSeps x)).filterMap (fun code => if code.isEmpty then none else some (trim code)) = tokens x := by
  obtain ⟨h, r, r', h1, h2, h3⟩ := (replaceSeps_pieces x).1
  have hne : nonE (splitComma (replaceSeps x)) = tokens x := by
    unfold tokens replaceSeps; rw [h1, h2]; exact nonE_cons_congr h h3
  have hmap : ∀ l : List (List Char), l.filterMap (fun code => if code.isEmpty then none else some (trim code)) =
      (nonE l).map trim := fun l => by
    induction l with
    | nil => rfl
    | cons w ws ih =>
      cases w
      · exact ih
      · rw [List.filterMap_cons, nonE_cons_cons, List.map_cons, ← ih]; rfl
  rw [hmap, hne]
  refine (List.map_congr_left fun w hw => trim_no_ws w fun c hc => ?_).trans (List.map_id _)
  have := pieces_no_sep x w (List.mem_filter.mp hw).1 c hc
  simp only [isSep, Bool.or_eq_false_iff] at this
  exact this.1

/-- a code: non-empty, free of separators -/
def IsCode (w : List Char) : Prop := w ≠ [] ∧ ∀ c ∈ w, isSep c = false

def IsSeps (s : List Char) : Prop := ∀ c ∈ s, isSep c = true

theorem tokens_append_sep (a : List Char) (s : Char) (b : List Char) (hs : isSep s = true) :
    tokens (a ++ s :: b) = tokens a ++ tokens b := by
  unfold tokens nonE; rw [pieces_append_sep a s b hs, List.filter_append]

theorem tokens_seps (u : List Char) (hu : IsSeps u) : tokens u = [] := by
  induction u with
  | nil => rfl
  | cons c r ih =>
    exact (tokens_append_sep [] c r (hu c List.mem_cons_self)).trans (ih fun d hd => hu d (List.mem_cons_of_mem _ hd))

theorem tokens_code (w : List Char) (hw : IsCode w) : tokens w = [w] := by
  unfold tokens; rw [pieces_code w hw.2]
  cases w with
  | nil => exact absurd rfl hw.1
  | cons c u => rfl

theorem tokens_seps_append (s t : List Char) (hs : IsSeps s) : tokens (s ++ t) = tokens t := by
  induction s with
  | nil => rfl
  | cons c r ih =>
    exact (tokens_append_sep [] c _ (hs c List.mem_cons_self)).trans (ih fun d hd => hs d (List.mem_cons_of_mem _ hd))

theorem tokens_append_seps (t u : List Char) (hu : IsSeps u) : tokens (t ++ u) = tokens t := by
  cases u with
  | nil => rw [List.append_nil]
  | cons s u' =>
    rw [tokens_append_sep t s u' (hu s List.mem_cons_self), tokens_seps u' fun d hd => hu d (List.mem_cons_of_mem _ hd),
      List.append_nil]

/-- the text `c1 s1 c2 s2 … cn sn` built from codes and non-empty separator strings (the last may be empty) -/
def joinCodes : List (List Char × List Char) → List Char
  | [] => []
  | (w, s) :: r => w ++ s ++ joinCodes r

/-- **separator independence**: whatever non-empty mixtures of white space and commas separate the codes (and whatever
separators lead or trail), the code list is the same -/
theorem tokens_joinCodes (s0 : List Char) (l : List (List Char × List Char)) (h0 : IsSeps s0)
    (hl : ∀ ws ∈ l, IsCode ws.1 ∧ IsSeps ws.2)
    (hsep : ∀ i, i + 1 < l.length → (l[i]?.map (·.2)) ≠ some []) :
    tokens (s0 ++ joinCodes l) = l.map (·.1) := by
  rw [tokens_seps_append s0 _ h0]
  induction l with
  | nil => rfl
  | cons ws r ih =>
    obtain ⟨w, s⟩ := ws
    have hw := hl (w, s) List.mem_cons_self
    have ihr := ih (fun x hx => hl x (List.mem_cons_of_mem _ hx))
      (fun i hi => by have := hsep (i + 1) (by simp only [List.length_cons]; omega); simpa using this)
    simp only [joinCodes, List.map_cons, List.append_assoc]
    cases s with
    | nil =>
      -- no separator after this code: it must be the last one
      cases r with
      | nil => simp only [joinCodes, List.append_nil, List.map_nil]; exact tokens_code w hw.1
      | cons x r' => exact absurd rfl (hsep 0 (by simp))
    | cons c s' =>
      rw [List.cons_append, tokens_append_sep w c _ (hw.2 c List.mem_cons_self), tokens_code w hw.1,
        tokens_seps_append s' _ (fun d hd => hw.2 d (List.mem_cons_of_mem _ hd)), ihr]; rfl

def AllWs (s : List Char) : Prop := ∀ c ∈ s, isWs c = true

theorem startsReason_ws_append (s t : List Char) (hs : AllWs s) : startsReason (s ++ t) = startsReason t := by
  induction s with
  | nil => rfl
  | cons c r ih =>
    simp only [List.cons_append, startsReason, hs c List.mem_cons_self, if_true]
    exact ih (fun d hd => hs d (List.mem_cons_of_mem _ hd))

theorem startsReason_dashes (r : List Char) : startsReason ('-' :: '-' :: r) = true := by
  simp [startsReason, isWs]

/-- if `\s*--` matches at the head of `u ++ tail` but not at the head of `u`, then `u` is white space only
(`tail` = at least one white-space character, then the dashes) -/
theorem allWs_of_startsReason (w : Char) (ws r : List Char) (hw : isWs w = true) :
    ∀ (u : List Char), startsReason u = false → startsReason (u ++ (w :: ws ++ '-' :: '-' :: r)) = true → AllWs u := by
  intro u
  induction u with
  | nil => intro _ _ d hd; cases hd
  | cons d u' ihu =>
    intro h1 h2
    simp only [List.cons_append, startsReason] at h1 h2
    by_cases hd : isWs d = true
    · simp only [hd, if_true] at h1 h2
      intro e he
      rcases List.mem_cons.mp he with rfl | he
      · exact hd
      · exact ihu h1 h2 e he
    · simp only [hd, Bool.false_eq_true, if_false, Bool.and_eq_true, beq_iff_eq] at h1 h2
      obtain ⟨hd1, hd2⟩ := h2
      subst hd1
      cases u' with
      | cons e u'' =>
        simp only [List.cons_append, List.head?_cons] at hd2
        simp [hd2] at h1
      | nil =>
        simp only [List.nil_append, List.head?_cons, Option.some.injEq] at hd2
        subst hd2
        simp [isWs] at hw

/-- the cut removes at most trailing white space of the text before the reason -/
theorem stripReason_append (x : List Char) (w : Char) (ws r : List Char) (hx : stripReason x = x) (hw : isWs w = true)
    (hws : AllWs ws) :
    ∃ y u, x = y ++ u ∧ AllWs u ∧ stripReason (x ++ (w :: ws ++ '-' :: '-' :: r)) = y := by
  have htail : startsReason (w :: ws ++ '-' :: '-' :: r) = true := by
    have : AllWs (w :: ws) := fun d hd => by
      rcases List.mem_cons.mp hd with rfl | hd
      · exact hw
      · exact hws d hd
    have := startsReason_ws_append (w :: ws) ('-' :: '-' :: r) this
    rw [startsReason_dashes] at this
    simpa using this
  induction x with
  | nil =>
    refine ⟨[], [], rfl, (fun d hd => by cases hd), ?_⟩
    simp only [List.nil_append, List.cons_append, stripReason]
    simp only [List.cons_append] at htail
    rw [htail]; rfl
  | cons c t ih =>
    have hsr : startsReason (c :: t) = false ∧ stripReason t = t := by
      simp only [stripReason] at hx
      by_cases hs : startsReason (c :: t) = true
      · rw [if_pos hs] at hx; cases hx
      · rw [if_neg hs] at hx
        exact ⟨by simpa using hs, by injection hx⟩
    obtain ⟨y', u', e1, e2, e3⟩ := ih hsr.2
    simp only [List.cons_append, stripReason]
    by_cases hs : startsReason (c :: (t ++ (w :: (ws ++ '-' :: '-' :: r)))) = true
    · rw [if_pos hs]
      have := allWs_of_startsReason w ws r hw (c :: t) hsr.1 (by simpa using hs)
      exact ⟨[], c :: t, rfl, this, rfl⟩
    · rw [if_neg hs]
      refine ⟨c :: y', u', by rw [e1]; rfl, e2, ?_⟩
      simp only [List.cons_append] at e3
      rw [e3]

/-- **reason independence**: appending white space, `--` and any reason text to a code list that contains no reason
yet does not change which codes are meant -/
theorem tokens_stripReason_append (x : List Char) (w : Char) (ws r : List Char) (hx : stripReason x = x)
    (hw : isWs w = true) (hws : AllWs ws) :
    tokens (stripReason (x ++ (w :: ws ++ '-' :: '-' :: r))) = tokens x := by
  obtain ⟨y, u, e1, e2, e3⟩ := stripReason_append x w ws r hx hw hws
  rw [e3, e1, tokens_append_seps y u (fun d hd => by simp [isSep, e2 d hd])]

/-- the restriction to at least one white-space character before `--` is needed: a code ending in `-` glued to the
dashes loses its last character (`a---r` means the code `a`, not `a-`) -/
example : tokens (stripReason (chars! "a---r")) = [chars! "a"] ∧ tokens (chars! "a-") = [chars! "a-"] := by decide

end DL.Dir
