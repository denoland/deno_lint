import DL.Lemmas.RxCompRec3

/-! # Completeness: the recursive productions (the induction) -/
namespace DL.Rx
open DL.RxSpec DL.Gen.Unicode
attribute [local irreducible] isScalar
variable {src : List Nat} {N : Nat}

/-- the body of a lookaround follows its derivation -/
theorem lookaroundBody_wc {m r : List Nat} {a : Attr} (hdj : PDj src N m (ch ')' :: r) a) (lookbehind : Bool) :
    ∀ n s, UAt src N m s → ND s.groupNames a →
      Wc (lookaroundBody n lookbehind s) (fun b s1 => b = true ∧ UAt src N r s1 ∧ TrackC s s1 a) := by
  intro n s hat hnd
  unfold PDj at hdj
  unfold lookaroundBody
  rx5_auto
  exact ⟨rfl, by rx4_at, by rx5_track⟩

/-- `i` is `m` after the mark of a lookaround: `<` or not, then `=` or `!` -/
def LookaroundMark (i m : List Nat) : Prop :=
  ∃ i', (i = ch '<' :: i' ∨ i' = i ∧ i.head? ≠ some (ch '<')) ∧ (i' = ch '=' :: m ∨ i' = ch '!' :: m)

theorem lookaround_wc {i m r : List Nat} {a : Attr} (hk : LookaroundMark i m) (hdj : PDj src N m (ch ')' :: r) a)
    (start : Nat) : ∀ n s, UAt src N i s → ND s.groupNames a →
      Wc (lookaround n start s) (fun b s1 => b = true ∧ UAt src N r s1 ∧ TrackC s s1 a) := by
  intro n s hat hnd
  have hbody := lookaroundBody_wc (src := src) (N := N) hdj
  obtain ⟨i', hlb, hmark⟩ := hk
  unfold lookaround
  refine Wc.bind_andM (Wc.bind_pure ?_)
  rw [if_pos rfl]
  -- `<` is read or not; what follows does not depend on it
  refine Wc.call (R := fun _ s0 => UAt src N i' s0 ∧ KeepN s s0) ?_ fun lb s0 ⟨h0, k0⟩ => ?_
  · rcases hlb with rfl | ⟨rfl, hne⟩
    · exact (Wc.eat_hit hat).mono fun _ _ hq => by rw [hq.2]; exact ⟨hat.step, rfl, rfl⟩
    · exact (Wc.eat_miss hat hne).mono fun _ _ hq => by rw [hq.2]; exact ⟨hat, .refl s⟩
  have hnd0 : ND s0.groupNames a := by rw [k0.gn]; exact hnd
  rcases hmark with rfl | rfl
  all_goals rx5_auto
  all_goals exact ⟨by assumption, by assumption, .pre k0 (by rx5_track)⟩

/-- the four lookaround assertions -/
theorem assertion_lookaround {i m r : List Nat} {a : Attr} (hk : LookaroundMark i m) (hdj : PDj src N m (ch ')' :: r) a) :
    PA src N (ch '(' :: ch '?' :: i) r a := by
  intro n s hat hnd
  have hla := lookaround_wc (src := src) (N := N) hk hdj
  cases n with
  | zero => exact Wc.outOfFuel
  | succ n =>
    rw [consumeAssertion_succ_eq]
    rx5_auto
    exact ⟨by assumption, by assumption, by rx5_track⟩

/-- the assertions without a body -/
macro "simple_assertion_proof" : tactic => `(tactic| (
  intro n s hat hnd
  cases n with
  | zero => exact Wc.outOfFuel
  | succ n =>
    unfold consumeAssertion
    rx5_autos
    exact ⟨rfl, by rx4_at, TrackC.ofKeepN ⟨rfl, rfl⟩⟩))

theorem caret_wc {r : List Nat} : PA src N (ch '^' :: r) r Attr.nil := by simple_assertion_proof
theorem dollar_wc {r : List Nat} : PA src N (ch '$' :: r) r Attr.nil := by simple_assertion_proof
theorem wordBoundary_wc {r : List Nat} : PA src N (ch '\\' :: ch 'b' :: r) r Attr.nil := by simple_assertion_proof
theorem notWordBoundary_wc {r : List Nat} : PA src N (ch '\\' :: ch 'B' :: r) r Attr.nil := by simple_assertion_proof

def Motive (src : List Nat) (N : Nat) : Sym → List Nat → List Nat → Attr → Prop
  | .Disjunction => PD src N
  | .Alternative => TermsP (N := N) (PT src N)
  | .Term => PT src N
  | .Assertion => PA src N
  | .Atom => PAt src N

theorem syn_head {y : Nat} {m : List Nat} (h : SyntaxCharacter y) : ∀ x, (y :: m).head? = some x → SyntaxCharacter x := by
  intro x hx; cases hx; exact h

theorem term_of_assertion {i r : List Nat} {a : Attr} (ih : PA src N i r a) : PT src N i r a := by
  intro n s hat hnq hnd
  unfold PA at ih
  cases n with
  | zero => exact Wc.outOfFuel
  | succ n =>
    unfold consumeTerm
    rx5_autos
    exact ⟨rfl, ‹UAt src N r _›, ‹TrackC s _ a›⟩

theorem term_of_atom {i r : List Nat} {a : Attr} (hatom : Derives qokSat N .Atom i r a) (ih : PAt src N i r a) :
    PT src N i r a := by
  intro n s hat hnq hnd
  unfold PAt at ih
  have hnas := atom_nas hatom
  cases n with
  | zero => exact Wc.outOfFuel
  | succ n =>
    unfold consumeTerm
    rx5_autos
    exact ⟨by assumption, ‹UAt src N r _›, TrackC.pre ‹KeepN s _› ‹TrackC _ _ a›⟩

theorem term_of_quantified {i m r : List Nat} {a : Attr} (hatom : Derives qokSat N .Atom i m a)
    (hq : Quantifier qokSat m r) (ih : PAt src N i m a) : PT src N i r a := by
  intro n s hat hnq hnd
  unfold PAt at ih
  have hnas := atom_nas hatom
  have hf3 := hnq.2.2.1
  cases n with
  | zero => exact Wc.outOfFuel
  | succ n =>
    unfold consumeTerm
    rx5_autos
    rename_i hk1 _ _ _ _ htr _ _ _ _ hk2
    exact ⟨by assumption, ‹UAt src N r _›, TrackC.pre hk1 (TrackC.post htr hk2)⟩

theorem atom_patternCharacter {x : Nat} {r : List Nat} (hx : PatternCharacter x) : PAt src N (x :: r) r Attr.nil := by
  intro n s hat hnd
  cases n with
  | zero => exact Wc.outOfFuel
  | succ n =>
    unfold consumeAtom
    exact .orM_hit ((consumePatternCharacter_wc x r s hat hx.2).mono fun _ _ hq => ⟨hq.1, hq.2.1, TrackC.ofKeep hq.2.2⟩)

theorem atom_dot {r : List Nat} : PAt src N (ch '.' :: r) r Attr.nil := by
  intro n s hat hnd
  cases n with
  | zero => exact Wc.outOfFuel
  | succ n =>
    unfold consumeAtom
    exact .orM_skip (consumePatternCharacter_wcn _ s hat (syn_head (by unfold SyntaxCharacter; decide))) <|
      .orM_hit ((Wc.eat_hit hat).mono fun _ _ hq => ⟨hq.1, hq.2 ▸ hat.step, hq.2 ▸ TrackC.ofKeepN ⟨rfl, rfl⟩⟩)

theorem atom_escape {m r : List Nat} {a : Attr} (hae : AtomEscape N m r a) : PAt src N (ch '\\' :: m) r a := by
  intro n s hat hnd
  cases n with
  | zero => exact Wc.outOfFuel
  | succ n =>
    unfold consumeAtom
    exact .orM_skip (consumePatternCharacter_wcn _ s hat (syn_head (by unfold SyntaxCharacter; decide))) <|
      .orM_skip (Wc.eat_miss hat (head_ne_of_ne (by decide) _)) <|
      .orM_hit (consumeReverseSolidusAtomEscape_wc n m r a s hat hae)

theorem atom_class {i r : List Nat} (hc : CharacterClass i r) : PAt src N i r Attr.nil := by
  intro n s hat hnd
  have hi : ∃ m, i = ch '[' :: m := by cases hc <;> exact ⟨_, rfl⟩
  obtain ⟨m, rfl⟩ := hi
  cases n with
  | zero => exact Wc.outOfFuel
  | succ n =>
    unfold consumeAtom
    exact .orM_skip (consumePatternCharacter_wcn _ s hat (syn_head (by unfold SyntaxCharacter; decide))) <|
      .orM_skip (Wc.eat_miss hat (head_ne_of_ne (by decide) _)) <|
      .orM_skip (consumeReverseSolidusAtomEscape_wcn n _ s hat (head_ne_of_ne (by decide) _)) <|
      .orM_hit ((consumeCharacterClass_wc n _ r s hat hc).mono fun _ _ hq => ⟨hq.1, hq.2.1, TrackC.ofKeepN hq.2.2⟩)

/-- at `(` the first four alternatives of `consume_atom` fail without moving -/
theorem atom_paren {m : List Nat} {n : Nat} {s : St} {Q : Bool → St → Prop} (hat : UAt src N (ch '(' :: m) s)
    (h : Wc ((consumeUncapturingGroup n <or> consumeCapturingGroup n) s) Q) : Wc (consumeAtom (n + 1) s) Q := by
  unfold consumeAtom
  exact .orM_skip (consumePatternCharacter_wcn _ s hat (syn_head (by unfold SyntaxCharacter; decide))) <|
    .orM_skip (Wc.eat_miss hat (head_ne_of_ne (by decide) _)) <|
    .orM_skip (consumeReverseSolidusAtomEscape_wcn n _ s hat (head_ne_of_ne (by decide) _)) <|
    .orM_skip (consumeCharacterClass_wcn n _ s hat (head_ne_of_ne (by decide) _)) h

theorem atom_nonCapturing {m r : List Nat} {a : Attr} (hdj : PDj src N m (ch ')' :: r) a) :
    PAt src N (ch '(' :: ch '?' :: ch ':' :: m) r a := by
  intro n s hat hnd
  cases n with
  | zero => exact Wc.outOfFuel
  | succ n => exact atom_paren hat (.orM_hit (uncapturing_wc hdj n s hat hnd))

theorem atom_group_named {m m₂ r : List Nat} {nm : Name} {a : Attr} (hg : GroupName m m₂ nm)
    (hdj : PDj src N m₂ (ch ')' :: r) a) :
    PAt src N (ch '(' :: ch '?' :: m) r (⟨[some nm], []⟩ ++ a) := by
  intro n s hat hnd
  have hgrp := capturing_named_wc (src := src) (N := N) hg hdj
  obtain ⟨m', rfl, _⟩ := hg
  cases n with
  | zero => exact Wc.outOfFuel
  | succ n =>
    exact atom_paren hat (.orM_skip (consumeUncapturingGroup_wcn n _ s hat (no_eat3_ne3 (by decide))) (hgrp n s hat hnd))

theorem atom_group_empty {m r : List Nat} {a : Attr} (hq : m.head? ≠ some (ch '?'))
    (hdj : PDj src N m (ch ')' :: r) a) :
    PAt src N (ch '(' :: m) r (⟨[none], []⟩ ++ a) := by
  intro n s hat hnd
  have hne3 : ¬∃ r', ch '(' :: m = ch '(' :: ch '?' :: ch ':' :: r' := by
    rintro ⟨r', e⟩
    exact hq (by rw [(List.cons.inj e).2]; rfl)
  cases n with
  | zero => exact Wc.outOfFuel
  | succ n =>
    exact atom_paren hat (.orM_skip (consumeUncapturingGroup_wcn n _ s hat hne3) (capturing_empty_wc hq hdj n s hat hnd))

theorem disj_one {i r : List Nat} {a : Attr} (ih : TermsP (N := N) (PT src N) i r a) : PD src N i r a := by
  intro n s hat hf hnd
  refine Wc.call (alt_loop ih hf.alt n s hat hnd) (fun _ s1 hpost => ?_)
  obtain ⟨hat1, htr⟩ := hpost
  have hne : r.head? ≠ some (ch '|') := by
    rcases hf with rfl | hf
    · exact nil_head_ne _
    · rw [hf]; decide
  cases n with
  | zero => exact Wc.outOfFuel
  | succ n =>
    unfold consumeDisjunctionLoop
    rx5_autos
    exact ⟨hat1, htr⟩

theorem disj_more {i m r : List Nat} {a₁ a₂ : Attr} (ih1 : TermsP (N := N) (PT src N) i (ch '|' :: m) a₁)
    (ih2 : PD src N m r a₂) : PD src N i r (a₁ ++ a₂) := by
  intro n s hat hf hnd
  refine Wc.call (alt_loop ih1 (.inr (.inl rfl)) n s hat hnd.left) (fun _ s1 hpost => ?_)
  obtain ⟨hat1, htr⟩ := hpost
  cases n with
  | zero => exact Wc.outOfFuel
  | succ n =>
    unfold consumeDisjunctionLoop
    rx5_autos
    refine (ih2 n _ ‹UAt src N m _› hf (ND.right hnd (by rw [← htr.gn]; rfl))).mono ?_
    rintro _ s2 ⟨hat2, htr2⟩
    exact ⟨hat2, TrackC.trans htr (TrackC.move _ _ htr2 rfl rfl rfl rfl)⟩

/-- **completeness of the recursive productions**: the validator follows every derivation -/
theorem derives_complete {sym : Sym} {i r : List Nat} {a : Attr} (h : Derives qokSat N sym i r a) :
    Motive src N sym i r a := by
  induction h with
  | disjOne i r a _ ih => exact disj_one ih
  | disjMore i m r a₁ a₂ _ _ ih1 ih2 => exact disj_more ih1 ih2
  | altEmpty r => exact TermsP.nil r
  | altSnoc i m r a₁ a₂ _ ht ih1 ih2 => exact TermsP.snoc ih1 ht ih2
  | termAssertion i r a _ ih => exact term_of_assertion ih
  | termAtom i r a hatom ih => exact term_of_atom hatom ih
  | termQuantified i m r a hatom hq ih => exact term_of_quantified hatom hq ih
  | caret r => exact caret_wc
  | dollar r => exact dollar_wc
  | wordBoundary r => exact wordBoundary_wc
  | notWordBoundary r => exact notWordBoundary_wc
  | lookahead i m r a hl _ ih =>
    have e : i = ch '(' :: ch '?' :: ch '=' :: m := hl
    subst e
    exact assertion_lookaround ⟨_, .inr ⟨rfl, head_ne_of_ne (by decide) _⟩, .inl rfl⟩ (disj_of_body ih (.inr rfl))
  | negativeLookahead i m r a hl _ ih =>
    have e : i = ch '(' :: ch '?' :: ch '!' :: m := hl
    subst e
    exact assertion_lookaround ⟨_, .inr ⟨rfl, head_ne_of_ne (by decide) _⟩, .inr rfl⟩ (disj_of_body ih (.inr rfl))
  | lookbehind i m r a hl _ ih =>
    have e : i = ch '(' :: ch '?' :: ch '<' :: ch '=' :: m := hl
    subst e
    exact assertion_lookaround ⟨_, .inl rfl, .inl rfl⟩ (disj_of_body ih (.inr rfl))
  | negativeLookbehind i m r a hl _ ih =>
    have e : i = ch '(' :: ch '?' :: ch '<' :: ch '!' :: m := hl
    subst e
    exact assertion_lookaround ⟨_, .inl rfl, .inr rfl⟩ (disj_of_body ih (.inr rfl))
  | patternCharacter x r hx => exact atom_patternCharacter hx
  | dot r => exact atom_dot
  | atomEscape m r a hae => exact atom_escape hae
  | characterClass i r hc => exact atom_class hc
  | group m₁ m₂ r name a hg hd ih =>
    cases hg with
    | empty _ =>
      have hq : m₁.head? ≠ some (c '?') :=
        derives_head (by unfold SyntaxCharacter; decide) (by decide) hd (.inl (head_cons_ne (by decide) _))
      exact atom_group_empty hq (disj_of_body ih (.inr rfl))
    | named m _ nm hgn => exact atom_group_named hgn (disj_of_body ih (.inr rfl))
  | nonCapturing i m r a hl _ ih =>
    have e : i = ch '(' :: ch '?' :: ch ':' :: m := hl
    subst e
    exact atom_nonCapturing (disj_of_body ih (.inr rfl))

end DL.Rx
