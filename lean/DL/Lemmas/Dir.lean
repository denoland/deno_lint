import DL.Model.Dir

/-! `parse_ignore_comment` never reaches its `strip_prefix(..).unwrap()` panic (`parseIgnore_never_panics`, used by C01): the
guard compares the first word of the trimmed text, and that word is a prefix of the trimmed text. -/
namespace DL.Dir

theorem isPrefixOf?_append (w r : List Char) : w.isPrefixOf? (w ++ r) = some r := by
  induction w with
  | nil => simp [List.isPrefixOf?]
  | cons c w ih => simp [List.isPrefixOf?, ih]

/-- `trim_end` never removes a non-white-space head -/
theorem trimEnd_cons_of_not_ws (c : Char) (t : List Char) (h : isWs c = false) :
    ∃ r, trimEnd (c :: t) = c :: r := by
  simp only [trimEnd]
  cases trimEnd t with
  | nil => exact ⟨[], by simp [h]⟩
  | cons a r => exact ⟨a :: r, rfl⟩

theorem dropWhile_head_not (p : Char → Bool) (t : List Char) :
    t.dropWhile p = [] ∨ ∃ c r, t.dropWhile p = c :: r ∧ p c = false := by
  induction t with
  | nil => exact Or.inl rfl
  | cons c t ih =>
    simp only [List.dropWhile]
    cases h : p c
    · exact Or.inr ⟨c, t, rfl, h⟩
    · exact ih

theorem trim_head (t : List Char) : trim t = [] ∨ ∃ c r, trim t = c :: r ∧ isWs c = false := by
  unfold trim trimStart
  rcases dropWhile_head_not isWs t with h | ⟨c, r, h, hc⟩
  · rw [h]; exact Or.inl rfl
  · rw [h]
    obtain ⟨r', hr⟩ := trimEnd_cons_of_not_ws c r hc
    exact Or.inr ⟨c, r', hr, hc⟩

/-- the first word of a text that starts with a non-white-space character is a prefix of it -/
theorem firstWord_prefix (t : List Char) (w : List Char) (h : firstWord t = some w)
    (ht : t = [] ∨ ∃ c r, t = c :: r ∧ isWs c = false) : ∃ rest, t = w ++ rest := by
  unfold firstWord at h
  have hd : t.dropWhile isWs = t := by
    rcases ht with rfl | ⟨c, r, rfl, hc⟩
    · rfl
    · simp [List.dropWhile, hc]
  rw [hd] at h
  cases t with
  | nil => cases h
  | cons c r =>
    simp only [Option.some.injEq] at h
    exact ⟨(c :: r).dropWhile (fun c => !isWs c), by rw [← h]; exact (List.takeWhile_append_dropWhile).symm⟩

/-- `comment_text.strip_prefix(word).unwrap()` cannot fail: it is guarded by "the first whitespace-delimited word of
the trimmed text equals `word`" -/
theorem parseIgnore_never_panics (word : List Char) (kind : Kind) (text : List Char) :
    parseIgnorePanics word kind text = false := by
  unfold parseIgnorePanics
  split
  · rfl
  · cases hf : firstWord (trim text) with
    | none => rfl
    | some p =>
      simp only
      by_cases hp : p = word
      · subst hp
        obtain ⟨rest, hr⟩ := firstWord_prefix (trim text) p hf (trim_head text)
        rw [hr, isPrefixOf?_append]
        simp
      · simp [hp]

/-- what it takes for a comment to be a directive, and what its codes are then -/
theorem parseIgnore_eq_some_iff {word : List Char} {kind : Kind} {text : List Char} {cs : List (List Char)} :
    parseIgnore word kind text = some cs ↔
      kind = .line ∧ firstWord (trim text) = some word ∧ ∃ rest, word.isPrefixOf? (trim text) = some rest ∧
        cs = (splitComma (replaceSeps (stripReason rest))).filterMap fun code =>
          if code.isEmpty then none else some (trim code) := by
  cases kind
  · rw [parseIgnore, if_neg (by decide)]
    dsimp only
    cases firstWord (trim text) with
    | none => exact ⟨nofun, fun h => nomatch h.2.1⟩
    | some p =>
      dsimp only
      by_cases hp : p = word
      · subst hp
        rw [if_pos rfl]
        cases p.isPrefixOf? (trim text) with
        | none => exact ⟨nofun, fun ⟨_, _, _, h, _⟩ => nomatch h⟩
        | some rest =>
          exact ⟨fun h => ⟨rfl, rfl, rest, rfl, (Option.some.inj h).symm⟩, fun ⟨_, _, _, h, hc⟩ => by cases h; rw [hc]⟩
      · rw [if_neg hp]
        exact ⟨nofun, fun h => absurd (Option.some.inj h.2.1) hp⟩
  · rw [parseIgnore, if_pos (by decide)]
    exact ⟨nofun, fun h => nomatch h.1⟩

end DL.Dir
