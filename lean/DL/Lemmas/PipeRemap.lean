import DL.Lemmas.Pipe

/-!
# The directive pipeline commutes with every strictly monotone re-positioning

Byte offsets are mapped by `φ`, lines are translated by `j`.  Suppression compares *differences* of line indices and
never looks at a byte offset; the accounting diagnostics are created at the directive's own position; so everything
before the final sort commutes with any `φ`.  The comparator of the sort is the one place where `φ` has to be strictly
monotone (`diagLe_re`).
-/
namespace DL.Pipe

def rePos (φ : Nat → Nat) (j : Nat) : Option (Nat × Nat) → Option (Nat × Nat)
  | none => none
  | some (s, l) => some (φ s, l + j)
def reDiag (φ : Nat → Nat) (j : Nat) (d : Diag) : Diag := { d with pos := rePos φ j d.pos }
def reDir (φ : Nat → Nat) (j : Nat) (d : Dir) : Dir := { d with start := φ d.start, line := d.line + j }
def reKey (j : Nat) : DirKey → DirKey
  | none => none
  | some l => some (l + j)
def reSt (φ : Nat → Nat) (j : Nat) (st : St) : St :=
  { file := st.file.map (reDir φ j),
    lines := st.lines.map (fun kd => (kd.1 + j, reDir φ j kd.2)),
    marks := st.marks.map (fun m => (reKey j m.1, m.2)) }

variable (φ : Nat → Nat) (j : Nat)

theorem lookupLine_re (l : Nat) (ls : List (Nat × Dir)) :
    lookupLine (l + j) (ls.map (fun kd => (kd.1 + j, reDir φ j kd.2))) = (lookupLine l ls).map (reDir φ j) := by
  induction ls with
  | nil => rfl
  | cons kd r ih =>
    simp only [List.map_cons, lookupLine, Nat.add_right_cancel_iff, ih]
    split <;> rfl

/-- no moved directive sits on a line before `j` -/
theorem lookupLine_re_lt {l : Nat} (hl : l < j) (ls : List (Nat × Dir)) :
    lookupLine l (ls.map (fun kd => (kd.1 + j, reDir φ j kd.2))) = none := by
  induction ls with
  | nil => rfl
  | cons kd r ih =>
    simp only [List.map_cons, lookupLine, ih]
    exact if_neg (by omega)

@[simp] theorem fileNames_re (st : St) (c : String) : fileNames (reSt φ j st) c = fileNames st c := by
  unfold fileNames reSt; cases st.file <;> rfl

theorem lineNamesAt_re (l : Nat) (st : St) (c : String) : lineNamesAt (reSt φ j st) (l + j) c = lineNamesAt st l c := by
  unfold lineNamesAt reSt
  simp only [lookupLine_re]
  cases lookupLine l st.lines <;> rfl

theorem lineNamesAt_re_lt {l : Nat} (hl : l < j) (st : St) (c : String) : lineNamesAt (reSt φ j st) l c = false := by
  unfold lineNamesAt reSt
  simp only [lookupLine_re_lt φ j hl]

theorem hits_re (st : St) (d : Diag) :
    hits (reSt φ j st) (reDiag φ j d) = (hits st d).map (fun m => (reKey j m.1, m.2)) := by
  unfold hits
  simp only [reDiag, fileNames_re]
  cases fileNames st d.code
  · simp only [Bool.false_eq_true, if_false]
    rcases d.pos with _ | ⟨s, l⟩
    · rfl
    · simp only [rePos]
      rcases l with _ | l
      · -- line 0 has no previous line; after the move the previous line `j - 1` holds no directive
        rcases j with _ | j
        · rfl
        · simp [lineNamesAt_re_lt φ (j + 1) (Nat.lt_succ_self j)]
      · simp only [Nat.add_right_comm l 1 j, Nat.add_sub_cancel, lineNamesAt_re, Nat.zero_lt_succ, decide_true,
          Bool.true_and]
        cases lineNamesAt st l d.code <;> rfl
  · rfl

theorem mark_re (st : St) (m : DirKey × String) :
    reSt φ j (st.mark m.1 m.2) = (reSt φ j st).mark (reKey j m.1) m.2 := rfl

theorem checkUsage_re (st : St) (raw : List Diag) :
    checkUsage (reSt φ j st) (raw.map (reDiag φ j)) =
      (reSt φ j (checkUsage st raw).1, (checkUsage st raw).2.map (reDiag φ j)) := by
  induction raw generalizing st with
  | nil => rfl
  | cons d ds ih =>
    simp only [List.map_cons, checkUsage]
    rw [stepUsage_eq, stepUsage_eq, hits_re]
    cases hits st d with
    | none => simp only [Option.map_none, ih]; rfl
    | some m => simp only [Option.map_some, ← mark_re, ih]; rfl

theorem dirDiags_re (code : String) (mk : String → Payload) (p : String → Bool) (d : Dir) :
    dirDiags code mk p (reDir φ j d) = (dirDiags code mk p d).map (reDiag φ j) := by
  simp only [dirDiags, List.map_map]; rfl

/-- `q` selects at the moved key what `p` selects at the original one -/
theorem allDirDiags_re (code : String) (mk : String → Payload) (p q : DirKey → String → Bool) (st : St)
    (hpq : ∀ key, q (reKey j key) = p key) :
    allDirDiags code mk q (reSt φ j st) = (allDirDiags code mk p st).map (reDiag φ j) := by
  unfold allDirDiags
  rw [List.map_append]
  congr 1
  · cases hf : st.file with
    | none => simp only [reSt, hf]; rfl
    | some f => simp only [reSt, hf, Option.map_some, dirDiags_re]; rw [← hpq none]; rfl
  · simp only [reSt, List.flatMap_map, List.map_flatMap, dirDiags_re]
    congr 1
    funext kd
    rw [← hpq (some kd.1)]; rfl

theorem beq_reKey (a b : DirKey) (c mc : String) : ((reKey j a, c) == (reKey j b, mc)) = ((a, c) == (b, mc)) := by
  rw [Bool.eq_iff_iff]
  simp only [beq_iff_eq, Prod.mk.injEq]
  cases a <;> cases b <;> simp [reKey]

theorem used_re (st : St) (key : DirKey) (c : String) : (reSt φ j st).used (reKey j key) c = st.used key c := by
  unfold St.used reSt
  simp only
  induction st.marks with
  | nil => rfl
  | cons m r ih => simp only [List.map_cons, List.contains_cons, ih, beq_reKey]

theorem markFile_re (st : St) (c : String) : reSt φ j (markFile st c) = markFile (reSt φ j st) c := by
  unfold markFile
  rw [fileNames_re]
  split <;> rfl

theorem banUnknown_re (a : List String) (cu : Bool) (st : St) :
    banUnknown a cu (reSt φ j st) = (reSt φ j (banUnknown a cu st).1, (banUnknown a cu st).2.map (reDiag φ j)) := by
  unfold banUnknown
  dsimp only
  rw [allDirDiags_re φ j cUnknown .unknown (unknownP a) (unknownP a) st (fun _ => rfl), List.isEmpty_map]
  cases (allDirDiags cUnknown Payload.unknown (unknownP a) st).isEmpty
  · simp only [Bool.false_eq_true, if_false, ← markFile_re, fileNames_re]
    split <;> rfl
  · simp only [if_true, fileNames_re]
    split <;> rfl

theorem banUnused_re (en : List String) (st : St) :
    banUnused en (reSt φ j st) = (banUnused en st).map (reDiag φ j) := by
  unfold banUnused
  rw [fileNames_re]
  split
  · rfl
  · exact allDirDiags_re φ j cUnused .unused (unusedP en st) (unusedP en (reSt φ j st)) st
      (fun key => by funext c; simp only [unusedP, used_re])

theorem ignoreAll_re (st : St) : ignoreAll (reSt φ j st) = ignoreAll st := by
  unfold ignoreAll reSt; cases st.file <;> rfl

section mono
variable {φ} (hφ : ∀ a b, a < b → φ a < φ b)
include hφ

theorem lt_iff_of_strictMono (a b : Nat) : φ a < φ b ↔ a < b := by
  refine ⟨fun h => ?_, hφ a b⟩
  rcases Nat.lt_trichotomy a b with hlt | rfl | hgt
  · exact hlt
  · exact absurd h (Nat.lt_irrefl _)
  · exact absurd (Nat.lt_trans h (hφ b a hgt)) (Nat.lt_irrefl _)

theorem eq_iff_of_strictMono (a b : Nat) : φ a = φ b ↔ a = b := by
  refine ⟨fun h => ?_, congrArg φ⟩
  rcases Nat.lt_trichotomy a b with hlt | heq | hgt
  · exact absurd h (Nat.ne_of_lt (hφ a b hlt))
  · exact heq
  · exact absurd h.symm (Nat.ne_of_lt (hφ b a hgt))

/-- the comparator of the final sort cannot tell a strictly monotone re-positioning from the identity -/
theorem diagLe_re (a b : Diag) : diagLe (reDiag φ j a) (reDiag φ j b) = diagLe a b := by
  unfold diagLe
  simp only [reDiag]
  rcases a.pos with _ | ⟨x, _⟩ <;> rcases b.pos with _ | ⟨y, _⟩
  · rfl
  · rfl
  · rfl
  · have h2 : (φ x == φ y) = (x == y) := by
      rw [Bool.eq_iff_iff, beq_iff_eq, beq_iff_eq]; exact eq_iff_of_strictMono hφ x y
    simp only [rePos, h2, lt_iff_of_strictMono hφ x y]; rfl

theorem mergeSort_re (l : List Diag) :
    (l.map (reDiag φ j)).mergeSort diagLe = (l.mergeSort diagLe).map (reDiag φ j) :=
  (List.map_mergeSort (r := diagLe) (s := diagLe) (f := reDiag φ j)
    (fun _ _ _ _ => (diagLe_re j hφ _ _).symm)).symm

/-- re-positioning every raw diagnostic and every directive re-positions the result, and changes nothing else -/
theorem collect_re (cfg : Cfg) (extCodes : List String) (st : St) (raw : List Diag) :
    collect cfg extCodes (reSt φ j st) (raw.map (reDiag φ j)) = (collect cfg extCodes st raw).map (reDiag φ j) := by
  unfold collect
  dsimp only
  rw [checkUsage_re]
  dsimp only
  rw [banUnknown_re]
  dsimp only
  rw [← mergeSort_re j hφ, List.map_append, List.map_append]
  congr 3
  split
  · rw [banUnused_re]
  · rfl

/-- the same with or without the result of an external linter, whose diagnostics are re-positioned as well -/
theorem lintInner_re (cfg : Cfg) (st : St) (ruleDiags : List Diag) (ext : Option (List Diag × List String)) :
    lintInner cfg (reSt φ j st) (ruleDiags.map (reDiag φ j)) (ext.map fun e => (e.1.map (reDiag φ j), e.2)) =
      (lintInner cfg st ruleDiags ext).map (reDiag φ j) := by
  rw [lintInner_eq, lintInner_eq, ignoreAll_re]
  split
  · rfl
  · rw [← collect_re j hφ, List.map_append]
    cases ext <;> rfl

end mono

end DL.Pipe
