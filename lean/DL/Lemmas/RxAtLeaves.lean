import DL.Lemmas.RxCompUni

/-!
# The scanners that never read the mode: one specification each, for any `AtLike` predicate

Each is stated two-sided (what a `true` answer has read; what a `false` answer excludes), so that the soundness lemmas
of both modes (`f_wp`, `f_wb`) are its instances and the completeness lemmas (`f_wc`, `f_wd`, …) follow from it and `NE.f`.
-/
namespace DL.Rx
open DL.RxSpec

attribute [local irreducible] isScalar
variable {src : List Nat} {P : List Nat → St → Prop}

theorem eatControlLetter_at (hP : AtLike src P) (r : List Nat) (s : St) (h : P r s) :
    Wp (eatControlLetter s) (fun b s1 => Keep s s1 ∧
      if b = true then ∃ l r1, r = l :: r1 ∧ ControlLetter l ∧ P r1 s1 ∧ s1.lastIntValue = ((l % 32 : Nat) : Int)
      else s1 = s ∧ ∀ l, r.head? = some l → ¬ControlLetter l) := by
  unfold eatControlLetter
  refine hP.bind_cpo0 h (fun hr => ?_) (fun l r1 hr => ?_) <;> subst hr
  · exact Wp.pure ⟨.refl s, (if_neg Bool.false_ne_true).mpr ⟨rfl, fun _ hl => nomatch hl⟩⟩
  · refine Wp.ite (fun hc => ?_) (fun hn => ?_)
    · refine hP.bind_advance_cons h fun h1 => Wp.bind_setInt (Wp.pure ⟨⟨rfl, rfl, rfl⟩, (if_pos rfl).mpr ?_⟩)
      exact ⟨l, r1, rfl, controlLetter_of_isAsciiAlphabetic hc, hP.reg h1 rfl (.refl _), by st_norm; omega⟩
    · refine Wp.pure ⟨.refl s, (if_neg Bool.false_ne_true).mpr ⟨rfl, fun x hx hl => hn ?_⟩⟩
      cases hx
      exact isAsciiAlphabetic_of_controlLetter hl

theorem eatControlLetter_atc (hP : AtLike src P) (l : Nat) (r1 : List Nat) (s : St) (h : P (l :: r1) s)
    (hl : ControlLetter l) :
    Wc (eatControlLetter s) (fun b s1 => b = true ∧ P r1 s1 ∧ s1.lastIntValue = ((l % 32 : Nat) : Int) ∧ Keep s s1) := by
  refine (Wc.of_wp (eatControlLetter_at hP _ s h) NE.eatControlLetter).mono fun b s1 ⟨k, hb⟩ => ?_
  cases b
  · exact absurd hl (((if_neg Bool.false_ne_true).mp hb).2 l rfl)
  · obtain ⟨_, _, e, _, h1, hv⟩ := (if_pos rfl).mp hb
    cases e
    exact ⟨rfl, h1, hv, k⟩

theorem eatControlEscape_at (hP : AtLike src P) (r : List Nat) (s : St) (h : P r s) :
    Wp (eatControlEscape s) (fun b s1 => Keep s s1 ∧
      if b = true then ∃ x r1 v, r = x :: r1 ∧ ctlVal x = some v ∧ P r1 s1 ∧ s1.lastIntValue = (v : Nat)
      else s1 = s ∧ r.head?.bind ctlVal = none) := by
  unfold eatControlEscape
  have hit : ∀ (c : Char) (v : Nat), ctlVal (ch c) = some v → ∀ r1, r = ch c :: r1 →
      P r1 (s.setPos src (s.reader.index + 1)) →
      Wp ((setInt (v : Nat) >>= fun _ => (pure true : M Bool)) (s.setPos src (s.reader.index + 1)))
        (fun b s1 => Keep s s1 ∧
          if b = true then ∃ x r1 v, r = x :: r1 ∧ ctlVal x = some v ∧ P r1 s1 ∧ s1.lastIntValue = (v : Nat)
          else s1 = s ∧ r.head?.bind ctlVal = none) :=
    fun c v hv r1 e h1 => Wp.bind_setInt (Wp.pure ⟨⟨rfl, rfl, rfl⟩,
      (if_pos rfl).mpr ⟨ch c, r1, v, e, hv, hP.reg h1 rfl (.refl _), rfl⟩⟩)
  refine hP.bind_eat h (hit 'f' 12 rfl) fun n1 => ?_
  refine hP.bind_eat h (hit 'n' 10 rfl) fun n2 => ?_
  refine hP.bind_eat h (hit 'r' 13 rfl) fun n3 => ?_
  refine hP.bind_eat h (hit 't' 9 rfl) fun n4 => ?_
  refine hP.bind_eat h (hit 'v' 11 rfl) fun n5 => ?_
  refine Wp.pure ⟨.refl s, (if_neg Bool.false_ne_true).mpr ⟨rfl, ?_⟩⟩
  cases r with
  | nil => rfl
  | cons x m => exact ctlVal_none (ne_of_head_ne n1) (ne_of_head_ne n2) (ne_of_head_ne n3) (ne_of_head_ne n4) (ne_of_head_ne n5)

theorem eatControlEscape_atc (hP : AtLike src P) (x : Nat) (r1 : List Nat) (v : Nat) (s : St) (h : P (x :: r1) s)
    (hx : ctlVal x = some v) :
    Wc (eatControlEscape s) (fun b s1 => b = true ∧ P r1 s1 ∧ s1.lastIntValue = (v : Nat) ∧ Keep s s1) := by
  refine (Wc.of_wp (eatControlEscape_at hP _ s h) NE.eatControlEscape).mono fun b s1 ⟨k, hb⟩ => ?_
  cases b
  · exact nomatch hx.symm.trans ((if_neg Bool.false_ne_true).mp hb).2
  · obtain ⟨_, _, _, e, hv, h1, hi⟩ := (if_pos rfl).mp hb
    cases e
    cases hx.symm.trans hv
    exact ⟨rfl, h1, hi, k⟩

theorem eatControlEscape_atcn (hP : AtLike src P) (r : List Nat) (s : St) (h : P r s) (hn : r.head?.bind ctlVal = none) :
    Wc (eatControlEscape s) (fun b s1 => b = false ∧ s1 = s) := by
  refine (Wc.of_wp (eatControlEscape_at hP _ s h) NE.eatControlEscape).mono fun b s1 ⟨_, hb⟩ => ?_
  cases b
  · exact ⟨rfl, ((if_neg Bool.false_ne_true).mp hb).1⟩
  · obtain ⟨_, _, _, rfl, hv, -⟩ := (if_pos rfl).mp hb
    exact nomatch hv.symm.trans hn

theorem eatCControlLetter_at (hP : AtLike src P) (r : List Nat) (s : St) (h : P r s) :
    Wp (eatCControlLetter s) (fun b s1 => Keep s s1 ∧
      if b = true then ∃ l r1, r = ch 'c' :: l :: r1 ∧ ControlLetter l ∧ P r1 s1 ∧
        s1.lastIntValue = ((l % 32 : Nat) : Int)
      else s1 = s ∧ ¬∃ l r', r = ch 'c' :: l :: r' ∧ ControlLetter l) := by
  unfold eatCControlLetter
  refine Wp.bind_index (hP.bind_eat h (fun m e h1 => ?_) fun hne => ?_)
  · subst e
    refine Wp.call (eatControlLetter_at hP m _ h1) fun b s1 ⟨k, hb⟩ => ?_
    cases b
    · -- `c` alone: back to where it stood
      obtain ⟨rfl, hno⟩ := (if_neg Bool.false_ne_true).mp hb
      refine hP.bind_rewind h1 h fun _ => Wp.pure ?_
      rw [show (s.setPos src (s.reader.index + 1)).setPos src s.reader.index = s from setPos_self (hP.rat h).inv]
      refine ⟨.refl s, (if_neg Bool.false_ne_true).mpr ⟨rfl, ?_⟩⟩
      rintro ⟨l, r', e, hl⟩
      cases e
      exact hno l rfl hl
    · obtain ⟨l, r1, rfl, hl, h2, hv⟩ := (if_pos rfl).mp hb
      exact Wp.pure ⟨⟨k.gn, k.bn, k.str⟩, (if_pos rfl).mpr ⟨l, r1, rfl, hl, h2, hv⟩⟩
  · refine Wp.pure ⟨.refl s, (if_neg Bool.false_ne_true).mpr ⟨rfl, ?_⟩⟩
    rintro ⟨l, r', e, -⟩
    exact hne (e ▸ rfl)

theorem eatCControlLetter_atc (hP : AtLike src P) (l : Nat) (r1 : List Nat) (s : St) (h : P (ch 'c' :: l :: r1) s)
    (hl : ControlLetter l) :
    Wc (eatCControlLetter s) (fun b s1 => b = true ∧ P r1 s1 ∧ s1.lastIntValue = ((l % 32 : Nat) : Int) ∧ Keep s s1) := by
  refine (Wc.of_wp (eatCControlLetter_at hP _ s h) NE.eatCControlLetter).mono fun b s1 ⟨k, hb⟩ => ?_
  cases b
  · exact absurd ⟨l, r1, rfl, hl⟩ ((if_neg Bool.false_ne_true).mp hb).2
  · obtain ⟨_, _, e, _, h1, hv⟩ := (if_pos rfl).mp hb
    cases e
    exact ⟨rfl, h1, hv, k⟩

/-- `c` not followed by a letter (or no `c`): nothing happens -/
theorem eatCControlLetter_atcn (hP : AtLike src P) (r : List Nat) (s : St) (h : P r s)
    (hn : ¬∃ l r', r = ch 'c' :: l :: r' ∧ ControlLetter l) :
    Wc (eatCControlLetter s) (fun b s1 => b = false ∧ s1 = s) := by
  refine (Wc.of_wp (eatCControlLetter_at hP _ s h) NE.eatCControlLetter).mono fun b s1 ⟨_, hb⟩ => ?_
  cases b
  · exact ⟨rfl, ((if_neg Bool.false_ne_true).mp hb).1⟩
  · obtain ⟨l, r1, e, hl, -⟩ := (if_pos rfl).mp hb
    exact absurd ⟨l, r1, e, hl⟩ hn

end DL.Rx
