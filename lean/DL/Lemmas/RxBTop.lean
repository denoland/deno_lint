import DL.Lemmas.RxBMutual
import DL.Lemmas.RxSpecTop
import DL.Lemmas.RxAtTop

/-! # Annex B (no `u` flag): `consume_pattern`, `validate_pattern` -/
namespace DL.Rx
open DL.RxSpec DL.Gen.Unicode
attribute [local irreducible] isScalar
variable {src : List Nat} {K : Bool × Nat}

theorem countCapturingParens_wb (n : Nat) (r : List Nat) (s : St) (h : BAt src K r s) :
    Wp (countCapturingParens n s) (fun v s1 => v = scan r false false 0 ∧ BAt src K r s1 ∧ KeepN s s1) :=
  countCapturingParens_at BAt.like n r s h

theorem consumePattern_wb (hsrc : ∀ x ∈ src, x ≤ 0xFFFF) (hlen : src.length < 2 ^ 62) (n : Nat) (r : List Nat)
    (s : St) (h : BAt src K r s) :
    Wp (consumePattern n s) (fun _ s1 => BAt src (K.1, scan r false false 0) [] s1 ∧
      ∃ a : Attr, s1.groupNames = groupNames a.groups ∧
      RxSpecB.Derives K.1 qokSat (scan r false false 0) .Disjunction r [] a ∧
      (groupNames a.groups).Nodup ∧ ∀ x ∈ a.refs, x ∈ groupNames a.groups) := by
  have hrl : r.length ≤ src.length := by
    rw [← h.rest, List.length_drop]; omega
  have hN : scan r false false 0 < 2 ^ 62 := by
    have := scan_le r false false 0; omega
  have hall := allSpecB (src := src) (K := (K.1, scan r false false 0)) hN hsrc n
  have hd := hall.disjunction
  unfold consumePattern
  rx6_step
  with_reducible refine Wp.bind_modSt ?_
  rename_i v s1 hv hat1 hk1
  subst hv
  have hat2 : BAt src (K.1, scan r false false 0) r
      { s1 with numCapturingParens := scan r false false 0, groupNames := [], backreferenceNames := [] } :=
    ⟨hat1.1, hat1.2.1, hat1.2.2.1, hat1.2.2.2.1, hat1.2.2.2.2.1, rfl⟩
  refine Wp.call (hd r _ hat2) (fun _ s2 ⟨r1, a, hat3, hder, htr⟩ => ?_)
  rx6_auto
  rename_i hfind
  have hgn : s2.groupNames = groupNames a.groups := by
    have := htr.gn
    rw [this]; exact List.nil_append _
  refine ⟨hat3, a, hgn, hder, ?_, ?_⟩
  · have := htr.nodup List.nodup_nil
    rw [hgn] at this
    exact this
  · intro x hx
    have hx1 := htr.refs x hx
    have hnone := List.find?_eq_none.mp hfind x hx1
    have hc : s2.groupNames.contains x = true := by simpa using hnone
    have := List.contains_iff_mem.mp hc
    rw [hgn] at this
    exact this

/-- soundness of `validate_pattern` without the `u` flag, with the model's own count of capturing groups:
the `[~N]` parse, and the `[+N]` parse if there is a named group -/
theorem validatePattern_soundB_scan (fuel : Nat) (source : List Nat) (st s' : St)
    (hsrc : ∀ x ∈ encodeUtf16 source, x ≤ 0xFFFF) (hlen : (encodeUtf16 source).length < 2 ^ 62)
    (h : validatePattern fuel source false st = .ok () s') :
    ∃ a₀ : Attr, RxSpecB.Derives false qokSat (scan (encodeUtf16 source) false false 0) .Disjunction
        (encodeUtf16 source) [] a₀ ∧
      (groupNames a₀.groups).Nodup ∧ (∀ x ∈ a₀.refs, x ∈ groupNames a₀.groups) ∧
      (groupNames a₀.groups ≠ [] → ∃ a₁ : Attr,
        RxSpecB.Derives true qokSat (scan (encodeUtf16 source) false false 0) .Disjunction (encodeUtf16 source) [] a₁ ∧
        (groupNames a₁.groups).Nodup ∧ ∀ x ∈ a₁.refs, x ∈ groupNames a₁.groups) := by
  rw [validatePattern_eq] at h
  have hstat : RStatic (encodeUtf16 source) (prep source false st).reader := ⟨rfl, rfl⟩
  have hrw := rewindLoop_eq (src := encodeUtf16 source) 0 (prep source false st) hstat 4 0 rfl (Nat.zero_le _)
  have hat : BAt (encodeUtf16 source) (false, st.numCapturingParens) (encodeUtf16 source)
      ((prep source false st).setPos (encodeUtf16 source) 0) :=
    ⟨RInv.setPos hstat (Nat.zero_le _), rfl, rfl, rfl, rfl, rfl⟩
  have key : Wp (afterPrep fuel (prep source false st)) (fun _ _ => ∃ a₀ : Attr,
      RxSpecB.Derives false qokSat (scan (encodeUtf16 source) false false 0) .Disjunction (encodeUtf16 source) [] a₀ ∧
      (groupNames a₀.groups).Nodup ∧ (∀ x ∈ a₀.refs, x ∈ groupNames a₀.groups) ∧
      (groupNames a₀.groups ≠ [] → ∃ a₁ : Attr,
        RxSpecB.Derives true qokSat (scan (encodeUtf16 source) false false 0) .Disjunction (encodeUtf16 source) [] a₁ ∧
        (groupNames a₁.groups).Nodup ∧ ∀ x ∈ a₁.refs, x ∈ groupNames a₁.groups)) := by
    unfold afterPrep
    refine Wp.bind ?_
    have e : rewindLoop 0 4 0 (prep source false st) = .ok () ((prep source false st).setPos (encodeUtf16 source) 0) := hrw
    rw [e]
    refine Wp.ok ?_
    refine Wp.call (consumePattern_wb hsrc hlen fuel _ _ hat) (fun _ s1 ⟨hat1, a₀, hgn, hd0, hnd0, hrefs0⟩ => ?_)
    with_reducible refine Wp.bind_getSt ?_
    by_cases hc : (!s1.nFlag && true && !s1.groupNames.isEmpty) = true
    · rw [if_pos hc]
      with_reducible refine Wp.bind_modSt ?_
      have hat2 : BAt (encodeUtf16 source) (true, scan (encodeUtf16 source) false false 0) []
          { s1 with nFlag := true } := ⟨hat1.1, hat1.2.1, hat1.2.2.1, hat1.2.2.2.1, rfl, hat1.2.2.2.2.2⟩
      refine WpB.bind_rewind' hat2 (Nat.zero_le _) (fun hat3 => ?_)
      refine Wp.tail ?_
      refine Wp.call (consumePattern_wb hsrc hlen fuel _ _ hat3) (fun _ s2 ⟨_, a₁, _, hd1, hnd1, hrefs1⟩ => ?_)
      exact ⟨a₀, hd0, hnd0, hrefs0, fun _ => ⟨a₁, hd1, hnd1, hrefs1⟩⟩
    · rw [if_neg hc]
      refine ⟨a₀, hd0, hnd0, hrefs0, fun hne => ?_⟩
      exfalso; apply hc
      rw [hat1.nFlag', hgn]
      cases hg : groupNames a₀.groups with
      | nil => exact absurd hg hne
      | cons x t => rfl
  rw [h] at key
  exact key

end DL.Rx
