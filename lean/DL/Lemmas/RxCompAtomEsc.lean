import DL.Lemmas.RxCompName2

/-! # Completeness: `\k<…>`, group specifiers, `AtomEscape` (u-mode) -/
namespace DL.Rx
open DL.RxSpec DL.Gen.Unicode

attribute [local irreducible] isScalar
variable {src : List Nat} {N : Nat}

/-- the exact effect of a phrase with attributes `a` on the name registers -/
structure TrackC (s s1 : St) (a : Attr) : Prop where
  gn : s1.groupNames = s.groupNames ++ groupNames a.groups
  bn : ∀ x, x ∈ s1.backreferenceNames ↔ x ∈ s.backreferenceNames ∨ x ∈ a.refs

theorem TrackC.ofKeepN {s s1 : St} (h : KeepN s s1) : TrackC s s1 Attr.nil :=
  ⟨by rw [h.gn]; exact (List.append_nil _).symm, fun x => by
    rw [h.bn]; exact ⟨.inl, fun h => h.elim id (fun h => nomatch h)⟩⟩

theorem TrackC.ofKeep {s s1 : St} (h : Keep s s1) : TrackC s s1 Attr.nil := TrackC.ofKeepN h.toN

theorem TrackC.ofEq {s s1 : St} (h : s1 = s) : TrackC s s1 Attr.nil := by
  subst h; exact TrackC.ofKeepN (KeepN.refl _)

theorem TrackC.pre {s s1 s2 : St} {a : Attr} (hk : KeepN s s1) (h : TrackC s1 s2 a) : TrackC s s2 a :=
  ⟨by rw [h.gn, hk.gn], fun x => by rw [h.bn, hk.bn]⟩

theorem TrackC.post {s s1 s2 : St} {a : Attr} (h : TrackC s s1 a) (hk : KeepN s1 s2) : TrackC s s2 a :=
  ⟨by rw [hk.gn, h.gn], fun x => by rw [hk.bn, h.bn]⟩

theorem TrackC.trans {s s1 s2 : St} {a1 a2 : Attr} (h1 : TrackC s s1 a1) (h2 : TrackC s1 s2 a2) :
    TrackC s s2 (a1 ++ a2) := by
  refine ⟨?_, fun x => ?_⟩
  · show s2.groupNames = s.groupNames ++ groupNames (a1.groups ++ a2.groups)
    rw [h2.gn, h1.gn, groupNames_append, List.append_assoc]
  · rw [h2.bn, h1.bn]
    show _ ↔ _ ∨ x ∈ a1.refs ++ a2.refs
    rw [List.mem_append, or_assoc]

theorem consumeKGroupName_wc (n : Nat) (m r1 : List Nat) (nm : List Nat) (s : St) (h : UAt src N (ch 'k' :: m) s)
    (hD : GroupName m r1 nm) :
    Wc (consumeKGroupName n s) (fun b s1 => b = true ∧ UAt src N r1 s1 ∧ TrackC s s1 ⟨[], [nm]⟩) := by
  unfold consumeKGroupName
  rx5_auto
  rename_i s1 _ hat hstr hk
  refine ⟨rfl, by rx4_at, ?_, fun x => ?_⟩
  · show s1.groupNames = s.groupNames ++ []
    rw [hk.gn, List.append_nil]; rfl
  · show x ∈ (if s1.backreferenceNames.contains s1.lastStrValue then s1.backreferenceNames
        else s1.backreferenceNames ++ [s1.lastStrValue]) ↔ x ∈ s.backreferenceNames ∨ x ∈ [nm]
    have e : s1.backreferenceNames = s.backreferenceNames := hk.bn
    rw [hstr, e]
    split
    · rename_i hc
      have := List.contains_iff_mem.mp hc
      constructor
      · exact .inl
      · rintro (hx | hx)
        · exact hx
        · have : x = nm := by simpa using hx
          subst this; assumption
    · rw [List.mem_append]

theorem consumeKGroupName_wcn (n : Nat) (r : List Nat) (s : St) (h : UAt src N r s) (hn : r.head? ≠ some (ch 'k')) :
    Wc (consumeKGroupName n s) (fun b s1 => b = false ∧ s1 = s) := by
  unfold consumeKGroupName
  rx5_auto
  exact ⟨rfl, rfl⟩

theorem consumeGroupSpecifier_wc (n : Nat) (m r1 : List Nat) (nm : List Nat) (s : St) (h : UAt src N (ch '?' :: m) s)
    (hD : GroupName m r1 nm) (hnew : ¬nm ∈ s.groupNames) :
    Wc (consumeGroupSpecifier n s) (fun b s1 => b = true ∧ UAt src N r1 s1 ∧ TrackC s s1 ⟨[some nm], []⟩) := by
  unfold consumeGroupSpecifier
  rx5_auto
  case neg =>
    rename_i s1 _ hat hstr hk hn
    apply hn
    have e : s1.groupNames = s.groupNames := hk.gn
    rw [hstr, e]
    have : s.groupNames.contains nm = false := by
      cases hc : s.groupNames.contains nm
      · rfl
      · exact absurd (List.contains_iff_mem.mp hc) hnew
    rw [this]; rfl
  rename_i s1 _ hat hstr hk hc
  refine ⟨rfl, by rx4_at, ?_, fun x => ?_⟩
  · show s1.groupNames ++ [s1.lastStrValue] = s.groupNames ++ [nm]
    rw [hk.gn, hstr]; rfl
  · show x ∈ s1.backreferenceNames ↔ x ∈ s.backreferenceNames ∨ x ∈ []
    have e : s1.backreferenceNames = s.backreferenceNames := hk.bn
    rw [e]
    exact ⟨.inl, fun h => h.elim id (fun h => nomatch h)⟩

theorem consumeGroupSpecifier_wcn (n : Nat) (r : List Nat) (s : St) (h : UAt src N r s) (hn : r.head? ≠ some (ch '?')) :
    Wc (consumeGroupSpecifier n s) (fun b s1 => b = false ∧ s1 = s) := by
  unfold consumeGroupSpecifier
  rx5_auto
  exact ⟨rfl, rfl⟩

theorem not_nonZero_of {x : Nat} (h : x < 0x31 ∨ 0x39 < x) : ¬NonZeroDigit x := by
  intro hd
  have h' : 0x31 ≤ x ∧ x ≤ 0x39 := hd
  omega

theorem head_not_nonZero {x : Nat} {m : List Nat} (h : x < 0x31 ∨ 0x39 < x) :
    ∀ d, (x :: m).head? = some d → ¬NonZeroDigit d := by
  intro d hd; cases hd; exact not_nonZero_of h

theorem cceFree_of {x : Nat} {m : List Nat} (h : x ≠ ch 'd' ∧ x ≠ ch 'D' ∧ x ≠ ch 's' ∧ x ≠ ch 'S' ∧ x ≠ ch 'w' ∧
    x ≠ ch 'W' ∧ x ≠ ch 'p' ∧ x ≠ ch 'P') : CceFree (x :: m) := by
  obtain ⟨h1, h2, h3, h4, h5, h6, h7, h8⟩ := h
  exact ⟨head_ne_of_ne h1 _, head_ne_of_ne h2 _, head_ne_of_ne h3 _, head_ne_of_ne h4 _, head_ne_of_ne h5 _,
    head_ne_of_ne h6 _, head_ne_of_ne h7 _, head_ne_of_ne h8 _⟩

/-- a `CharacterClassEscape` does not start with a digit -/
theorem cce_head {i r : List Nat} (h : CharacterClassEscape i r) : ∀ d, i.head? = some d → ¬NonZeroDigit d := by
  cases h with
  | simple x _ hx =>
    simp only [List.mem_cons, List.not_mem_nil, or_false] at hx
    rcases hx with rfl | rfl | rfl | rfl | rfl | rfl <;> exact head_not_nonZero (by decide)
  | property x m _ hx _ =>
    rcases hx with rfl | rfl <;> exact head_not_nonZero (by decide)

/-- a `CharacterEscape` starts neither with a digit 1–9 nor with a `CharacterClassEscape` letter -/
theorem ce_head {i r : List Nat} {v : Nat} (h : CharacterEscape i r v) :
    (∀ d, i.head? = some d → ¬NonZeroDigit d) ∧ CceFree i := by
  have key : ∀ (x : Nat) (m : List Nat), (x < 0x31 ∨ 0x39 < x) ∧ (x ≠ ch 'd' ∧ x ≠ ch 'D' ∧ x ≠ ch 's' ∧ x ≠ ch 'S' ∧
      x ≠ ch 'w' ∧ x ≠ ch 'W' ∧ x ≠ ch 'p' ∧ x ≠ ch 'P') →
      (∀ d, (x :: m).head? = some d → ¬NonZeroDigit d) ∧ CceFree (x :: m) :=
    fun x m hx => ⟨head_not_nonZero hx.1, cceFree_of hx.2⟩
  cases h with
  | unicode _ _ _ hu => obtain ⟨m, rfl⟩ := rues_head hu; exact key _ _ (by decide)
  | identity _ _ hx =>
    refine key _ _ ?_
    rcases hx with hx | hx
    · unfold SyntaxCharacter at hx
      simp only [List.mem_cons, List.not_mem_nil, or_false] at hx
      rcases hx with h | h | h | h | h | h | h | h | h | h | h | h | h | h <;> subst h <;> decide
    · subst hx; decide
  | _ => exact key _ _ (by decide)

theorem not_identity_k : ¬(SyntaxCharacter (ch 'k') ∨ ch 'k' = c '/') := by
  unfold SyntaxCharacter; decide

/-- `\k` is no `CharacterEscape`: every alternative fails without moving -/
theorem consumeCharacterEscape_wcn (n : Nat) (m : List Nat) (s : St) (h : UAt src N (ch 'k' :: m) s) :
    Wc (consumeCharacterEscape n s) (fun b s1 => b = false ∧ s1 = s) :=
  .orM_skip (eatControlEscape_wcn _ s h rfl) <|
    .orM_skip (eatCControlLetter_wcn _ s h (head_ne_of_ne (by decide) _)) <|
    .orM_skip (eatZero_wcn _ s h (head_ne_of_ne (by decide) _)) <|
    .orM_skip (eatHexEscapeSequence_wcn _ s h (head_ne_of_ne (by decide) _)) <|
    .orM_skip (eatRegexpUnicodeEscapeSequence_wcn n false _ s h (head_ne_of_ne (by decide) _)) <|
    .orM_skip (legacyOctal_wcn _ s h) (eatIdentityEscape_wcn _ m s h not_identity_k)

/-- the alternatives of `consume_atom_escape`; a failed backreference has reset `last_int_value`, the others fail
without moving -/
theorem atomEscapeAlts_wc (n : Nat) (r r1 : List Nat) (a : Attr) (s : St) (h : UAt src N r s)
    (hD : AtomEscape N r r1 a) :
    Wc ((consumeBackreference n <or> consumeCharacterClassEscape n <or> consumeCharacterEscape n <or>
      ((do pure (← getSt).nFlag) <and> consumeKGroupName n)) s)
      (fun b s1 => b = true ∧ UAt src N r1 s1 ∧ TrackC s s1 a) := by
  have h0 : UAt src N r (s.withInt 0) := UAt.of_eq h rfl rfl rfl rfl rfl
  have k0 : KeepN s (s.withInt 0) := ⟨rfl, rfl⟩
  cases hD with
  | decimal _ _ v hd hv =>
    exact .orM_hit ((consumeBackreference_wc n r r1 v s h hd hv).mono fun _ _ hq => ⟨hq.1, hq.2.1, .ofKeep hq.2.2⟩)
  | characterClass _ _ hc =>
    refine .orM_next (consumeBackreference_wcn n r s h (cce_head hc)) fun _ e => e ▸ ?_
    exact .orM_hit ((consumeCharacterClassEscape_wc n r r1 _ h0 hc).mono fun _ _ hq =>
      ⟨hq.1, hq.2.1, .ofKeepN (k0.trans hq.2.2.2)⟩)
  | character _ _ v hc =>
    obtain ⟨hnz, hfree⟩ := ce_head hc
    refine .orM_next (consumeBackreference_wcn n r s h hnz) fun _ e => e ▸ ?_
    exact .orM_skip (consumeCharacterClassEscape_wcn n r _ h0 hfree) <|
      .orM_hit ((consumeCharacterEscape_wc n r r1 v _ h0 hc).mono fun _ _ hq =>
        ⟨hq.1, hq.2.1, .ofKeepN (k0.trans hq.2.2.2.toN)⟩)
  | named m _ nm hg =>
    refine .orM_next (consumeBackreference_wcn n _ s h (head_not_nonZero (by decide))) fun _ e => e ▸ ?_
    refine .orM_skip (consumeCharacterClassEscape_wcn n _ _ h0 (cceFree_of (by decide))) <|
      .orM_skip (consumeCharacterEscape_wcn n m _ h0) ?_
    rx5_auto
    exact ⟨by assumption, by assumption, .pre k0 ‹TrackC _ _ _›⟩

theorem consumeAtomEscape_wc (n : Nat) (r r1 : List Nat) (a : Attr) (s : St) (h : UAt src N r s)
    (hD : AtomEscape N r r1 a) :
    Wc (consumeAtomEscape n s) (fun b s1 => b = true ∧ UAt src N r1 s1 ∧ TrackC s s1 a) := by
  unfold consumeAtomEscape
  refine Wc.call (atomEscapeAlts_wc n r r1 a s h hD) fun b s1 hq => ?_
  obtain ⟨rfl, hq⟩ := hq
  exact ⟨rfl, hq⟩

end DL.Rx
