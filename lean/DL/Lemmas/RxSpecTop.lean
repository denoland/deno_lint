import DL.Lemmas.RxSpecMutual
import DL.Lemmas.RxIndTop

/-! # Soundness w.r.t. the grammar: `count_capturing_parens` is a pure scan of the remaining input; `consume_pattern`, `validate_pattern` -/
namespace DL.Rx
open DL.RxSpec DL.Gen.Unicode
attribute [local irreducible] isScalar
variable {src : List Nat} {N : Nat}

/-- `count_capturing_parens` (`validator.rs:1563-1595`) as a function of the input: a left parenthesis counts if it
is outside a class, not escaped, and not followed by `?` — except `(?<` not followed by `=` or `!` -/
def scan : List Nat → Bool → Bool → Nat → Nat
  | [], _, _, k => k
  | x :: r, inClass, escaped, k =>
    if escaped then scan r inClass false k
    else if x == ch '\\' then scan r inClass true k
    else if x == ch '[' then scan r true escaped k
    else if x == ch ']' then scan r false escaped k
    else if x == ch '(' && !inClass
        && (r[0]? != some (ch '?') || (r[1]? == some (ch '<') && r[2]? != some (ch '=') && r[2]? != some (ch '!')))
      then scan r inClass escaped (k + 1)
    else scan r inClass escaped k

theorem countCapturingParensLoop_wp : ∀ (n : Nat) (ic esc : Bool) (k : Nat) (r : List Nat) (s : St), UAt src N r s →
    Wp (countCapturingParensLoop n ic esc k s) (fun v s1 => v = scan r ic esc k ∧ ∃ r1, UAt src N r1 s1 ∧ KeepN s s1 ∧
      s1.lastIntValue = s.lastIntValue ∧ s1.numCapturingParens = s.numCapturingParens)
  | 0, _, _, _, _, _, _ => Wp.outOfFuel
  | n + 1, ic, esc, k, r, s, h => by
    have ih := countCapturingParensLoop_wp n
    unfold countCapturingParensLoop
    rx4_auto
    all_goals (try (
      rename_i v s1 hv r1 hat1 hk hint hncp
      subst hv
      refine ⟨?_, r1, hat1, by rx4_keep, by rw [hint]; rfl, by rw [hncp]; rfl⟩
      (simp [scan, *]; done)))
    · rename_i x r' hn1 hn2 hn3 hn4 _ v s1 hv r1 hat1 hk hint hncp
      subst hv
      refine ⟨?_, r1, hat1, by rx4_keep, by rw [hint]; rfl, by rw [hncp]; rfl⟩
      simp only [scan, Bool.false_eq_true, if_false]
      rw [if_neg hn1, if_neg hn2, if_neg hn3, if_neg]
      exact hn4
    · rename_i x r' hn1 hn2 hn3 hc _ v s1 hv r1 hat1 hk hint hncp
      subst hv
      refine ⟨?_, r1, hat1, by rx4_keep, by rw [hint]; rfl, by rw [hncp]; rfl⟩
      simp only [scan, Bool.false_eq_true, if_false]
      rw [if_neg hn1, if_neg hn2, if_neg hn3, if_pos]
      exact hc
    · exact ⟨by cases ic <;> cases esc <;> rfl, [], h, KeepN.refl s, rfl, rfl⟩

theorem countCapturingParens_wp (n : Nat) (r : List Nat) (s : St) (h : UAt src N r s) :
    Wp (countCapturingParens n s) (fun v s1 => v = scan r false false 0 ∧ UAt src N r s1 ∧ KeepN s s1) := by
  unfold countCapturingParens
  rx4_auto
  rename_i v s1 hv r1 hat1 hk hint hncp hat2
  exact ⟨hv, hat2, by rx4_keep⟩

theorem scan_le : ∀ (r : List Nat) (ic esc : Bool) (k : Nat), scan r ic esc k ≤ k + r.length
  | [], _, _, k => by simp [scan]
  | x :: r, ic, esc, k => by
    have h1 := scan_le r ic false k
    have h2 := scan_le r ic true k
    have h3 := scan_le r true esc k
    have h4 := scan_le r false esc k
    have h5 := scan_le r ic esc (k + 1)
    have h6 := scan_le r ic esc k
    simp only [scan, List.length_cons]
    split
    · omega
    · split
      · omega
      · split
        · omega
        · split
          · omega
          · split <;> omega

theorem consumePattern_wp (hsrc : ∀ x ∈ src, x ≤ 0x10FFFF) (hlen : src.length < 2 ^ 62) (n : Nat) (r : List Nat)
    (s : St) (h : UAt src N r s) :
    Wp (consumePattern n s) (fun _ s1 => s1.nFlag = true ∧ ∃ a : Attr,
      Derives qokSat (scan r false false 0) .Disjunction r [] a ∧
      (groupNames a.groups).Nodup ∧ ∀ x ∈ a.refs, x ∈ groupNames a.groups) := by
  have hrl : r.length ≤ src.length := by
    rw [← h.rest, List.length_drop]; omega
  have hN : scan r false false 0 < 2 ^ 62 := by
    have := scan_le r false false 0; omega
  have hall := allSpec (src := src) (N := scan r false false 0) hN hsrc n
  have hd := hall.disjunction
  unfold consumePattern
  rx4_step
  with_reducible refine Wp.bind_modSt ?_
  rename_i v s1 hv hat1 hk1
  subst hv
  have hat2 : UAt src (scan r false false 0) r
      { s1 with numCapturingParens := scan r false false 0, groupNames := [], backreferenceNames := [] } :=
    ⟨hat1.1, hat1.2.1, hat1.2.2.1, hat1.2.2.2.1, hat1.2.2.2.2.1, rfl⟩
  refine Wp.call (hd r _ hat2) (fun _ s2 hpost => ?_)
  obtain ⟨r1, a, hat3, hder, htr⟩ := hpost
  rx4_auto
  rename_i hfind
  refine ⟨hat3.nFlag', a, hder, ?_, ?_⟩
  · have := htr.nodup List.nodup_nil
    rw [htr.gn] at this
    exact this
  · intro x hx
    have hx1 := htr.refs x hx
    have hnone := List.find?_eq_none.mp hfind x hx1
    have hc : s2.groupNames.contains x = true := by simpa using hnone
    have := List.contains_iff_mem.mp hc
    rw [htr.gn] at this
    exact this

/-- soundness of `validate_pattern` in u-mode, with the model's own count of capturing groups -/
theorem validatePattern_sound_scan (fuel : Nat) (src : List Nat) (st s' : St) (hsrc : ∀ x ∈ src, x ≤ 0x10FFFF)
    (hlen : src.length < 2 ^ 62) (h : validatePattern fuel src true st = .ok () s') :
    ∃ a : Attr, Derives qokSat (scan src false false 0) .Disjunction src [] a ∧
      (groupNames a.groups).Nodup ∧ ∀ x ∈ a.refs, x ∈ groupNames a.groups := by
  rw [validatePattern_eq] at h
  have hstat : RStatic src (prep src true st).reader := ⟨rfl, rfl⟩
  have hrw := rewindLoop_eq (src := src) 0 (prep src true st) hstat 4 0 rfl (Nat.zero_le _)
  have hat : UAt src st.numCapturingParens src ((prep src true st).setPos src 0) :=
    ⟨RInv.setPos hstat (Nat.zero_le _), rfl, rfl, rfl, rfl, rfl⟩
  have key : Wp (afterPrep fuel (prep src true st)) (fun _ _ => ∃ a : Attr,
      Derives qokSat (scan src false false 0) .Disjunction src [] a ∧
      (groupNames a.groups).Nodup ∧ ∀ x ∈ a.refs, x ∈ groupNames a.groups) := by
    unfold afterPrep
    refine Wp.bind ?_
    have e : rewindLoop 0 4 0 (prep src true st) = .ok () ((prep src true st).setPos src 0) := hrw
    rw [e]
    refine Wp.ok ?_
    rx4_auto
    · exact ⟨_, ‹Derives _ _ _ _ _ _›, ‹List.Nodup _›, ‹∀ x ∈ _, _›⟩
    · rename_i hnf _ _ _ _ hc
      rw [hnf] at hc
      cases hc
  rw [h] at key
  exact key

end DL.Rx
