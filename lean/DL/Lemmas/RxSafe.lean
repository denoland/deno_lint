import DL.Model.Regex
import DL.Lemmas.RxSafeAttr

/-!
# Panic-freedom of the regular-expression validator: the logic and its step tactic

`Safe P m Q`: started in a state satisfying `P`, the computation `m` does not panic, and if it returns normally with
value `a` in state `s'` then `Q a s'`.  (`err` and `outOfFuel` outcomes abort the whole validation — `?` — so nothing
is required of their states.)

`Inv`: the reader invariant `end ≤ number of units` (`units` = scalar values in unicode mode, UTF-16 code units
otherwise).  It is what makes the two `.nth(i).unwrap()` in `Reader::at` safe.
-/
namespace DL.Rx

def Res.sat {α : Type} : Res α → (α → St → Prop) → Prop
  | .ok a s, Q => Q a s
  | .panic _ _, _ => False
  | .err _ _, _ => True
  | .outOfFuel _, _ => True

def Safe {α : Type} (P : St → Prop) (m : M α) (Q : α → St → Prop) : Prop :=
  ∀ s, P s → (m s).sat Q

/-- the units `Reader::at` indexes -/
def Reader.units (r : Reader) : List Nat := if r.unicode then r.src else encodeUtf16 r.src

def Inv (s : St) : Prop := s.reader.end_ ≤ s.reader.units.length

instance (s : St) : Decidable (Inv s) := by unfold Inv; infer_instance

abbrev OK {α : Type} (m : M α) : Prop := Safe Inv m (fun _ => Inv)

theorem Safe.pure {α : Type} {P : St → Prop} {Q : α → St → Prop} {a : α} (h : ∀ s, P s → Q a s) :
    Safe P (pure a : M α) Q := fun s hs => h s hs

theorem Safe.bind {α β : Type} {P : St → Prop} {R : α → St → Prop} {Q : β → St → Prop} {m : M α} {f : α → M β}
    (hm : Safe P m R) (hf : ∀ a, Safe (R a) (f a) Q) : Safe P (m >>= f) Q := by
  intro s hs
  have h1 := hm s hs
  show (M.bind m f s).sat Q
  unfold M.bind
  cases h : m s with
  | ok a s' => rw [h] at h1; exact hf a s' h1
  | err _ _ => trivial
  | panic _ _ => rw [h] at h1; exact h1
  | outOfFuel _ => trivial

theorem Safe.conseq {α : Type} {P P' : St → Prop} {Q Q' : α → St → Prop} {m : M α}
    (h : Safe P m Q) (hP : ∀ s, P' s → P s) (hQ : ∀ a s, Q a s → Q' a s) : Safe P' m Q' := by
  intro s hs
  have h1 := h s (hP s hs)
  cases h2 : m s with
  | ok a s' => rw [h2] at h1; exact hQ a s' h1
  | err _ _ => trivial
  | panic _ _ => rw [h2] at h1; exact h1
  | outOfFuel _ => trivial

theorem Safe.pre {α : Type} {P P' : St → Prop} {Q : α → St → Prop} {m : M α}
    (h : Safe P m Q) (hP : ∀ s, P' s → P s) : Safe P' m Q := h.conseq hP (fun _ _ h => h)

theorem Safe.post {α : Type} {P : St → Prop} {Q Q' : α → St → Prop} {m : M α}
    (h : Safe P m Q) (hQ : ∀ a s, Q a s → Q' a s) : Safe P m Q' := h.conseq (fun _ h => h) hQ

/-- a pure hypothesis can be pulled out of the precondition -/
theorem Safe.assume {α : Type} {P : St → Prop} {p : Prop} {Q : α → St → Prop} {m : M α}
    (h : p → Safe P m Q) : Safe (fun s => P s ∧ p) m Q := fun s hs => h hs.2 s hs.1

theorem Safe.getSt {P : St → Prop} : Safe P getSt (fun a s => a = s ∧ P s) := fun _ hs => ⟨rfl, hs⟩

theorem Safe.modSt {P : St → Prop} {Q : Unit → St → Prop} {f : St → St} (h : ∀ s, P s → Q () (f s)) :
    Safe P (modSt f) Q := fun s hs => h s hs

theorem Safe.fail {α : Type} {P : St → Prop} {Q : α → St → Prop} {msg : String} : Safe P (fail msg : M α) Q :=
  fun _ _ => trivial

theorem Safe.outOfFuel {α : Type} {P : St → Prop} {Q : α → St → Prop} : Safe P (outOfFuel : M α) Q :=
  fun _ _ => trivial

/-- the instance is an implicit argument: as an instance argument it makes every failing application of the rule slow
(the elaborator first tries to synthesise `Decidable ?c`) -/
theorem Safe.ite {α : Type} {P : St → Prop} {Q : α → St → Prop} {c : Prop} {_ : Decidable c} {a b : M α}
    (ha : c → Safe P a Q) (hb : ¬c → Safe P b Q) : Safe P (if c then a else b) Q := by
  by_cases h : c
  · rw [if_pos h]; exact ha h
  · rw [if_neg h]; exact hb h

theorem Safe.unwrap {α : Type} {P : St → Prop} {o : Option α} {why : String} (h : o.isSome = true) :
    Safe P (unwrap o why) (fun a s => o = some a ∧ P s) := by
  cases o with
  | none => cases h
  | some a => exact fun s hs => ⟨rfl, hs⟩

/-! ### the invariant-only forms (`Keeps I m`: `m` does not panic under `I` and re-establishes it) -/

abbrev Keeps {α : Type} (I : St → Prop) (m : M α) : Prop := Safe I m (fun _ => I)

@[rx_ok] theorem Keeps.pure {α : Type} {I : St → Prop} {a : α} : Keeps I (pure a : M α) := Safe.pure fun _ h => h

theorem Keeps.bind {α β : Type} {I : St → Prop} {m : M α} {f : α → M β} (hm : Keeps I m) (hf : ∀ a, Keeps I (f a)) :
    Keeps I (m >>= f) :=
  Safe.bind hm hf

@[rx_ok] theorem Keeps.getSt {I : St → Prop} : Keeps I getSt := Safe.getSt.post fun _ _ h => h.2

theorem Keeps.modSt {I : St → Prop} {f : St → St} (h : ∀ s, I s → I (f s)) : Keeps I (modSt f) := Safe.modSt h

@[rx_ok] theorem Keeps.fail {α : Type} {I : St → Prop} {msg : String} : Keeps I (fail msg : M α) := Safe.fail
theorem Keeps.outOfFuel {α : Type} {I : St → Prop} : Keeps I (outOfFuel : M α) := Safe.outOfFuel
attribute [rx_ok] Keeps.outOfFuel

theorem Keeps.ite {α : Type} {I : St → Prop} {c : Prop} {_ : Decidable c} {a b : M α}
    (ha : c → Keeps I a) (hb : ¬c → Keeps I b) : Keeps I (if c then a else b) := Safe.ite ha hb

theorem Keeps.unwrap {α : Type} {I : St → Prop} {o : Option α} {why : String} (h : o.isSome = true) :
    Keeps I (unwrap o why) :=
  (Safe.unwrap h).post fun _ _ h => h.2

theorem Keeps.orM {I : St → Prop} {a b : M Bool} (ha : Keeps I a) (hb : Keeps I b) : Keeps I (a <or> b) := by
  unfold DL.Rx.orM
  exact Keeps.bind ha fun x => Keeps.ite (fun _ => Keeps.pure) (fun _ => hb)

theorem Keeps.andM {I : St → Prop} {a b : M Bool} (ha : Keeps I a) (hb : Keeps I b) : Keeps I (a <and> b) := by
  unfold DL.Rx.andM
  exact Keeps.bind ha fun x => Keeps.ite (fun _ => hb) (fun _ => Keeps.pure)

@[rx_ok] theorem OK.setInt {v : Int} : OK (setInt v) := Keeps.modSt fun _ h => h
@[rx_ok] theorem OK.setStr {v : List Nat} : OK (setStr v) := Keeps.modSt fun _ h => h

/-- closes `OK (f args)` by an induction hypothesis or by the lemma about `f` in the set `rx_ok` -/
macro "rx_known" : tactic => `(tactic| first | assumption | (simp (disch := decide) only [rx_ok]; done))

/-- one structural step on a goal `Safe Inv m (fun _ => Inv)`; everything is matched syntactically
(`with_reducible`), so no definition is unfolded behind the user's back -/
macro "rx_step" : tactic => `(tactic| (show Safe _ _ _; first
    | with_reducible refine Keeps.bind ?_ (fun _ => ?_)
    | with_reducible refine Keeps.ite (fun _ => ?_) (fun _ => ?_)
    | with_reducible refine Keeps.orM ?_ ?_
    | with_reducible refine Keeps.andM ?_ ?_
    | with_reducible refine Keeps.unwrap ?_
    | with_reducible rx_known
    | (with_reducible refine Keeps.modSt (I := Inv) ?_); exact fun _ h => h
    | split
    | dsimp only))

macro "rx_auto" : tactic => `(tactic| repeat' rx_step)

end DL.Rx
