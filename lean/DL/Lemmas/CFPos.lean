import DL.Lemmas.CFBasic

/-!
# The fragment the soundness proof covers, and the positions a visit writes

* `Stmt.inF` / `Kids.okF` / `Kids.okFn` (`itemsInF` for the top-level items) — the fragment.  Every form of statement and of expression kid is in it, to any
  depth; function scopes and catch clauses have parameters, then at most one body block.  What is restricted is *where*
  statements nested directly in expressions (`with` bodies: `Kid.stmt`; class static blocks: `Kid.block`) may sit:
  anywhere among the kids of a `simple` statement; only with completions that cannot `break`/`continue` out of the
  expression (`Compl.plain`) in an `if`/`while`/`for` test, a `for` init, the right side of a `for-in/of` and a
  `return`/`throw` argument (for `if` tests and `return`/`throw` arguments the proofs do not use the restriction); not
  at all (`Kids.pure`) in a test known to be true, a `do-while` test, a `for` update, the left side of a `for-in/of`
  (there the analyzer is unsound: `DL.Props.C10`), a `switch` discriminant, a case test, catch or function parameters.
* `positions` — every key of the metadata map a visit may write (`end_` or `unreachable`).
* `upos` — the keys whose `unreachable` flag a visit writes: the start positions of statements, at any depth.
  `itemsPositions`, `itemsUpos`: both for the top-level items of a program (statements and module declarations).
* `Kids.fpos` — the positions of the function scopes of an expression tree that are not nested in another function.
  The position of an expression/declaration statement may coincide with one of them (`() => {…};`, `function f(){…}`),
  and then `Stmt.positions` does not list it a second time.
* `getters` — the function scopes with a body block, at any depth: the entries from which `inner` reaches.
-/
namespace DL.CF

def Tag.isDeclOrExpr : Tag → Bool
  | .fnDecl _ | .varNoInit | .tsDecl | .decl | .exprStmt => true
  | _ => false

theorem Stmt.isDeclOrExpr_simple (p : Nat) (t : Tag) (kids : Kids) :
    (Stmt.simple p t kids).isDeclOrExpr = t.isDeclOrExpr := by
  cases t <;> rfl

def Kids.isNil : Kids → Bool
  | .nil => true
  | _ => false

def Stmts.isNil : Stmts → Bool
  | .nil => true
  | _ => false

mutual
def Kid.fpos : Kid → List Nat
  | .expr _ ks => ks.fpos
  | .fnScope p _ => [p]
  | .block _ _ => []
  | .stmt _ => []
def Kids.fpos : Kids → List Nat
  | .nil => []
  | .cons k r => k.fpos ++ r.fpos
end

/-- the position of an optional clause (`catch`, `finally`): absent clauses have a dummy position -/
def optPos (b : Bool) (p : Nat) : List Nat := if b then [p] else []

mutual
def Stmt.positions : Stmt → List Nat
  | .simple p t kids => if t.isDeclOrExpr && kids.fpos.contains p then kids.positions else p :: kids.positions
  | .block p b => p :: b.positions
  | .ifS p t c none => p :: (t.positions ++ c.positions)
  | .ifS p t c (some a) => p :: (t.positions ++ (c.positions ++ a.positions))
  | .whileS p t _ b => p :: (t.positions ++ b.positions)
  | .doWhileS p b t _ => p :: (t.positions ++ b.positions)
  | .forS p i u t _ _ b => p :: ((i.positions ++ (u.positions ++ t.positions)) ++ b.positions)
  | .forInOf p l r b => p :: ((l.positions ++ r.positions) ++ b.positions)
  | .switchS p d cs => p :: (d.positions ++ cs.positions)
  | .tryS p bp b hh cp ck hf fp f => p :: bp :: (b.positions ++ ((optPos hh cp ++ ck.positions) ++ (optPos hf fp ++ f.positions)))
  | .labeled p _ b => p :: b.positions
  | .brk p _ => [p]
  | .cont p _ => [p]
  | .ret p a => p :: a.positions
  | .throw p a => p :: a.positions
def Stmts.positions : Stmts → List Nat
  | .nil => []
  | .cons s r => s.positions ++ r.positions
def Kid.positions : Kid → List Nat
  | .expr _ ks => ks.positions
  | .fnScope p ks => p :: ks.positions
  | .block p b => p :: b.positions
  | .stmt s => s.positions
def Kids.positions : Kids → List Nat
  | .nil => []
  | .cons k r => k.positions ++ r.positions
def Cases.positions : Cases → List Nat
  | .nil => []
  | .cons p _ t b r => p :: (t.positions ++ (b.positions ++ r.positions))
end

mutual
def Stmt.upos : Stmt → List Nat
  | .simple p _ kids => p :: kids.upos
  | .block p b => p :: b.upos
  | .ifS p t c none => p :: (t.upos ++ c.upos)
  | .ifS p t c (some a) => p :: (t.upos ++ (c.upos ++ a.upos))
  | .whileS p t _ b => p :: (t.upos ++ b.upos)
  | .doWhileS p b t _ => p :: (t.upos ++ b.upos)
  | .forS p i u t _ _ b => p :: ((i.upos ++ (u.upos ++ t.upos)) ++ b.upos)
  | .forInOf p l r b => p :: ((l.upos ++ r.upos) ++ b.upos)
  | .switchS p d cs => p :: (d.upos ++ cs.upos)
  | .tryS p _ b _ _ ck _ _ f => p :: (b.upos ++ (ck.upos ++ f.upos))
  | .labeled p _ b => p :: b.upos
  | .brk p _ => [p]
  | .cont p _ => [p]
  | .ret p a => p :: a.upos
  | .throw p a => p :: a.upos
def Stmts.upos : Stmts → List Nat
  | .nil => []
  | .cons s r => s.upos ++ r.upos
def Kid.upos : Kid → List Nat
  | .expr _ ks => ks.upos
  | .fnScope _ ks => ks.upos
  | .block _ b => b.upos
  | .stmt s => s.upos
def Kids.upos : Kids → List Nat
  | .nil => []
  | .cons k r => k.upos ++ r.upos
def Cases.upos : Cases → List Nat
  | .nil => []
  | .cons _ _ t b r => t.upos ++ (b.upos ++ r.upos)
end

mutual
def Kid.okF : Kid → Bool
  | .expr _ ks => ks.okF
  | .fnScope _ ks => ks.okFn
  | .block _ b => b.inF
  | .stmt s => s.inF
def Kids.okF : Kids → Bool
  | .nil => true
  | .cons k r => k.okF && r.okF
/-- the kids of a function scope or of a catch clause: parameters (pure expressions), then at most one body block -/
def Kids.okFn : Kids → Bool
  | .nil => true
  | .cons (.block _ body) r => body.inF && r.isNil
  | .cons (.expr _ ks) r => ks.okF && ks.pure && r.okFn
  | .cons (.fnScope _ ks) r => ks.okFn && r.okFn
  | .cons (.stmt _) _ => false
def Stmt.inF : Stmt → Bool
  | .simple _ _ kids => kids.okF
  | .block _ b => b.inF
  | .ifS _ t c none => t.okF && t.compl.plain && c.inF
  | .ifS _ t c (some a) => t.okF && t.compl.plain && c.inF && a.inF
  | .whileS _ t tt b => t.okF && t.compl.plain && (!tt || t.pure) && b.inF
  | .doWhileS _ b t _ => t.okF && t.pure && b.inF
  | .forS _ i u t _ tt b => i.okF && i.compl.plain && (u.okF && u.pure) && (t.okF && t.compl.plain && (!tt || t.pure)) && b.inF
  | .forInOf _ l r b => (l.okF && l.pure) && (r.okF && r.compl.plain) && b.inF
  | .switchS _ d cs => d.okF && d.pure && cs.inF
  | .tryS _ _ b hh _ ck hf _ f => b.inF && ck.okFn && f.inF && (hh || ck.isNil) && (hf || f.isNil)
  | .labeled _ _ b => b.inF
  | .brk _ _ => true
  | .cont _ _ => true
  | .ret _ a => a.okF && a.compl.plain
  | .throw _ a => a.okF && a.compl.plain
def Stmts.inF : Stmts → Bool
  | .nil => true
  | .cons s r => s.inF && r.inF
def Cases.inF : Cases → Bool
  | .nil => true
  | .cons _ _ t b r => t.okF && t.pure && b.inF && r.inF
end

theorem Kids.okFn_cons {k : Kid} {r : Kids} (h : (Kids.cons k r).okFn = true) : k.okF = true ∧ r.okFn = true := by
  cases k with
  | expr e ks => simp only [Kids.okFn, Bool.and_eq_true] at h; exact ⟨h.1.1, h.2⟩
  | fnScope p ks => simpa [Kids.okFn, Kid.okF] using h
  | block q body => cases r <;> simp_all [Kids.okFn, Kids.isNil, Kid.okF]
  | stmt s => simp [Kids.okFn] at h

theorem Kids.okF_of_okFn : ∀ (ks : Kids), ks.okFn = true → ks.okF = true
  | .nil, _ => rfl
  | .cons k r, h => by
    have h' := Kids.okFn_cons h
    simp [Kids.okF, h'.1, Kids.okF_of_okFn r h'.2]

theorem append_subset_append {α : Type} {l₁ l₂ r₁ r₂ : List α} (h₁ : l₁ ⊆ r₁) (h₂ : l₂ ⊆ r₂) : l₁ ++ l₂ ⊆ r₁ ++ r₂ :=
  List.append_subset.mpr ⟨List.subset_append_of_subset_left _ h₁, List.subset_append_of_subset_right _ h₂⟩

mutual
theorem Kid.fpos_sub : ∀ (k : Kid) (q : Nat), q ∈ k.fpos → q ∈ k.positions
  | .expr _ ks => Kids.fpos_sub ks
  | .fnScope p ks => List.cons_subset_cons p (List.nil_subset ks.positions)
  | .block _ _ => List.nil_subset _
  | .stmt _ => List.nil_subset _
theorem Kids.fpos_sub : ∀ (ks : Kids) (q : Nat), q ∈ ks.fpos → q ∈ ks.positions
  | .nil => List.nil_subset _
  | .cons k r => append_subset_append (Kid.fpos_sub k) (Kids.fpos_sub r)
end

theorem Stmt.positions_simple (p : Nat) (t : Tag) (kids : Kids) :
    p ∈ kids.fpos ∧ (Stmt.simple p t kids).positions = kids.positions ∨
      (Stmt.simple p t kids).positions = p :: kids.positions := by
  simp only [Stmt.positions]
  split
  · next h => simp only [Bool.and_eq_true, List.contains_iff_mem] at h; exact Or.inl ⟨h.2, rfl⟩
  · exact Or.inr rfl

theorem Stmt.mem_positions_simple (p : Nat) (t : Tag) (kids : Kids) (q : Nat) :
    q ∈ (Stmt.simple p t kids).positions ↔ (q = p ∨ q ∈ kids.positions) := by
  rcases Stmt.positions_simple p t kids with ⟨hp, h⟩ | h <;> rw [h]
  · exact ⟨Or.inr, fun hq => hq.elim (· ▸ Kids.fpos_sub kids p hp) id⟩
  · exact List.mem_cons

theorem Stmt.positions_simple_nde (p : Nat) (t : Tag) (kids : Kids) (h : t.isDeclOrExpr = false) :
    (Stmt.simple p t kids).positions = p :: kids.positions := by
  simp [Stmt.positions, h]

theorem Stmt.nodup_simple (p : Nat) (t : Tag) (kids : Kids) (h : (Stmt.simple p t kids).positions.Nodup) :
    kids.positions.Nodup := by
  rcases Stmt.positions_simple p t kids with ⟨_, hp⟩ | hp <;> rw [hp] at h
  · exact h
  · exact (List.nodup_cons.mp h).2

theorem Stmt.simple_own (p : Nat) (t : Tag) (kids : Kids) (h : (Stmt.simple p t kids).positions.Nodup) :
    p ∈ kids.fpos ∨ p ∉ kids.positions := by
  rcases Stmt.positions_simple p t kids with ⟨hp, _⟩ | hp
  · exact Or.inl hp
  · rw [hp] at h; exact Or.inr (List.nodup_cons.mp h).1

theorem Stmt.pos_mem_upos (s : Stmt) : s.pos ∈ s.upos := by
  cases s with
  | ifS p t c a => cases a <;> exact List.mem_cons_self
  | _ => exact List.mem_cons_self

/-- the positions of a statement's parts (for an expression or declaration statement they may include its own) -/
def Stmt.restPositions : Stmt → List Nat
  | .simple _ _ kids => kids.positions
  | s => s.positions.tail

theorem Stmt.upos_of_rest {s : Stmt} (h : ∀ q, q ∈ s.upos.tail → q ∈ s.restPositions) : ∀ q, q ∈ s.upos → q ∈ s.positions := by
  cases s with
  | simple p t kids => exact fun q hq => (Stmt.mem_positions_simple p t kids q).mpr ((List.mem_cons.mp hq).imp id (h q))
  | ifS p t c a => cases a <;> exact List.cons_subset_cons _ h
  | _ => exact List.cons_subset_cons _ h

mutual
/-- the statements inside a statement start at positions of its parts -/
theorem Stmt.upos_rest : ∀ (s : Stmt) (q : Nat), q ∈ s.upos.tail → q ∈ s.restPositions
  | .simple p t kids => Kids.upos_sub kids
  | .block p b => Stmts.upos_sub b
  | .ifS p t c none => append_subset_append (Kids.upos_sub t) (Stmt.upos_of_rest (Stmt.upos_rest c))
  | .ifS p t c (some a) =>
    append_subset_append (Kids.upos_sub t)
      (append_subset_append (Stmt.upos_of_rest (Stmt.upos_rest c)) (Stmt.upos_of_rest (Stmt.upos_rest a)))
  | .whileS p t _ b => append_subset_append (Kids.upos_sub t) (Stmt.upos_of_rest (Stmt.upos_rest b))
  | .doWhileS p b t _ => append_subset_append (Kids.upos_sub t) (Stmt.upos_of_rest (Stmt.upos_rest b))
  | .forS p i u t _ _ b =>
    append_subset_append
      (append_subset_append (Kids.upos_sub i) (append_subset_append (Kids.upos_sub u) (Kids.upos_sub t)))
      (Stmt.upos_of_rest (Stmt.upos_rest b))
  | .forInOf p l r b =>
    append_subset_append (append_subset_append (Kids.upos_sub l) (Kids.upos_sub r)) (Stmt.upos_of_rest (Stmt.upos_rest b))
  | .switchS p d cs => append_subset_append (Kids.upos_sub d) (Cases.upos_sub cs)
  | .tryS p bp b _ _ ck _ _ f =>
    List.subset_cons_of_subset bp (append_subset_append (Stmts.upos_sub b)
      (append_subset_append (List.subset_append_of_subset_right _ (Kids.upos_sub ck))
        (List.subset_append_of_subset_right _ (Stmts.upos_sub f))))
  | .labeled p _ b => Stmt.upos_of_rest (Stmt.upos_rest b)
  | .brk _ _ => fun _ h => h
  | .cont _ _ => fun _ h => h
  | .ret p a => Kids.upos_sub a
  | .throw p a => Kids.upos_sub a
theorem Stmts.upos_sub : ∀ (l : Stmts) (q : Nat), q ∈ l.upos → q ∈ l.positions
  | .nil => fun _ h => h
  | .cons s r => append_subset_append (Stmt.upos_of_rest (Stmt.upos_rest s)) (Stmts.upos_sub r)
theorem Kid.upos_sub : ∀ (k : Kid) (q : Nat), q ∈ k.upos → q ∈ k.positions
  | .expr _ ks => Kids.upos_sub ks
  | .fnScope p ks => List.subset_cons_of_subset p (Kids.upos_sub ks)
  | .block p b => List.subset_cons_of_subset p (Stmts.upos_sub b)
  | .stmt s => Stmt.upos_of_rest (Stmt.upos_rest s)
theorem Kids.upos_sub : ∀ (ks : Kids) (q : Nat), q ∈ ks.upos → q ∈ ks.positions
  | .nil => fun _ h => h
  | .cons k r => append_subset_append (Kid.upos_sub k) (Kids.upos_sub r)
theorem Cases.upos_sub : ∀ (cs : Cases) (q : Nat), q ∈ cs.upos → q ∈ cs.positions
  | .nil => fun _ h => h
  | .cons p _ t b r =>
    List.subset_cons_of_subset p
      (append_subset_append (Kids.upos_sub t) (append_subset_append (Stmts.upos_sub b) (Cases.upos_sub r)))
end

theorem Stmt.upos_sub (s : Stmt) : ∀ q, q ∈ s.upos → q ∈ s.positions := Stmt.upos_of_rest s.upos_rest

theorem Stmt.pos_mem (s : Stmt) : s.pos ∈ s.positions := s.upos_sub _ s.pos_mem_upos

def Item.positions : Item → List Nat
  | .stmt s => s.positions
  | .decl kids => kids.positions

def Item.upos : Item → List Nat
  | .stmt s => s.upos
  | .decl kids => kids.upos

def itemsPositions : List Item → List Nat
  | [] => []
  | it :: r => it.positions ++ itemsPositions r

def itemsUpos : List Item → List Nat
  | [] => []
  | it :: r => it.upos ++ itemsUpos r

def Item.inF : Item → Bool
  | .stmt s => s.inF
  | .decl kids => kids.okF

def itemsInF : List Item → Bool
  | [] => true
  | it :: r => it.inF && itemsInF r

/-- the body blocks directly among the kids of the function scope at `p` (`body.range()` of a function or getter) -/
def Kids.fnBodies (p : Nat) : Kids → List Getter
  | .nil => []
  | .cons (.block q body) r => ⟨p, q, body⟩ :: r.fnBodies p
  | .cons (.expr _ _) r => r.fnBodies p
  | .cons (.fnScope _ _) r => r.fnBodies p
  | .cons (.stmt _) r => r.fnBodies p

mutual
/-- Every function scope with a body block in the syntax (position of the scope, position of the body block, body).
`GetterReturnVisitor::check_getter` (`getter_return.rs`) reads the metadata at `getter_body_range.start` for those of
them that are getters, so this is a superset of what the rule consults. -/
def Stmt.getters : Stmt → List Getter
  | .simple _ _ kids => kids.getters
  | .block _ b => b.getters
  | .ifS _ t c none => t.getters ++ c.getters
  | .ifS _ t c (some a) => t.getters ++ (c.getters ++ a.getters)
  | .whileS _ t _ b => t.getters ++ b.getters
  | .doWhileS _ b t _ => t.getters ++ b.getters
  | .forS _ i u t _ _ b => (i.getters ++ (u.getters ++ t.getters)) ++ b.getters
  | .forInOf _ l r b => (l.getters ++ r.getters) ++ b.getters
  | .switchS _ d cs => d.getters ++ cs.getters
  | .tryS _ _ b _ _ ck _ _ f => b.getters ++ (ck.getters ++ f.getters)
  | .labeled _ _ b => b.getters
  | .brk _ _ => []
  | .cont _ _ => []
  | .ret _ a => a.getters
  | .throw _ a => a.getters
def Stmts.getters : Stmts → List Getter
  | .nil => []
  | .cons s r => s.getters ++ r.getters
def Kid.getters : Kid → List Getter
  | .expr _ ks => ks.getters
  | .fnScope p ks => ks.fnBodies p ++ ks.getters
  | .block _ b => b.getters
  | .stmt s => s.getters
def Kids.getters : Kids → List Getter
  | .nil => []
  | .cons k r => k.getters ++ r.getters
def Cases.getters : Cases → List Getter
  | .nil => []
  | .cons _ _ t body r => t.getters ++ (body.getters ++ r.getters)
end

def itemsGetters : List Item → List Getter
  | [] => []
  | .stmt s :: r => s.getters ++ itemsGetters r
  | .decl k :: r => k.getters ++ itemsGetters r

def Program.getters (prog : Program) : List Getter := itemsGetters prog.items

end DL.CF
