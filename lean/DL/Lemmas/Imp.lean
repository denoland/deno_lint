import DL.Model.ImportFix
/-! The import-fix model M-IMP (`Model/ImportFix.lean`): the placements that are `Safe`, and what `dropName` (the fixed name is
no longer a global reference) and `insertLine` (the new import on a line of its own) do to `raw`, `dirAt`, `suppressed` and
`kept`: under `Safe` the reports about other names survive, moved with their lines (`kept_insertLine`, `kept_dropName`). -/
namespace DL.Imp

/-- a placement that does not separate a directive naming the rule from references on the line below it -/
def Safe (f : File) : Where → Prop
  | .newLineAt k => k ≤ f.length ∧ ¬ (0 < k ∧ dirAt f (k - 1) = true ∧ ∃ l, f[k]? = some l ∧ l.refs ≠ [])
  | .sameLine => True

theorem rawFrom_nil (i : Nat) : rawFrom i [] = [] := rfl

theorem rawFrom_cons (i : Nat) (l : Line) (ls : File) :
    rawFrom i (l :: ls) = l.refs.map (fun n => (i, n)) ++ rawFrom (i + 1) ls := rfl

/-- every raw diagnostic comes from a reference on its line -/
theorem mem_rawFrom {i : Nat} {f : File} {d : Nat × Name} (h : d ∈ rawFrom i f) :
    ∃ j l, f[j]? = some l ∧ d.1 = i + j ∧ d.2 ∈ l.refs := by
  induction f generalizing i with
  | nil => simp [rawFrom_nil] at h
  | cons a as ih =>
    rw [rawFrom_cons, List.mem_append] at h
    cases h with
    | inl h =>
      rw [List.mem_map] at h
      obtain ⟨n, hn, rfl⟩ := h
      exact ⟨0, a, rfl, rfl, hn⟩
    | inr h =>
      obtain ⟨j, l, hj, h1, h2⟩ := ih h
      refine ⟨j + 1, l, ?_, ?_, h2⟩
      · simpa using hj
      · omega

theorem le_of_mem_rawFrom {i : Nat} {f : File} {d : Nat × Name} (h : d ∈ rawFrom i f) : i ≤ d.1 := by
  obtain ⟨j, _, _, h1, _⟩ := mem_rawFrom h
  omega

theorem mem_raw {f : File} {d : Nat × Name} (h : d ∈ raw f) :
    ∃ l, f[d.1]? = some l ∧ d.2 ∈ l.refs := by
  obtain ⟨j, l, hj, h1, h2⟩ := mem_rawFrom h
  have : d.1 = j := by omega
  exact ⟨l, this ▸ hj, h2⟩

theorem rawFrom_succ (i : Nat) (f : File) :
    rawFrom (i + 1) f = (rawFrom i f).map (fun d => (d.1 + 1, d.2)) := by
  induction f generalizing i with
  | nil => rfl
  | cons a as ih =>
    rw [rawFrom_cons, rawFrom_cons, ih (i + 1), List.map_append, List.map_map]
    rfl

theorem refs_filter (is : List Item) (g : Name) :
    (is.filter fun it => it != .ref g).filterMap Item.refName? =
      (is.filterMap Item.refName?).filter (fun n => n != g) := by
  rw [List.filterMap_filter, List.filter_filterMap]
  congr 1
  funext it
  cases it with
  | imp e => rfl
  | ref n => by_cases hn : n = g <;> simp [Item.refName?, Option.filter, hn]

theorem dropName_nil (g : Name) : dropName [] g = [] := rfl

theorem dropName_cons (l : Line) (ls : File) (g : Name) :
    dropName (l :: ls) g = { l with items := l.items.filter fun it => it != .ref g } :: dropName ls g := rfl

theorem rawFrom_dropName (i : Nat) (f : File) (g : Name) :
    rawFrom i (dropName f g) = (rawFrom i f).filter (fun d => d.2 != g) := by
  induction f generalizing i with
  | nil => rfl
  | cons a as ih =>
    rw [dropName_cons, rawFrom_cons, rawFrom_cons, List.filter_append, ih (i + 1)]
    congr 1
    simp only [Line.refs, refs_filter, List.filter_map]
    rfl

theorem raw_dropName (f : File) (g : Name) : raw (dropName f g) = (raw f).filter (fun d => d.2 != g) :=
  rawFrom_dropName 0 f g

theorem length_dropName (f : File) (g : Name) : (dropName f g).length = f.length := by
  simp [dropName]

theorem getElem?_dropName (f : File) (g : Name) (j : Nat) :
    (dropName f g)[j]? = (f[j]?).map fun l => { l with items := l.items.filter fun it => it != .ref g } := by
  simp [dropName]

theorem dirAt_dropName (f : File) (g : Name) (j : Nat) : dirAt (dropName f g) j = dirAt f j := by
  unfold dirAt
  rw [getElem?_dropName]
  cases f[j]? <;> rfl

theorem suppressed_dropName (f : File) (g : Name) (l : Nat) : suppressed (dropName f g) l = suppressed f l := by
  unfold suppressed
  rw [dirAt_dropName]

theorem kept_dropName (f : File) (g : Name) :
    kept (dropName f g) = (kept f).filter (fun d => d.2 != g) := by
  unfold kept
  rw [raw_dropName, List.filter_filter, List.filter_filter]
  apply List.filter_congr
  intro d _
  rw [suppressed_dropName, Bool.and_comm]

theorem Safe_dropName {f : File} {w : Where} (g : Name) (h : Safe f w) : Safe (dropName f g) w := by
  cases w with
  | sameLine => trivial
  | newLineAt k =>
    obtain ⟨h1, h2⟩ := h
    refine ⟨by rw [length_dropName]; exact h1, ?_⟩
    rintro ⟨hk, hd, l, hl, hr⟩
    rw [dirAt_dropName] at hd
    rw [getElem?_dropName, Option.map_eq_some_iff] at hl
    obtain ⟨l0, hfk, rfl⟩ := hl
    refine h2 ⟨hk, hd, l0, hfk, fun h0 => hr ?_⟩
    simp only [Line.refs] at h0 ⊢
    rw [refs_filter, h0]
    rfl

theorem insertLine_zero (f : File) : insertLine f 0 = newLine :: f := rfl

theorem insertLine_cons_succ (l : Line) (ls : File) (k : Nat) :
    insertLine (l :: ls) (k + 1) = l :: insertLine ls k := rfl

theorem newLine_refs : newLine.refs = [] := rfl

theorem rawFrom_insertLine (i : Nat) (f : File) (k : Nat) (hk : k ≤ f.length) :
    rawFrom i (insertLine f k) = (rawFrom i f).map (fun d => (shiftLine (i + k) d.1, d.2)) := by
  induction f generalizing i k with
  | nil =>
    have : k = 0 := by simpa using hk
    subst this
    rfl
  | cons a as ih =>
    cases k with
    | zero =>
      rw [insertLine_zero, rawFrom_cons, newLine_refs, List.map_nil, List.nil_append, rawFrom_succ]
      apply List.map_congr_left
      intro d hd
      have := le_of_mem_rawFrom hd
      simp only [shiftLine, Nat.add_zero, this, if_true]
    | succ k =>
      have hk' : k ≤ as.length := by simpa using hk
      rw [insertLine_cons_succ, rawFrom_cons, rawFrom_cons, ih (i + 1) k hk', List.map_append, List.map_map]
      congr 1
      · apply List.map_congr_left
        intro n _
        have : ¬ (i + (k + 1) ≤ i) := by omega
        simp only [Function.comp, shiftLine, this, if_false]
      · apply List.map_congr_left
        intro d _
        have : i + 1 + k = i + (k + 1) := by omega
        rw [this]

theorem raw_insertLine (f : File) (k : Nat) (hk : k ≤ f.length) :
    raw (insertLine f k) = (raw f).map (shiftBy (.newLineAt k)) := by
  unfold raw
  rw [rawFrom_insertLine 0 f k hk]
  apply List.map_congr_left
  intro d _
  simp only [shiftBy, Nat.zero_add]

theorem getElem?_insertLine_lt (f : File) {k j : Nat} (hk : k ≤ f.length) (hj : j < k) :
    (insertLine f k)[j]? = f[j]? := by
  unfold insertLine
  rw [List.getElem?_append_left (by rw [List.length_take]; omega), List.getElem?_take, if_pos hj]

theorem getElem?_insertLine_eq (f : File) {k : Nat} (hk : k ≤ f.length) :
    (insertLine f k)[k]? = some newLine := by
  unfold insertLine
  rw [List.getElem?_append_right (by rw [List.length_take]; omega)]
  have : k - (List.take k f).length = 0 := by rw [List.length_take]; omega
  rw [this]
  rfl

theorem getElem?_insertLine_gt (f : File) {k j : Nat} (hk : k ≤ f.length) (hj : k ≤ j) :
    (insertLine f k)[j + 1]? = f[j]? := by
  unfold insertLine
  rw [List.getElem?_append_right (by rw [List.length_take]; omega)]
  have : j + 1 - (List.take k f).length = (j - k) + 1 := by rw [List.length_take]; omega
  rw [this, List.getElem?_cons_succ, List.getElem?_drop]
  congr 1
  omega

theorem dirAt_insertLine_lt (f : File) {k j : Nat} (hk : k ≤ f.length) (hj : j < k) :
    dirAt (insertLine f k) j = dirAt f j := by
  unfold dirAt; rw [getElem?_insertLine_lt f hk hj]

theorem dirAt_insertLine_eq (f : File) {k : Nat} (hk : k ≤ f.length) :
    dirAt (insertLine f k) k = false := by
  unfold dirAt; rw [getElem?_insertLine_eq f hk]; rfl

theorem dirAt_insertLine_gt (f : File) {k j : Nat} (hk : k ≤ f.length) (hj : k ≤ j) :
    dirAt (insertLine f k) (j + 1) = dirAt f j := by
  unfold dirAt; rw [getElem?_insertLine_gt f hk hj]

/-- under `Safe`, a line that carries a reference is suppressed after the insertion iff it was before -/
theorem suppressed_insertLine (f : File) (k : Nat) (h : Safe f (.newLineAt k)) (l : Nat) (ln : Line)
    (hl : f[l]? = some ln) (hr : ln.refs ≠ []) :
    suppressed (insertLine f k) (shiftLine k l) = suppressed f l := by
  obtain ⟨hk, hs⟩ := h
  unfold suppressed shiftLine
  by_cases hkl : k ≤ l
  · rw [if_pos hkl]
    have e1 : l + 1 - 1 = l := by omega
    rw [e1]
    by_cases hkl' : k = l
    · subst hkl'
      rw [dirAt_insertLine_eq f hk]
      cases k with
      | zero => rfl
      | succ k =>
        have : dirAt f (k + 1 - 1) ≠ true := fun hd => hs ⟨by omega, hd, ln, hl, hr⟩
        have e2 : dirAt f (k + 1 - 1) = false := by
          cases hh : dirAt f (k + 1 - 1) with
          | false => rfl
          | true => exact absurd hh this
        rw [e2]; simp
    · have hlt : k ≤ l - 1 := by omega
      have := dirAt_insertLine_gt f hk hlt
      have e3 : l - 1 + 1 = l := by omega
      rw [e3] at this
      rw [this]
      have h1 : decide (l + 1 > 0) = true := by simp
      have h2 : decide (l > 0) = true := by simp; omega
      rw [h1, h2]
  · rw [if_neg hkl]
    cases l with
    | zero => rfl
    | succ l =>
      have : l + 1 - 1 < k := by omega
      rw [dirAt_insertLine_lt f hk this]

theorem kept_insertLine (f : File) (k : Nat) (h : Safe f (.newLineAt k)) :
    kept (insertLine f k) = (kept f).map (shiftBy (.newLineAt k)) := by
  unfold kept
  rw [raw_insertLine f k h.1, List.filter_map]
  congr 1
  apply List.filter_congr
  intro d hd
  obtain ⟨ln, hl, hn⟩ := mem_raw hd
  have hr : ln.refs ≠ [] := by
    intro h0; rw [h0] at hn; cases hn
  have := suppressed_insertLine f k h d.1 ln hl hr
  simp only [Function.comp, shiftBy, this]

theorem ne_of_mem_raw_dropName {f : File} {g : Name} {d : Nat × Name} (h : d ∈ raw (dropName f g)) : d.2 ≠ g := by
  rw [raw_dropName, List.mem_filter] at h
  simpa using h.2

/-- the names reported are the references of the lines, in order -/
theorem snd_rawFrom (i : Nat) (f : File) : (rawFrom i f).map Prod.snd = f.flatMap Line.refs := by
  induction f generalizing i with
  | nil => rfl
  | cons a as ih =>
    rw [rawFrom_cons, List.map_append, List.map_map, ih, List.flatMap_cons]
    exact congrArg (· ++ _) (List.map_id _)

/-- the names reported after an insertion (anywhere, even past the end) are the names reported before -/
theorem snd_raw_insertLine (f : File) (k : Nat) : (raw (insertLine f k)).map Prod.snd = (raw f).map Prod.snd := by
  unfold raw insertLine
  rw [snd_rawFrom, snd_rawFrom, List.flatMap_append, List.flatMap_cons, newLine_refs, List.nil_append,
    ← List.flatMap_append, List.take_append_drop]

theorem drop_cons {α : Type} {f : List α} {i : Nat} {a : α} {as : List α} (h : f.drop i = a :: as) :
    f[i]? = some a ∧ f.drop (i + 1) = as := by
  constructor
  · rw [← Nat.add_zero i, ← List.getElem?_drop, h]; rfl
  · rw [← List.tail_drop, h]; rfl

end DL.Imp
