import DL.Lemmas.RxCompNE

/-! # Completeness: the `Wc` calculus (an `Err` result is excluded) -/
namespace DL.Rx

def Wc {α : Type} (r : Res α) (Q : α → St → Prop) : Prop :=
  match r with
  | .ok a s => Q a s
  | .err _ _ => False
  | _ => True

variable {src : List Nat} {N : Nat} {α β : Type}

theorem Wc.mono {r : Res α} {Q Q' : α → St → Prop} (h : Wc r Q) (hq : ∀ a s, Q a s → Q' a s) : Wc r Q' := by
  cases r <;> first | exact hq _ _ h | exact h | trivial

theorem Wc.wp {r : Res α} {Q : α → St → Prop} (h : Wc r Q) : Wp r Q := by
  cases r <;> first | exact h | trivial

/-- soundness information and no-`Err` information combine -/
theorem Wc.of_wp {m : M α} {s : St} {Q : α → St → Prop} (h : Wp (m s) Q) (hne : NE m) : Wc (m s) Q := by
  cases hr : m s with
  | ok a s1 => rw [hr] at h; exact h
  | err msg s1 => exact hne s msg s1 hr
  | panic _ _ => trivial
  | outOfFuel _ => trivial

theorem Wc.and_wp {r : Res α} {P Q : α → St → Prop} (h1 : Wp r P) (h2 : Wc r Q) : Wc r (fun a s => P a s ∧ Q a s) := by
  cases r <;> first | exact ⟨h1, h2⟩ | exact h2 | trivial

theorem Wc.bind {m : M α} {g : α → M β} {s : St} {Q : β → St → Prop}
    (h : Wc (m s) (fun a s1 => Wc (g a s1) Q)) : Wc ((m >>= g) s) Q := by
  show Wc (M.bind m g s) Q
  unfold M.bind
  cases hm : m s <;> rw [hm] at h <;> first | exact h | trivial

theorem Wc.call {m : M α} {g : α → M β} {s : St} {R : α → St → Prop} {Q : β → St → Prop}
    (hf : Wc (m s) R) (k : ∀ a s1, R a s1 → Wc (g a s1) Q) : Wc ((m >>= g) s) Q :=
  Wc.bind (hf.mono k)

theorem Wc.ok {a : α} {s : St} {Q : α → St → Prop} (h : Q a s) : Wc (Res.ok a s) Q := h
theorem Wc.pure {a : α} {s : St} {Q : α → St → Prop} (h : Q a s) : Wc ((Pure.pure a : M α) s) Q := h
theorem Wc.bind_pure {a : α} {f : α → M β} {s : St} {Q : β → St → Prop} (h : Wc (f a s) Q) :
    Wc (((Pure.pure a : M α) >>= f) s) Q := h
theorem Wc.tail {m : M α} {s : St} {Q : α → St → Prop} (h : Wc ((m >>= Pure.pure) s) Q) : Wc (m s) Q := by
  rw [bind_pure'] at h; exact h
theorem Wc.bind_assoc {γ : Type} {a : M α} {f : α → M β} {g : β → M γ} {s : St} {Q : γ → St → Prop}
    (h : Wc ((a >>= fun x => f x >>= g) s) Q) : Wc (((a >>= f) >>= g) s) Q := by
  rw [bind_assoc']; exact h
theorem Wc.ite {p : Prop} [Decidable p] {a b : M α} {s : St} {Q : α → St → Prop}
    (ha : p → Wc (a s) Q) (hb : ¬p → Wc (b s) Q) : Wc ((if p then a else b) s) Q := by
  by_cases h : p
  · rw [if_pos h]; exact ha h
  · rw [if_neg h]; exact hb h
theorem Wc.bind_ite {p : Prop} [Decidable p] {a b : M α} {g : α → M β} {s : St} {Q : β → St → Prop}
    (ha : p → Wc ((a >>= g) s) Q) (hb : ¬p → Wc ((b >>= g) s) Q) : Wc (((if p then a else b) >>= g) s) Q := by
  rw [ite_bind]; exact Wc.ite ha hb
theorem Wc.bind_orM {a b : M Bool} {g : Bool → M β} {s : St} {Q : β → St → Prop}
    (h : Wc ((a >>= fun x => if x = true then g true else b >>= g) s) Q) : Wc (((a <or> b) >>= g) s) Q := by
  rw [orM_bind]; exact h
theorem Wc.bind_andM {a b : M Bool} {g : Bool → M β} {s : St} {Q : β → St → Prop}
    (h : Wc ((a >>= fun x => if x = true then b >>= g else g false) s) Q) : Wc (((a <and> b) >>= g) s) Q := by
  rw [andM_bind]; exact h
theorem Wc.bind_getSt {g : St → M β} {s : St} {Q : β → St → Prop} (h : Wc (g s s) Q) : Wc ((getSt >>= g) s) Q := h
theorem Wc.bind_modSt {f : St → St} {g : Unit → M β} {s : St} {Q : β → St → Prop} (h : Wc (g () (f s)) Q) :
    Wc ((modSt f >>= g) s) Q := h
theorem Wc.bind_setInt {v : Int} {g : Unit → M β} {s : St} {Q : β → St → Prop}
    (h : Wc (g () (s.withInt v)) Q) : Wc ((setInt v >>= g) s) Q := h
theorem Wc.bind_setStr {v : List Nat} {g : Unit → M β} {s : St} {Q : β → St → Prop}
    (h : Wc (g () (s.withStr v)) Q) : Wc ((setStr v >>= g) s) Q := h
/-- an `Err` must be shown unreachable -/
theorem Wc.bind_fail {msg : String} {g : α → M β} {s : St} {Q : β → St → Prop} (h : False) :
    Wc (((fail msg : M α) >>= g) s) Q := h.elim
theorem Wc.bind_outOfFuel {g : α → M β} {s : St} {Q : β → St → Prop} :
    Wc (((DL.Rx.outOfFuel : M α) >>= g) s) Q := trivial
theorem Wc.outOfFuel {s : St} {Q : α → St → Prop} : Wc ((DL.Rx.outOfFuel : M α) s) Q := trivial
theorem Wc.bind_rustPanic {why : String} {g : α → M β} {s : St} {Q : β → St → Prop} :
    Wc (((rustPanic why : M α) >>= g) s) Q := trivial
theorem Wc.bind_unwrap {o : Option α} {why : String} {g : α → M β} {s : St} {Q : β → St → Prop}
    (h : ∀ a, o = some a → Wc (g a s) Q) : Wc ((unwrap o why >>= g) s) Q := by
  cases o with
  | none => trivial
  | some a => exact h a rfl
theorem Wc.bind_index {g : Nat → M β} {s : St} {Q : β → St → Prop} (h : Wc (g s.reader.index s) Q) :
    Wc ((index >>= g) s) Q := h

theorem Wc.bind_cpo0 {r : List Nat} {g : Option Nat → M β} {s : St} {Q : β → St → Prop} (h : UAt src N r s)
    (hnil : r = [] → Wc (g none s) Q) (hcons : ∀ x r', r = x :: r' → Wc (g (some x) s) Q) :
    Wc ((codePointWithOffset 0 >>= g) s) Q :=
  UAt.like.bind_cpo0 h hnil hcons

theorem Wc.bind_cpo {r : List Nat} {k : Nat} {g : Option Nat → M β} {s : St} {Q : β → St → Prop} (h : UAt src N r s)
    (hk : k < 4) (hg : Wc (g r[k]? s) Q) : Wc ((codePointWithOffset k >>= g) s) Q :=
  UAt.like.bind_cpo h hk hg

theorem Wc.bind_advance_cons {x : Nat} {r : List Nat} {g : Unit → M β} {s : St} {Q : β → St → Prop}
    (h : UAt src N (x :: r) s)
    (hg : UAt src N r (s.setPos src (s.reader.index + 1)) → Wc (g () (s.setPos src (s.reader.index + 1))) Q) :
    Wc ((advance >>= g) s) Q :=
  UAt.like.bind_advance_cons h hg

theorem Wc.bind_advance_nil {g : Unit → M β} {s : St} {Q : β → St → Prop}
    (h : UAt src N [] s) (hg : Wc (g () s) Q) : Wc ((advance >>= g) s) Q :=
  UAt.like.bind_advance_nil h hg

theorem Wc.bind_rewind {r r0 : List Nat} {g : Unit → M β} {s s0 : St} {Q : β → St → Prop}
    (h : UAt src N r s) (h0 : UAt src N r0 s0)
    (hg : UAt src N r0 (s.setPos src s0.reader.index) → Wc (g () (s.setPos src s0.reader.index)) Q) :
    Wc ((rewind s0.reader.index >>= g) s) Q :=
  UAt.like.bind_rewind h h0 hg

theorem Wc.bind_rewind' {r : List Nat} {i : Nat} {g : Unit → M β} {s : St} {Q : β → St → Prop}
    (h : UAt src N r s) (hle : i ≤ src.length)
    (hg : UAt src N (src.drop i) (s.setPos src i) → Wc (g () (s.setPos src i)) Q) : Wc ((rewind i >>= g) s) Q :=
  UAt.like.bind_rewind' h hle hg

theorem Wc.bind_eat {r : List Nat} {x : Char} {g : Bool → M β} {s : St} {Q : β → St → Prop} (h : UAt src N r s)
    (ht : ∀ r', r = ch x :: r' → UAt src N r' (s.setPos src (s.reader.index + 1)) →
      Wc (g true (s.setPos src (s.reader.index + 1))) Q)
    (hf : r.head? ≠ some (ch x) → Wc (g false s) Q) : Wc ((eat x >>= g) s) Q :=
  UAt.like.bind_eat h ht hf

theorem Wc.bind_eat_ne {r : List Nat} {x : Char} {g : Bool → M β} {s : St} {Q : β → St → Prop} (h : UAt src N r s)
    (hne : r.head? ≠ some (ch x)) (hf : Wc (g false s) Q) : Wc ((eat x >>= g) s) Q :=
  UAt.like.bind_eat_ne h hne hf

/-- `eat` as an alternative of an ordered choice -/
theorem Wc.eat_hit {r : List Nat} {x : Char} {s : St} (h : UAt src N (ch x :: r) s) :
    Wc (eat x s) (fun b s1 => b = true ∧ s1 = s.setPos src (s.reader.index + 1)) := by
  rw [h.rat.eat_cons]; exact ⟨rfl, rfl⟩

theorem Wc.eat_miss {r : List Nat} {x : Char} {s : St} (h : UAt src N r s) (hne : r.head? ≠ some (ch x)) :
    Wc (eat x s) (fun b s1 => b = false ∧ s1 = s) := by
  rw [h.rat.eat_ne hne]; exact ⟨rfl, rfl⟩

theorem Wc.bind_eat2 {r : List Nat} {x y : Char} {g : Bool → M β} {s : St} {Q : β → St → Prop} (h : UAt src N r s)
    (ht : ∀ r', r = ch x :: ch y :: r' → UAt src N r' (s.setPos src (s.reader.index + 2)) →
      Wc (g true (s.setPos src (s.reader.index + 2))) Q)
    (hf : (¬∃ r', r = ch x :: ch y :: r') → Wc (g false s) Q) : Wc ((eat2 x y >>= g) s) Q :=
  UAt.like.bind_eat2 h ht hf

theorem Wc.bind_eat3 {r : List Nat} {x y z : Char} {g : Bool → M β} {s : St} {Q : β → St → Prop} (h : UAt src N r s)
    (ht : ∀ r', r = ch x :: ch y :: ch z :: r' → UAt src N r' (s.setPos src (s.reader.index + 3)) →
      Wc (g true (s.setPos src (s.reader.index + 3))) Q)
    (hf : (¬∃ r', r = ch x :: ch y :: ch z :: r') → Wc (g false s) Q) : Wc ((eat3 x y z >>= g) s) Q :=
  UAt.like.bind_eat3 h ht hf

theorem Wc.bind_eat2_ne {r : List Nat} {x y : Char} {g : Bool → M β} {s : St} {Q : β → St → Prop} (h : UAt src N r s)
    (hne : ¬∃ r', r = ch x :: ch y :: r') (hf : Wc (g false s) Q) : Wc ((eat2 x y >>= g) s) Q :=
  UAt.like.bind_eat2_ne h hne hf

theorem Wc.bind_eat3_ne {r : List Nat} {x y z : Char} {g : Bool → M β} {s : St} {Q : β → St → Prop} (h : UAt src N r s)
    (hne : ¬∃ r', r = ch x :: ch y :: ch z :: r') (hf : Wc (g false s) Q) : Wc ((eat3 x y z >>= g) s) Q :=
  UAt.like.bind_eat3_ne h hne hf

theorem no_eat2_nil {x y : Nat} : ¬∃ r', ([] : List Nat) = x :: y :: r' := fun ⟨_, h⟩ => by cases h
theorem no_eat2_one {a x y : Nat} : ¬∃ r', [a] = x :: y :: r' := fun ⟨_, h⟩ => by cases h
theorem no_eat2_ne1 {a x y : Nat} {m : List Nat} (h : a ≠ x) : ¬∃ r', a :: m = x :: y :: r' :=
  fun ⟨_, e⟩ => h (List.cons.inj e).1
theorem no_eat2_ne2 {a b x y : Nat} {m : List Nat} (h : b ≠ y) : ¬∃ r', a :: b :: m = x :: y :: r' :=
  fun ⟨_, e⟩ => h (List.cons.inj (List.cons.inj e).2).1
theorem no_eat2_head {r : List Nat} {x y : Nat} (h : r.head? ≠ some x) : ¬∃ r', r = x :: y :: r' :=
  fun ⟨_, e⟩ => h (by rw [e]; rfl)
theorem no_eat3_head {r : List Nat} {x y z : Nat} (h : r.head? ≠ some x) : ¬∃ r', r = x :: y :: z :: r' :=
  fun ⟨_, e⟩ => h (by rw [e]; rfl)
theorem no_eat3_ne1 {a x y z : Nat} {m : List Nat} (h : a ≠ x) : ¬∃ r', a :: m = x :: y :: z :: r' :=
  fun ⟨_, e⟩ => h (List.cons.inj e).1
theorem no_eat3_ne2 {a b x y z : Nat} {m : List Nat} (h : b ≠ y) : ¬∃ r', a :: b :: m = x :: y :: z :: r' :=
  fun ⟨_, e⟩ => h (List.cons.inj (List.cons.inj e).2).1
theorem no_eat3_ne3 {a b d x y z : Nat} {m : List Nat} (h : d ≠ z) : ¬∃ r', a :: b :: d :: m = x :: y :: z :: r' :=
  fun ⟨_, e⟩ => h (List.cons.inj (List.cons.inj (List.cons.inj e).2).2).1
theorem no_eat3_of_eat2 {r : List Nat} {x y z : Nat} (h : ¬∃ r', r = x :: y :: r') : ¬∃ r', r = x :: y :: z :: r' :=
  fun ⟨_, e⟩ => h ⟨_, e⟩

theorem Wc.bind_checkedI64 {v : Int} {site : String} {g : Int → M β} {s : St} {Q : β → St → Prop}
    (h : i64Min ≤ v ∧ v ≤ i64Max) (hg : Wc (g v s) Q) : Wc ((checkedI64 v site >>= g) s) Q := by
  rw [checkedI64_inrange h]; exact hg

/-! ### ordered choice `a <or> b`, one alternative at a time -/

/-- an alternative that fails passes the choice on, from the state it leaves -/
theorem Wc.orM_next {a b : M Bool} {s : St} {R : St → Prop} {Q : Bool → St → Prop}
    (ha : Wc (a s) (fun x s1 => x = false ∧ R s1)) (hb : ∀ s1, R s1 → Wc (b s1) Q) : Wc ((a <or> b) s) Q := by
  refine Wc.bind (ha.mono ?_)
  rintro _ s1 ⟨rfl, hr⟩
  exact hb s1 hr

theorem Wc.orM_skip {a b : M Bool} {s : St} {Q : Bool → St → Prop}
    (ha : Wc (a s) (fun x s1 => x = false ∧ s1 = s)) (hb : Wc (b s) Q) : Wc ((a <or> b) s) Q :=
  .orM_next ha fun _ e => e ▸ hb

/-- an alternative that succeeds ends the choice -/
theorem Wc.orM_hit {a b : M Bool} {s : St} {P : St → Prop} (ha : Wc (a s) (fun x s1 => x = true ∧ P s1)) :
    Wc ((a <or> b) s) (fun x s1 => x = true ∧ P s1) := by
  refine Wc.bind (ha.mono ?_)
  rintro _ _ ⟨rfl, hp⟩
  exact ⟨rfl, hp⟩

end DL.Rx
