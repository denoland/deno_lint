import DL.Lemmas.RxFuLeaves

/-! # Fuel adequacy: names, escapes, classes, quantifiers, atoms; the recursive productions; `consume_pattern`, `afterReset` -/
namespace DL.Rx
attribute [local irreducible] isScalar
variable {E : Nat}

theorem F.identPartCp (i : Nat) {ne : Bool} (n : Nat) (f : Bool) (cp0 cp1 : Option Nat) (hn : E - i + 1 ≤ n) :
    Stay E i ne (identPartCp n f cp0 cp1) := by
  unfold DL.Rx.identPartCp; stay_auto

/-- `true` only after a first character, which `advance` has consumed -/
theorem F.eatRegexpIdentifierPart (i : Nat) {ne : Bool} (n : Nat) (hn : E - i + 1 ≤ n) :
    Adv E i ne (eatRegexpIdentifierPart n) := by
  rw [eatRegexpIdentifierPart_eq]
  refine Fu.bind_index fun start h1 h2 => Fu.bind_getSt fun s => Fu.bind_cpo fun cp0 => ?_
  cases cp0 with
  | none =>
    simp only [identPartCp_none]
    exact Fu.bind (F.advance i) fun _ => Fu.bind_cpo fun _ => F.giveUp' h1 h2 (Nat.le_refl _)
  | some c =>
    refine Fu.bind_advance (Bool.or_true _) <| Fu.le fun _ => Fu.bind_cpo fun cp1 => ?_
    refine Fu.bind (F.identPartCp (i + 1) n _ _ cp1 (by omega)) fun cp => Fu.bind (R := fun _ => i + 1) ?_ fun hit => ?_
    · stay_auto
    · exact Fu.ite (fun _ => Fu.pure (Nat.le_refl _)) (fun _ => F.giveUp' h1 h2 (Nat.le_succ i))

theorem F.eatRegexpIdentifierNameLoop : ∀ (n i : Nat) (ne : Bool), E - i + 2 ≤ n → Fu E i ne (eatRegexpIdentifierNameLoop n) (fun _ => i)
  | 0, i, _, hn => by exfalso; omega
  | n + 1, i, ne, hn => by
    have ih := F.eatRegexpIdentifierNameLoop n
    unfold DL.Rx.eatRegexpIdentifierNameLoop
    refine Fu.bind_adv (F.eatRegexpIdentifierPart i n (by omega)) (fun _ => Fu.back ?_) (Fu.pure (Nat.le_refl _))
    stay_auto

theorem F.eatRegexpIdentifierName (i : Nat) {ne : Bool} (n : Nat) (hn : E - i + 2 ≤ n) : Stay E i ne (eatRegexpIdentifierName n) := by
  unfold DL.Rx.eatRegexpIdentifierName; stay_auto

theorem F.eatGroupName (i : Nat) {ne : Bool} (n : Nat) (hn : E - i + 2 ≤ n) : Stay E i ne (eatGroupName n) := by
  unfold DL.Rx.eatGroupName; stay_auto

theorem F.consumeKGroupName (i : Nat) {ne : Bool} (n : Nat) (hn : E - i + 2 ≤ n) : Stay E i ne (consumeKGroupName n) := by
  unfold DL.Rx.consumeKGroupName; stay_auto

theorem F.consumeCharacterEscape (i : Nat) {ne : Bool} (n : Nat) (hn : E - i + 1 ≤ n) : Stay E i ne (consumeCharacterEscape n) := by
  unfold DL.Rx.consumeCharacterEscape; stay_auto

theorem F.consumeCharacterClassEscape (i : Nat) {ne : Bool} (n : Nat) (hn : E - i + 1 ≤ n) : Stay E i ne (consumeCharacterClassEscape n) := by
  unfold DL.Rx.consumeCharacterClassEscape; stay_auto

theorem F.consumeBackreference (i : Nat) {ne : Bool} (n : Nat) (hn : E - i + 1 ≤ n) : Stay E i ne (consumeBackreference n) := by
  unfold DL.Rx.consumeBackreference; stay_auto

theorem F.consumeAtomEscape (i : Nat) {ne : Bool} (n : Nat) (hn : E - i + 2 ≤ n) : Stay E i ne (consumeAtomEscape n) := by
  unfold DL.Rx.consumeAtomEscape; stay_auto

theorem F.consumeClassEscape (i : Nat) {ne : Bool} (n : Nat) (hn : E - i + 1 ≤ n) : Stay E i ne (consumeClassEscape n) := by
  unfold DL.Rx.consumeClassEscape; stay_auto

theorem F.consumeClassAtom (i : Nat) {ne : Bool} (n : Nat) (hn : E - i + 1 ≤ n) : Adv E i ne (consumeClassAtom n) := by
  unfold DL.Rx.consumeClassAtom
  refine Fu.bind_index fun start h1 h2 => Fu.bind_adv ?hit (fun _ => Fu.pure (Nat.le_refl _)) ?_
  case hit => stay_auto
  refine Fu.bind_adv (F.eat i '\\') (fun _ => ?_) (Fu.pure (Nat.le_refl _))
  refine Fu.bind (F.consumeClassEscape (i + 1) n (by omega)) fun _ => Fu.ite (fun _ => Fu.pure (Nat.le_refl _)) fun _ => ?_
  refine Fu.bind_getSt fun _ => Fu.bind_cpo fun _ => Fu.ite (fun _ => Fu.bind_setInt (Fu.pure (Nat.le_refl _))) fun _ => ?_
  exact Fu.bind_getSt fun _ => Fu.ite (fun _ => Fu.fail) (fun _ => F.giveUp h1 h2)

theorem F.consumeClassRanges : ∀ (n i : Nat) (ne : Bool), E - i + 2 ≤ n → Fu E i ne (consumeClassRanges n) (fun _ => i)
  | 0, i, _, hn => by exfalso; omega
  | n + 1, i, ne, hn => by
    have ih := F.consumeClassRanges n
    unfold DL.Rx.consumeClassRanges
    refine Fu.bind_adv (F.consumeClassAtom i n (by omega)) (fun _ => Fu.back ?_) (Fu.pure (Nat.le_refl _))
    stay_auto

theorem F.consumeCharacterClass (i : Nat) {ne : Bool} (n : Nat) (hn : E - i + 2 ≤ n) : Adv E i ne (consumeCharacterClass n) := by
  unfold DL.Rx.consumeCharacterClass
  refine Fu.bind_adv (F.eat i '[') (fun _ => Fu.adv ?_) (Fu.pure (Nat.le_refl _))
  stay_auto

theorem F.bracedBounds (i : Nat) {ne : Bool} (n : Nat) (b : Bool) (hn : E - i + 1 ≤ n) :
    Stay E i ne (bracedBounds n b) := by
  unfold DL.Rx.bracedBounds; stay_auto

theorem F.eatBracedQuantifier (i : Nat) {ne : Bool} (n : Nat) (b : Bool) (hn : E - i + 1 ≤ n) :
    Stay E i ne (eatBracedQuantifier n b) := by
  rw [eatBracedQuantifier_eq]; stay_auto

theorem F.consumeQuantifier (i : Nat) {ne : Bool} (n : Nat) (b : Bool) (hn : E - i + 1 ≤ n) : Stay E i ne (consumeQuantifier n b) := by
  unfold DL.Rx.consumeQuantifier; stay_auto

theorem F.consumeOptionalQuantifier (i : Nat) {ne : Bool} (n : Nat) (hn : E - i + 1 ≤ n) : Stay E i ne (consumeOptionalQuantifier n) := by
  unfold DL.Rx.consumeOptionalQuantifier; stay_auto

theorem F.consumeReverseSolidusAtomEscape (i : Nat) {ne : Bool} (n : Nat) (hn : E - i + 2 ≤ n) : Adv E i ne (consumeReverseSolidusAtomEscape n) := by
  unfold DL.Rx.consumeReverseSolidusAtomEscape
  refine Fu.bind_index fun start h1 h2 => Fu.bind_adv (F.eat i '\\') (fun _ => ?_) (Fu.pure (Nat.le_refl _))
  exact Fu.bind (F.consumeAtomEscape (i + 1) n (by omega)) fun _ =>
    Fu.ite (fun _ => Fu.pure (Nat.le_refl _)) (fun _ => F.giveUp h1 h2)

theorem F.consumeReverseSolidusFollowedByC (i : Nat) {ne : Bool} :
    Adv E i ne consumeReverseSolidusFollowedByC := by
  unfold DL.Rx.consumeReverseSolidusFollowedByC
  refine Fu.bind_cpo fun o0 => Fu.bind_cpo fun o1 => Fu.ite (fun h => ?_) (fun _ => Fu.pure (Nat.le_refl _))
  cases o0 with
  | none => exact absurd h Bool.false_ne_true
  | some c => exact Fu.bind_setInt (Fu.bind_advance (by simp) (Fu.pure (Nat.le_refl _)))

theorem F.consumeInvalidBracedQuantifier (i : Nat) {ne : Bool} (n : Nat) (hn : E - i + 1 ≤ n) : Adv E i ne (consumeInvalidBracedQuantifier n) := by
  unfold DL.Rx.consumeInvalidBracedQuantifier
  exact Fu.bind (F.eatBracedQuantifier i n true hn) fun _ => Fu.ite (fun _ => Fu.fail) (fun _ => Fu.pure (Nat.le_refl _))

theorem F.consumePatternCharacter (i : Nat) {ne : Bool} : Adv E i ne consumePatternCharacter := by
  unfold DL.Rx.consumePatternCharacter; stay_auto

theorem F.consumeExtendedPatternCharacter (i : Nat) {ne : Bool} : Adv E i ne consumeExtendedPatternCharacter := by
  unfold DL.Rx.consumeExtendedPatternCharacter; stay_auto

theorem F.consumeGroupSpecifier (i : Nat) {ne : Bool} (n : Nat) (hn : E - i + 2 ≤ n) : Stay E i ne (consumeGroupSpecifier n) := by
  unfold DL.Rx.consumeGroupSpecifier; stay_auto

/-! The recursive productions.

With `r = E - i` code units left, `consume_disjunction` needs fuel `5 r + 15`: one level each for
disjunction → alternative → term → atom → group, and the group consumes at least its `(`; the iteration of
`consume_alternative` / the `|` loop costs one level per term / per `|`, each of which consumes at least one unit.
The constants below: one less per level (15, 14, 13, 12, 11), and a group at `5 r + 11` calls the disjunction with `r - 1`
units left, which needs `5 (r - 1) + 15 = 5 r + 10`. -/

structure AllFu (E n : Nat) : Prop where
  disjunction : ∀ (i : Nat) (ne : Bool), 5 * (E - i) + 15 ≤ n → Fu E i ne (consumeDisjunction n) (fun _ => i)
  disjunctionLoop : ∀ (i : Nat) (ne : Bool), 5 * (E - i) + 14 ≤ n → Fu E i ne (consumeDisjunctionLoop n) (fun _ => i)
  alternative : ∀ (i : Nat) (ne : Bool), 5 * (E - i) + 14 ≤ n → Fu E i ne (consumeAlternative n) (fun _ => i)
  term : ∀ (i : Nat) (ne : Bool), 5 * (E - i) + 13 ≤ n → Fu E i ne (consumeTerm n) (fun b => i + b.toNat)
  assertion : ∀ (i : Nat) (ne : Bool), 5 * (E - i) + 11 ≤ n → Fu E i ne (consumeAssertion n) (fun b => i + b.toNat)
  atom : ∀ (i : Nat) (ne : Bool), 5 * (E - i) + 12 ≤ n → Fu E i ne (consumeAtom n) (fun b => i + b.toNat)
  extendedAtom : ∀ (i : Nat) (ne : Bool), 5 * (E - i) + 12 ≤ n → Fu E i ne (consumeExtendedAtom n) (fun b => i + b.toNat)
  uncapturingGroup : ∀ (i : Nat) (ne : Bool), 5 * (E - i) + 11 ≤ n →
    Fu E i ne (consumeUncapturingGroup n) (fun b => i + b.toNat)
  capturingGroup : ∀ (i : Nat) (ne : Bool), 5 * (E - i) + 11 ≤ n →
    Fu E i ne (consumeCapturingGroup n) (fun b => i + b.toNat)

/-- what a group and a lookaround hold behind their opening bracket: the disjunction, `)`, and what `k` goes on with -/
theorem AllFu.closed {n : Nat} (ih : AllFu E n) {j : Nat} (hn : 5 * (E - j) + 15 ≤ n) {k : M Bool} (hk : Stay E j false k) :
    Stay E j false (do consumeDisjunction n; if !(← eat ')') then fail "Unterminated group" else k) :=
  Stay.bind (ih.disjunction j _ hn) fun _ => Stay.bind (F.eat j ')').stay fun _ => Stay.ite Fu.fail hk

theorem F.lookaround {n : Nat} (ih : AllFu E n) {i start : Nat} (h1 : i ≤ start) (h2 : start ≤ E)
    (hn : 5 * (E - i) + 11 ≤ n + 1) : Fu E (i + 1) false (lookaround n start) (fun b => i + b.toNat) := by
  unfold DL.Rx.lookaround DL.Rx.lookaroundBody
  refine Fu.le fun _ => ?_
  refine Fu.bind (R := fun _ => i + 1) (Stay.andM (Fu.pure (Nat.le_refl _)) (F.eat _ '<').stay) fun _ => ?_
  refine Fu.bind (R := fun _ => i + 1) (Stay.orM (F.eat _ '=').stay (F.eat _ '!').stay) fun flag => ?_
  refine Fu.ite (fun _ => (ih.closed (by omega) ?_).adv) (fun _ => ?_)
  · exact Fu.bind_modSt (fun _ => rfl) (Fu.pure (Nat.le_refl _))
  · exact Fu.bind (F.rewind _ start h2) fun _ => Fu.pure h1

theorem AllFu.succ {n : Nat} (ih : AllFu E n) : AllFu E (n + 1) where
  disjunction i ne hn := by
    have h2 := ih.disjunctionLoop
    have h3 := ih.alternative
    unfold consumeDisjunction; stay_auto
  disjunctionLoop i ne hn := by
    unfold consumeDisjunctionLoop
    refine Fu.bind_adv (F.eat i '|') (fun _ => Fu.back ?_) (Fu.pure (Nat.le_refl _))
    exact Stay.bind (ih.alternative (i + 1) _ (by omega)) fun _ => ih.disjunctionLoop (i + 1) _ (by omega)
  alternative i ne hn := by
    unfold consumeAlternative
    refine Fu.bind_adv (Adv.andM_test ?_ (ih.term i _ (by omega))) (fun _ => Fu.back ?_) (Fu.pure (Nat.le_refl _))
    · exact Fu.bind_cpo fun _ => Fu.pure (Nat.le_refl _)
    · exact ih.alternative (i + 1) _ (by omega)
  term i ne hn := by
    have h11 : 5 * (E - i) + 11 ≤ n := by omega
    have h12 : 5 * (E - i) + 12 ≤ n := by omega
    have hq : Stay E (i + 1) false (consumeOptionalQuantifier n) := F.consumeOptionalQuantifier (i + 1) n (by omega)
    unfold consumeTerm
    refine Fu.bind_getSt fun s => Fu.ite (fun _ => ?_) (fun _ => ?_)
    · exact Adv.orM (ih.assertion i _ h11) (Adv.andM (ih.atom i _ h12) hq)
    · exact Adv.orM (Adv.andM (ih.assertion i _ h11) (Stay.orM (Fu.bind_getSt fun _ => Fu.pure (Nat.le_refl _)) hq))
        (Adv.andM (ih.extendedAtom i _ h12) hq)
  assertion i ne hn := by
    rw [consumeAssertion_succ_eq]
    refine Fu.bind_index fun start h1 h2 => Fu.bind_modSt (fun _ => rfl) ?_
    refine Fu.bind_adv (Adv.orM (F.eat i '^') <| Adv.orM (F.eat i '$') <| Adv.orM (F.eat2 i '\\' 'B') (F.eat2 i '\\' 'b'))
      (fun _ => Fu.pure (Nat.le_refl _)) ?_
    exact Fu.bind_adv (F.eat2 i '(' '?') (fun _ => F.lookaround ih h1 h2 hn) (Fu.pure (Nat.le_refl _))
  atom i ne hn := by
    have h2 : E - i + 2 ≤ n := by omega
    have h11 : 5 * (E - i) + 11 ≤ n := by omega
    unfold consumeAtom
    exact Adv.orM (F.consumePatternCharacter i) <| Adv.orM (F.eat i '.') <|
      Adv.orM (F.consumeReverseSolidusAtomEscape i n h2) <| Adv.orM (F.consumeCharacterClass i n h2) <|
      Adv.orM (ih.uncapturingGroup i _ h11) (ih.capturingGroup i _ h11)
  extendedAtom i ne hn := by
    have h2 : E - i + 2 ≤ n := by omega
    have h11 : 5 * (E - i) + 11 ≤ n := by omega
    unfold consumeExtendedAtom
    exact Adv.orM (F.eat i '.') <| Adv.orM (F.consumeReverseSolidusAtomEscape i n h2) <|
      Adv.orM (F.consumeReverseSolidusFollowedByC i) <| Adv.orM (F.consumeCharacterClass i n h2) <|
      Adv.orM (ih.uncapturingGroup i _ h11) <| Adv.orM (ih.capturingGroup i _ h11) <|
      Adv.orM (F.consumeInvalidBracedQuantifier i n (by omega)) (F.consumeExtendedPatternCharacter i)
  uncapturingGroup i ne hn := by
    unfold consumeUncapturingGroup
    exact Fu.bind_adv (F.eat3 i '(' '?' ':') (fun _ => (ih.closed (by omega) (Fu.pure (Nat.le_refl _))).adv)
      (Fu.pure (Nat.le_refl _))
  capturingGroup i ne hn := by
    unfold consumeCapturingGroup
    refine Fu.bind_adv (F.eat i '(') (fun _ => Fu.adv ?_) (Fu.pure (Nat.le_refl _))
    exact Stay.bind (F.consumeGroupSpecifier (i + 1) n (by omega)) fun _ => ih.closed (by omega) (Fu.pure (Nat.le_refl _))

theorem allFu : ∀ n, AllFu E n
  | 0 => by
    constructor <;> (intro i ne hn; exfalso; omega)
  | n + 1 => (allFu n).succ

theorem F.consumeDisjunction (i : Nat) {ne : Bool} (n : Nat) (hn : 5 * (E - i) + 15 ≤ n) :
    Stay E i ne (consumeDisjunction n) := (allFu n).disjunction i ne hn

theorem F.countCapturingParensLoop : ∀ (n : Nat) (inClass escaped : Bool) (count i : Nat) (ne : Bool),
    E - i + 1 ≤ n → Fu E i ne (countCapturingParensLoop n inClass escaped count) (fun _ => i)
  | 0, _, _, _, i, _, hn => by exfalso; omega
  | n + 1, inClass, escaped, count, i, ne, hn => by
    have ih := F.countCapturingParensLoop n
    unfold DL.Rx.countCapturingParensLoop; stay_auto

theorem F.countCapturingParens (i : Nat) {ne : Bool} (n : Nat) (hn : E - i + 1 ≤ n) : Stay E i ne (countCapturingParens n) := by
  unfold DL.Rx.countCapturingParens; stay_auto

theorem F.consumePattern (i : Nat) {ne : Bool} (n : Nat) (hn : 5 * (E - i) + 15 ≤ n) :
    Stay E i ne (consumePattern n) := by
  unfold DL.Rx.consumePattern; stay_auto

/-- `validate_pattern` after the reader has been re-filled -/
def afterReset (fuel : Nat) : M Unit := do
  consumePattern fuel
  let s ← getSt
  if !s.nFlag && true && !s.groupNames.isEmpty then
    modSt fun s => { s with nFlag := true }
    rewind 0
    consumePattern fuel

theorem F.afterReset {ne : Bool} (n : Nat) (hn : 5 * E + 15 ≤ n) : Fu E 0 ne (afterReset n) (fun _ => 0) := by
  unfold DL.Rx.afterReset; stay_auto

end DL.Rx
