import DL.Lemmas.RxBAtomEsc
import DL.Lemmas.RxCompUni
import DL.Lemmas.RxBlocks
import DL.Lemmas.RxAtQuant

/-! # Annex B (no `u` flag): quantifiers -/
namespace DL.Rx
open DL.RxSpec DL.Gen.Unicode
attribute [local irreducible] isScalar
variable {src : List Nat} {K : Bool × Nat}

/-- an `InvalidBracedQuantifier` is the text of a braced `QuantifierPrefix`, whatever its bounds -/
theorem ibq_iff {m r : List Nat} : RxSpecB.InvalidBracedQuantifier (ch '{' :: m) r ↔ BracedForm (fun _ _ => True) m r := by
  rw [← braced_iff]
  constructor
  · rintro ⟨m0, e, hcases⟩
    cases e
    rcases hcases with ⟨ds, hr⟩ | ⟨ds, hr⟩ | ⟨ds₁, ds₂, m₂, hr1, hr2⟩
    · exact .exact _ _ ds hr
    · exact .atLeast _ _ ds hr
    · exact .range _ _ _ ds₁ ds₂ hr1 hr2 trivial
  · intro h
    generalize hi : c '{' :: m = i at h
    cases h with
    | star | plus | opt => cases hi
    | exact m' _ ds hr => cases hi; exact ⟨_, rfl, .inl ⟨ds, hr⟩⟩
    | atLeast m' _ ds hr => cases hi; exact ⟨_, rfl, .inr (.inl ⟨ds, hr⟩)⟩
    | range m₁ m₂ _ ds₁ ds₂ hr1 hr2 _ => cases hi; exact ⟨_, rfl, .inr (.inr ⟨ds₁, ds₂, m₂, hr1, hr2⟩)⟩

theorem no_ibq_head {r : List Nat} (h : r.head? ≠ some (ch '{')) : ¬∃ r', RxSpecB.InvalidBracedQuantifier r r' := by
  rintro ⟨r', m, e, _⟩
  exact h (by rw [e]; rfl)

/-- after `{`: the three braced forms; a failing answer leaves the reader anywhere (the caller rewinds), and then
no `InvalidBracedQuantifier` starts at the `{` -/
theorem bracedBounds_wb (n : Nat) (noError : Bool) (m : List Nat) (s : St) (h : BAt src K m s) :
    Wp (bracedBounds n noError s) (fun b s1 => KeepN s s1 ∧
      if b = true then ∃ r1, BAt src K r1 s1 ∧ (noError = false → QuantifierPrefix qokSat (ch '{' :: m) r1)
      else (∃ r', BAt src K r' s1) ∧ ¬∃ r', RxSpecB.InvalidBracedQuantifier (ch '{' :: m) r') := by
  refine (bracedBounds_at BAt.like n noError m s h).wp.mono fun b s1 ⟨k, hb⟩ => ⟨k, ?_⟩
  cases b
  · obtain ⟨h1, hno⟩ := (if_neg Bool.false_ne_true).mp hb
    exact (if_neg Bool.false_ne_true).mpr ⟨h1, fun ⟨r', hi⟩ => hno ⟨r', ibq_iff.mp hi⟩⟩
  · obtain ⟨r1, h1, hf⟩ := (if_pos rfl).mp hb
    exact (if_pos rfl).mpr ⟨r1, h1, fun hno => braced_iff.mpr (hf.mono fun _ _ hq => hq hno)⟩

theorem eatBracedQuantifier_wb (n : Nat) (noError : Bool) (r : List Nat) (s : St) (h : BAt src K r s) :
    Wp (eatBracedQuantifier n noError s) (fun b s1 => KeepN s s1 ∧
      if b = true then ∃ r1, BAt src K r1 s1 ∧ (noError = false → QuantifierPrefix qokSat r r1)
      else BAt src K r s1 ∧ ¬∃ r', RxSpecB.InvalidBracedQuantifier r r') := by
  rw [eatBracedQuantifier_eq]
  rx6_autos
  · rename_i hno _ _ _
    exact ⟨by rx6_keep, by rw [if_neg (by decide)]; exact ⟨by rx6_at, hno⟩⟩
  · rename_i r1 _ hq
    exact ⟨by rx6_keep, by rw [if_pos rfl]; exact ⟨r1, by rx6_at, hq⟩⟩
  · rename_i hne
    exact ⟨by rx6_keep, by rw [if_neg (by decide)]; exact ⟨by rx6_at, no_ibq_head hne⟩⟩

theorem consumeQuantifier_wb (n : Nat) (noConsume : Bool) (r : List Nat) (s : St) (h : BAt src K r s) :
    Wp (consumeQuantifier n noConsume s) (fun b s1 => KeepN s s1 ∧
      if b = true then ∃ r1, BAt src K r1 s1 ∧ (noConsume = false → Quantifier qokSat r r1)
      else BAt src K r s1) := by
  unfold consumeQuantifier
  rx6_auto
  all_goals (try rx6_false)
  · rx6_true; exact ⟨_, by rx6_at, fun _ => Quantifier.lazy _ _ (QuantifierPrefix.star _)⟩
  · rx6_true; exact ⟨_, by rx6_at, fun _ => Quantifier.greedy _ _ (QuantifierPrefix.star _)⟩
  · rx6_true; exact ⟨_, by rx6_at, fun _ => Quantifier.lazy _ _ (QuantifierPrefix.plus _)⟩
  · rx6_true; exact ⟨_, by rx6_at, fun _ => Quantifier.greedy _ _ (QuantifierPrefix.plus _)⟩
  · rx6_true; exact ⟨_, by rx6_at, fun _ => Quantifier.lazy _ _ (QuantifierPrefix.opt _)⟩
  · rx6_true; exact ⟨_, by rx6_at, fun _ => Quantifier.greedy _ _ (QuantifierPrefix.opt _)⟩
  · rename_i _ _ _ s1 hk r1 hat1 hat2 hq
    rx6_true; exact ⟨_, by rx6_at, fun hno => Quantifier.lazy _ _ (hq hno)⟩
  · rename_i _ _ _ s1 hk r1 hat1 hq _
    rx6_true; exact ⟨_, by rx6_at, fun hno => Quantifier.greedy _ _ (hq hno)⟩

theorem consumeOptionalQuantifier_wb (n : Nat) (r : List Nat) (s : St) (h : BAt src K r s) :
    Wp (consumeOptionalQuantifier n s) (fun b s1 => b = true ∧ KeepN s s1 ∧
      ∃ r1, BAt src K r1 s1 ∧ (r1 = r ∨ Quantifier qokSat r r1)) := by
  unfold consumeOptionalQuantifier
  rx6_auto
  rename_i b s1 hk hb
  refine ⟨rfl, hk, ?_⟩
  cases b
  · rw [if_neg (by decide)] at hb
    exact ⟨r, hb, .inl rfl⟩
  · rw [if_pos rfl] at hb
    obtain ⟨r1, hat, hq⟩ := hb
    exact ⟨r1, hat, .inr (hq rfl)⟩

theorem consumeInvalidBracedQuantifier_wb (n : Nat) (r : List Nat) (s : St) (h : BAt src K r s) :
    Wp (consumeInvalidBracedQuantifier n s) (fun b s1 => b = false ∧ BAt src K r s1 ∧ KeepN s s1 ∧
      ¬∃ r', RxSpecB.InvalidBracedQuantifier r r') := by
  unfold consumeInvalidBracedQuantifier
  rx6_auto
  exact ⟨rfl, ‹BAt src K r _›, ‹KeepN s _›, ‹¬∃ r', _›⟩

theorem consumeReverseSolidusFollowedByC_wb (r : List Nat) (s : St) (h : BAt src K r s) :
    Wp (consumeReverseSolidusFollowedByC s) (fun b s1 => Keep s s1 ∧
      if b = true then ∃ r', r = ch '\\' :: ch 'c' :: r' ∧ BAt src K (ch 'c' :: r') s1 else BAt src K r s1) := by
  unfold consumeReverseSolidusFollowedByC
  rx6_auto
  all_goals (try rx6_false)
  rename_i x r' hc hat
  rx6_true
  have hc' := (Bool.and_eq_true _ _).mp hc
  have h1 : x = ch '\\' := by simpa using hc'.1
  subst h1
  cases r' with
  | nil => simp at hc'
  | cons y r'' =>
    have h2 : y = ch 'c' := by simpa using hc'.2
    subst h2
    exact ⟨r'', rfl, by rx6_at⟩

theorem consumeExtendedPatternCharacter_wb (hsrc : ∀ x ∈ src, x ≤ 0xFFFF) (r : List Nat) (s : St) (h : BAt src K r s) :
    Wp (consumeExtendedPatternCharacter s) (fun b s1 => Keep s s1 ∧
      if b = true then ∃ x r1, r = x :: r1 ∧ RxSpecB.ExtendedPatternCharacter x ∧ BAt src K r1 s1 else BAt src K r s1) := by
  unfold consumeExtendedPatternCharacter
  rx6_auto
  all_goals (try rx6_false)
  rename_i x r' hc hat
  rx6_true
  refine ⟨x, r', rfl, ⟨hsrc x (h.mem_src (by simp)), ?_⟩, by rx6_at⟩
  simp only [Bool.and_eq_true, bne_iff_ne, ne_eq] at hc
  simp only [List.mem_cons, List.not_mem_nil, or_false, not_or]
  exact ⟨hc.1.1.1.1.1.1.1.1.1.1, hc.1.1.1.1.1.1.1.1.1.2, hc.1.1.1.1.1.1.1.1.2, hc.1.1.1.1.1.1.1.2, hc.1.1.1.1.1.1.2,
    hc.1.1.1.1.1.2, hc.1.1.1.1.2, hc.1.1.1.2, hc.1.1.2, hc.1.2, hc.2⟩

end DL.Rx
