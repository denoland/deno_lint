import DL.Lemmas.CFSound

/-! Soundness invariant: loops.  `loopCore` proves once what `with_child_scope(BlockKind::Loop, ..)` around a body and a
closure tail does, given what the tail guarantees (`TailOK`); `LoopCore.toL` turns the result into a piece of the flow.
`while` and `do-while` visit their test after the loop scope; `for` and `for-in/of` visit their expressions first
(`PostL.seqL`, `kids2L`, `kids3L`) and share `kidsThenLoop`.  The `*_fields` lemmas read off the reference completions. -/
namespace DL.CF

/-- What the tail of a loop closure guarantees: it runs in the child scope after the body, from `b'` to `c`.  `loopN` says
that the loop can be left normally, `bp` is the body's position, `extra` the further keys the tail may write (`[p]` for
`for`, whose tail marks the statement itself, else `[]`).  The tail writes ends at `bp` and `extra` only (`info_other`,
`ur`), keeps `found_break`, `found_continue`, `may_throw`, always sets some end (`endSome`); a forced one, and one that
stops recorded at a key of `extra` that had none, only if the loop is never left normally when live (`forcedSound`,
`atExtra`). -/
structure TailOK (live loopN : Bool) (bp : Nat) (extra : List Nat) (b' c : A) : Prop where
  info_other : ∀ q, q ≠ bp → q ∉ extra → c.info q = b'.info q
  ur : ∀ q, c.info.ur q = b'.info.ur q
  fbk : c.sc.foundBreak = b'.sc.foundBreak
  fc : c.sc.foundContinue = b'.sc.foundContinue
  mt : c.sc.mayThrow = b'.sc.mayThrow
  endSome : ∃ e, c.sc.end_ = some e
  forcedSound : isForcedEnd c.sc.end_ = true → (live && loopN) = false
  atExtra : ∀ q ∈ extra, q ≠ bp → stopsEnd (c.info.endAt q) = true → b'.info.endAt q = none → (live && loopN) = false

/-- What `with_child_scope(BlockKind::Loop, bp, ..)` around `body` and a tail does, seen from the state `a1` the scope was
opened in: `r` is the state afterwards, `p` the loop statement's position, `live`, `loopN`, `extra` as in `TailOK`.
`found_break` is the parent's (`fbk`: a loop catches unlabelled breaks); `found_continue` and `may_throw` only grow and
record the body's labelled `continue`s and throws (`fc`, `fcBody`, `mt`, `tBody`); the scope's end afterwards is the
parent's or forced (`endEq`) and stops only if the loop is never left normally (`stop`); `p3`, `p3i`, `frame` as in `PostL`,
for the body; at `p` the flag is untouched (`urp`), and so is the end unless `p ∈ extra` (`atP`), where one that stops
means the loop is never left normally (`pExtra`); likewise a forced end at `bp` (`bpForced`). -/
structure LoopCore (live loopN : Bool) (p bp : Nat) (body : Stmt) (extra : List Nat) (a1 r c : A) : Prop where
  fbk : r.sc.foundBreak = a1.sc.foundBreak
  fc : a1.sc.foundContinue = true → r.sc.foundContinue = true
  fcBody : (live && (body.compl []).hasCl) = true → r.sc.foundContinue = true
  mt : a1.sc.mayThrow = true → r.sc.mayThrow = true
  tBody : (live && (body.compl []).t) = true → r.sc.mayThrow = true
  stop : stopsEnd r.sc.end_ = true → (live && loopN) = false
  endEq : r.sc.end_ = a1.sc.end_ ∨ isForcedEnd r.sc.end_ = true
  p3 : ∀ q ∈ body.upos, r.info.ur q = true → (live && body.reach q) = false
  p3i : ∀ q ∈ body.upos, r.info.ur q = true → body.inner q = false
  urp : r.info.ur p = a1.info.ur p
  frame : ∀ q, q ∉ p :: body.positions → q ∉ extra → r.info q = a1.info q
  atP : p ∉ extra → r.info.endAt p = a1.info.endAt p
  pExtra : p ∈ extra → stopsEnd (r.info.endAt p) = true → a1.info.endAt p = none → (live && loopN) = false
  bpForced : isForcedEnd (r.info.endAt bp) = true → (live && loopN) = false

theorem loopCore (live loopN : Bool) (p bp : Nat) (body : Stmt) (extra : List Nat) (tail : A → A) (a1 : A)
    (hbp : body.pos = bp)
    (hs : stopsEnd a1.sc.end_ = true → live = false)
    (hfresh : ∀ q ∈ body.positions, a1.info.endAt q = none)
    (hpb : p ∉ body.positions) (hndb : body.positions.Nodup)
    (ih : ∀ a0, Pre live body.positions a0 → PostS live [] body a0 (visitStmt body a0))
    (htail : ∀ b', PostS live [] body (childA .loop a1) b' → TailOK live loopN bp extra b' (tail b')) :
    LoopCore live loopN p bp body extra a1 (withChild .loop bp (fun x => tail (visitStmt body x)) a1)
      (tail (visitStmt body (childA .loop a1))) := by
  -- The body's invariant `hb` and the tail's guarantee `ht` are taken in the child scope; `w` is what the parent sees of
  -- it.  The exit always finds some end `e` there (`TailOK.endSome`), so it is `mark_as_end(bp, e)` on the merged parent
  -- `m` followed by setting the scope's end to `e` if forced, to the parent's otherwise (`hexit`).
  have hb := ih _ (childA_pre live .loop _ a1 hs hfresh hndb)
  have ht := htail _ hb
  have w := withChild_sees .loop bp (fun x => tail (visitStmt body x)) a1
  have hexit : ∃ e m, (tail (visitStmt body (childA .loop a1))).sc.end_ = some e ∧ m.sc.end_ = a1.sc.end_ ∧
      withChild .loop bp (fun x => tail (visitStmt body x)) a1 =
        (markAsEnd bp e m).setEnd (if e.isForced then some e else a1.sc.end_) := by
    obtain ⟨e, he⟩ := ht.endSome
    refine ⟨e, ⟨mergeSc .loop a1.sc (tail (visitStmt body (childA .loop a1))).sc,
      (tail (visitStmt body (childA .loop a1))).info⟩, he, rfl, ?_⟩
    rw [withChild_loop, he]
    rcases e with ⟨r, t, i⟩ | _ | _ <;> rfl
  generalize withChild .loop bp (fun x => tail (visitStmt body x)) a1 = r at w hexit
  generalize visitStmt body (childA .loop a1) = b' at hb ht w hexit
  generalize tail b' = c at ht w hexit
  obtain ⟨e, m, hce, hme, hr⟩ := hexit
  have hbpm : bp ∈ body.positions := hbp ▸ body.pos_mem
  have hpbp : p ≠ bp := fun e => hpb (e ▸ hbpm)
  have hbp' : b'.info.endAt p = a1.info.endAt p := endAt_eq_of_info_eq (hb.frame p hpb)
  have hforced : e.isForced = true → (live && loopN) = false := fun hf =>
    ht.forcedSound (by rw [hce]; cases e <;> simp_all [End.isForced])
  refine ⟨w.fbKept rfl, fun h => by rw [w.fc, h]; rfl, fun h => by rw [w.fc, ht.fc, hb.p2l h]; exact Bool.or_true _,
    fun h => by rw [w.mt, h]; rfl, fun h => by rw [w.mt, ht.mt, hb.pT h]; exact Bool.or_true _, ?_, ?_,
    fun q hq hu => hb.p3 q hq (ht.ur q ▸ w.ur q ▸ hu), fun q hq hu => hb.p3i q hq (ht.ur q ▸ w.ur q ▸ hu), ?_, ?_, ?_, ?_, ?_⟩
  · intro hst
    rw [hr, setEnd_end] at hst
    by_cases hf : e.isForced = true
    · exact hforced hf
    · simp only [hf, Bool.false_eq_true, if_false] at hst
      simp [hs hst]
  · rw [hr, setEnd_end]
    by_cases hf : e.isForced = true
    · right; simp only [hf, if_true]; cases e <;> simp_all [End.isForced]
    · left; simp [hf]
  · rw [w.ur, ht.ur, ur_eq_of_info_eq (hb.frame p hpb)]; rfl
  · intro q hq hqe
    have hq' : q ≠ p ∧ q ∉ body.positions := by simpa [List.mem_cons, not_or] using hq
    have hqbp : q ≠ bp := fun e => hq'.2 (e ▸ hbpm)
    rw [w.info q hqbp, ht.info_other q hqbp hqe, hb.frame q hq'.2]; rfl
  · intro hpe
    rw [endAt_eq_of_info_eq (w.info p hpbp), endAt_eq_of_info_eq (ht.info_other p hpbp hpe)]
    exact hbp'
  · intro hpe hst hnone
    rw [endAt_eq_of_info_eq (w.info p hpbp)] at hst
    exact ht.atExtra p hpe hpbp hst (by rw [hbp']; exact hnone)
  · intro hfo
    rw [hr, setEnd_info] at hfo
    rcases markAsEnd_self_forced _ _ _ hfo with h | h
    · rw [hme] at h; simp [hs (stops_of_forced h)]
    · exact hforced h

/-- the usual shape of a loop tail: `mark_as_end` at the body's position and the scope's end set to the same end,
which is forced only if the loop is never left normally -/
theorem TailOK.mark {live loopN : Bool} {bp : Nat} {extra : List Nat} {b' : A} (e : End)
    (hf : isForcedEnd (some e) = true → (live && loopN) = false) :
    TailOK live loopN bp extra b' ((markAsEnd bp e b').setEnd (some e)) :=
  ⟨fun q hq _ => markAsEnd_info_other _ _ _ _ hq, fun q => by simp, by simp, by simp, by simp, ⟨e, rfl⟩, hf,
    fun q _ hq hst hn => by rw [setEnd_info, markAsEnd_endAt_other _ _ _ _ hq, hn] at hst; cases hst⟩

theorem whileTail_ok (live tt : Bool) (body : Stmt) (x b' : A) (hb : PostS live [] body x b') :
    TailOK live (!tt || (body.compl []).b) body.pos [] b' (whileTail tt body.isDeclOrExpr body.pos b') := by
  unfold whileTail
  simp only
  generalize stmtEnd body.isDeclOrExpr b'.info body.pos = er
  -- a forced end is set only for `while (true)` without an unlabelled `break`
  have hdead : tt = true → (b'.sc.foundBreak == some none) = false → (live && (!tt || (body.compl []).b)) = false :=
    fun h1 h2 => by rw [h1]; simpa using not_break_dead hb.toPostL h2
  by_cases h1 : (tt && isForcedEnd er && !(b'.sc.foundBreak == some none)) = true
  · simp only [h1, if_true]
    simp only [Bool.and_eq_true, Bool.not_eq_true'] at h1
    rcases her : er with _ | e
    · rw [her] at h1; simp at h1
    · exact .mark e fun _ => hdead h1.1.1 h1.2
  · simp only [h1, Bool.false_eq_true, if_false]
    by_cases h2 : (tt && !(b'.sc.foundBreak == some none)) = true
    · simp only [h2, if_true]
      simp only [Bool.and_eq_true, Bool.not_eq_true'] at h2
      exact .mark _ fun _ => hdead h2.1 h2.2
    · simp only [h2, Bool.false_eq_true, if_false]
      exact .mark _ nofun

theorem while_fields (ls : List Id) (p : Nat) (test : Kids) (tt : Bool) (body : Stmt) (hpl : test.compl.plain = true) :
    let s := Stmt.compl ls (.whileS p test tt body)
    s.n = ((tt || test.compl.n) && (!tt || (body.compl []).b)) ∧ s.b = false ∧ s.c = false ∧
    (s.hasCl = true → (body.compl []).hasCl = true) ∧
    (s.t = true → (!tt && test.compl.t) = true ∨ (body.compl []).t = true) := by
  have hp := testCompl_plain tt test hpl
  refine ⟨?_, ?_, ?_, ?_, ?_⟩
  · simp [Stmt.compl, testCompl_n]
  · simp [Stmt.compl, Compl.plain_b hp]
  · simp [Stmt.compl, Compl.plain_c hp]
  · intro h
    simp only [Stmt.compl, testComplOf_eq, seq_hasCl, Compl.plain_hasCl hp, union_hasCl, guard_hasCl, abrupt_hasCl, Bool.false_or,
      Bool.and_false, Bool.or_false, Bool.and_eq_true] at h
    exact loopCompl_hasCl _ _ _ h.2
  · intro h
    simp only [Stmt.compl, testComplOf_eq, seq_t, testCompl_t, loopCompl_t, union_t, guard_t, abrupt_t] at h
    revert h; cases tt <;> cases test.compl.t <;> cases (body.compl []).t <;> simp

/-- position facts shared by the loop statements: `p :: (kps ++ bps)` without duplicates -/
structure Split (p : Nat) (kps bps : List Nat) : Prop where
  pk : p ∉ kps
  pb : p ∉ bps
  ndk : kps.Nodup
  ndb : bps.Nodup
  disj : ∀ q, q ∈ kps → q ∈ bps → False

theorem Split.of {p : Nat} {kps bps : List Nat} (h : (p :: (kps ++ bps)).Nodup) : Split p kps bps := by
  have hnd := List.nodup_cons.mp h
  have hnd2 := List.nodup_append.mp hnd.2
  exact ⟨fun h => hnd.1 (List.mem_append.mpr (Or.inl h)), fun h => hnd.1 (List.mem_append.mpr (Or.inr h)),
    hnd2.1, hnd2.2.1, fun q h1 h2 => hnd2.2.2 q h1 q h2 rfl⟩

/-- what a loop scope contributes to the flow: the body's throws and labelled `continue`s; it completes normally iff
the loop is left (`loopN`) -/
def loopPart (loopN : Bool) (b : Compl) : Compl := { n := loopN, t := b.t, cl := b.cl }

@[simp] theorem loopPart_n (x : Bool) (b : Compl) : (loopPart x b).n = x := rfl
@[simp] theorem loopPart_b (x : Bool) (b : Compl) : (loopPart x b).b = false := rfl
@[simp] theorem loopPart_c (x : Bool) (b : Compl) : (loopPart x b).c = false := rfl
@[simp] theorem loopPart_hasCl (x : Bool) (b : Compl) : (loopPart x b).hasCl = b.hasCl := rfl
@[simp] theorem loopPart_t (x : Bool) (b : Compl) : (loopPart x b).t = b.t := rfl

/-- the loop scope as a piece of the flow that starts at `a1`: the body's flagged positions, throws and labelled
`continue`s; it completes normally iff the loop does (`loopN`); besides the body's positions it may write at `p` -/
theorem LoopCore.toL {live loopN : Bool} {p bp : Nat} {body : Stmt} {extra : List Nat} {a1 r c : A}
    (hc : LoopCore live loopN p bp body extra a1 r c) (hex : ∀ q ∈ extra, q = p) :
    PostL live body.upos (p :: body.positions) (loopPart loopN (body.compl []))
      body.reach body.inner a1 r :=
  ⟨hc.stop, by simp, by simp, fun h => hc.fbk ▸ h, hc.fc, hc.fcBody, hc.p3, hc.p3i,
    fun q hq => hc.frame q hq fun he => hq (hex q he ▸ List.mem_cons_self ..), hc.mt, hc.tBody⟩

theorem while_ok (live : Bool) (ls : List Id) (p : Nat) (test : Kids) (tt : Bool) (body : Stmt) (a : A)
    (hf : (Stmt.whileS p test tt body).inF = true) (hpre : Pre live (p :: (test.positions ++ body.positions)) a)
    (ihk : ∀ (l : Bool) x, test.okF = true → Pre l test.positions x → KidsL l test x (visitKids test x))
    (ih : ∀ a0, body.inF = true → Pre live body.positions a0 → PostS live [] body a0 (visitStmt body a0)) :
    PostS live ls (.whileS p test tt body) a (visitStmt (.whileS p test tt body) a) := by
  simp only [Stmt.inF, Bool.and_eq_true, Bool.or_eq_true, Bool.not_eq_true'] at hf
  obtain ⟨⟨⟨hok, hpl⟩, htt⟩, hbf⟩ := hf
  replace htt : tt = true → test.pure = true := fun h => htt.resolve_left (by simp [h])
  replace ih := fun a0 => ih a0 hbf
  have hsp := Split.of hpre.nodup
  have hv : visitStmt (.whileS p test tt body) a =
      visitKids test (withChild .loop body.pos (fun x => whileTail tt body.isDeclOrExpr body.pos (visitStmt body x)) (flagA a p .other)) := by
    simp [visitStmt, flagA]
  rw [hv]
  have hc := loopCore live (!tt || (body.compl []).b) p body.pos body [] (whileTail tt body.isDeclOrExpr body.pos) (flagA a p .other) rfl
    hpre.hs (fun q hq => by rw [flagA_endAt]; exact hpre.fresh q (List.mem_cons_of_mem _ (List.mem_append.mpr (Or.inr hq))))
    hsp.pb hsp.ndb ih (fun b' hb => whileTail_ok live tt body _ b' hb)
  generalize withChild .loop body.pos (fun x => whileTail tt body.isDeclOrExpr body.pos (visitStmt body x)) (flagA a p .other) = r at hc
  -- the analyzer visits the test after the loop scope, as if it were evaluated when the loop is left
  have hL := hc.toL nofun
  have hdisj : ∀ q, q ∈ p :: body.positions → q ∈ test.positions → False := fun q hq ht =>
    (List.mem_cons.mp hq).elim (fun e => hsp.pk (e ▸ ht)) (hsp.disj q ht)
  have hk := ihk _ r hok ⟨hL.p1, fun q hq => by
    rw [endAt_eq_of_info_eq (hL.frame q fun h => hdisj q h hq), flagA_endAt]
    exact hpre.fresh q (List.mem_cons_of_mem _ (List.mem_append.mpr (Or.inl hq))), hsp.ndk⟩
  generalize visitKids test r = fin at hk
  have h2 := (hL.seq hk hdisj (body.inside.mono fun _ => List.mem_cons_of_mem _) test.inside).flag hpre.hs
    (by rw [ur_eq_of_info_eq (hk.frame p hsp.pk), hc.urp])
    (fun hq => (List.mem_append.mp hq).elim (fun h => hsp.pb (body.upos_sub p h)) (fun h => hsp.pk (test.upos_sub p h)))
    (by simp [body.inner_false p hsp.pb, test.inner_false p hsp.pk])
  obtain ⟨hn, hb0, hc0, hl0, ht0⟩ := while_fields ls p test tt body hpl
  -- a test known to be true is pure: it completes normally, cannot throw, and nothing is nested in it
  have htn : tt = true → test.compl.n = true := fun h => by rw [Kids.compl_pure test (htt h)]; rfl
  refine ⟨h2.weaken (fun q hq => ?_) (fun q hq => ?_) ⟨fun h => ?_, by simp [hb0], fun h => by simp [hc0] at h; simp [hl0 h], fun h => ?_⟩
    (fun q hq h => ?_) (fun q _ h => ?_), fun _ hst => ?_⟩
  · simpa [Stmt.upos, or_comm] using hq
  · simpa [Stmt.positions, or_comm, or_left_comm] using hq
  · rw [hn] at h; cases tt <;> simp_all
  · rcases ht0 h with ht | ht
    · cases tt <;> simp_all
    · simp [ht]
  · simp only [Stmt.reach, Bool.or_eq_true, Bool.and_eq_true] at h ⊢
    rcases h with (h | h) | h
    · exact Or.inl h
    · cases tt with
      | true => rw [Kids.flowReach_pure test q (htt rfl)] at h; cases h
      | false => exact Or.inr (Or.inr ⟨rfl, h⟩)
    · exact Or.inr (Or.inl h.2)
  · simpa [Stmt.inner, Bool.or_comm] using h
  · rw [Stmt.pos, endAt_eq_of_info_eq (hk.frame p hsp.pk), hc.atP nofun, flagA_endAt, hpre.fresh p (List.mem_cons_self ..)] at hst
    simp at hst

theorem testCompl_pure (tt : Bool) (test : Kids) (hp : test.pure = true) :
    testCompl tt test = if tt then { n := true } else pureCompl test := by
  unfold testCompl testComplOf; rw [Kids.compl_pure test hp]

theorem doWhile_n (ls : List Id) (p : Nat) (body : Stmt) (test : Kids) (tt : Bool) (hp : test.pure = true) :
    (Stmt.compl ls (.doWhileS p body test tt)).n = ((goesRound ls (body.compl []) && !tt) || (body.compl []).b) ∧
    (Stmt.compl ls (.doWhileS p body test tt)).b = false ∧ (Stmt.compl ls (.doWhileS p body test tt)).c = false ∧
    ((Stmt.compl ls (.doWhileS p body test tt)).hasCl = true → (body.compl []).hasCl = true) := by
  have htc : (testCompl tt test).n = true ∧ (testCompl tt test).b = false ∧ (testCompl tt test).c = false ∧
      (testCompl tt test).hasCl = false := by
    rw [testCompl_pure tt test hp]; cases tt <;> simp [Compl.hasCl, pureCompl]
  refine ⟨by simp [Stmt.compl, htc], by simp [Stmt.compl, htc], by simp [Stmt.compl, htc], ?_⟩
  intro h
  simp only [Stmt.compl, testComplOf_eq, union_hasCl, abrupt_hasCl, guard_hasCl, htc, Bool.and_false, Bool.or_false] at h
  exact loopCompl_hasCl _ _ _ h

theorem doWhileTail_ok (live tt : Bool) (ls : List Id) (body : Stmt) (x b' : A) (hb : PostS live [] body x b') :
    TailOK live ((goesRound ls (body.compl []) && !tt) || (body.compl []).b) body.pos [] b'
      (doWhileTail tt body.isDeclOrExpr body.pos b') := by
  unfold doWhileTail
  simp only
  -- A forced end is set in two cases.  The body's own end is forced and no `break` or `continue` was found: then the
  -- body neither completes normally (`p4`) nor continues, so the loop does not go round, and it does not break.  Or the
  -- test is known to be true and no `break` at all was found: then the loop is left by neither the test nor a `break`.
  have hsf := @stmtEnd_forced' body.isDeclOrExpr b'.info body.pos
  generalize stmtEnd body.isDeclOrExpr b'.info body.pos = er at hsf
  by_cases h1 : (isForcedEnd er && !(b'.sc.foundBreak == some none) && !b'.sc.foundContinue) = true
  · simp only [h1, if_true]
    simp only [Bool.and_eq_true, Bool.not_eq_true'] at h1
    rcases her : er with _ | e
    · rw [her] at h1; simp at h1
    · refine .mark e fun _ => ?_
      have hbk := not_break_dead hb.toPostL h1.1.2
      have hct := not_continue_dead hb.toPostL h1.2
      have hnn := hb.p4 (hsf h1.1.1).1 (stops_of_forced (hsf h1.1.1).2)
      have hcl := not_cl_dead hb.toPostL h1.2
      cases live with
      | false => rfl
      | true =>
        simp only [Bool.true_and] at hbk hct hnn hcl ⊢
        simp [goesRound, hbk, hct, hnn, any_of_not_hasCl _ _ hcl]
  · simp only [h1, Bool.false_eq_true, if_false]
    by_cases h2 : (tt && b'.sc.foundBreak.isNone) = true
    · simp only [h2, if_true]
      simp only [Bool.and_eq_true] at h2
      refine .mark _ fun _ => ?_
      have hnb : (b'.sc.foundBreak == some none) = false := by
        cases hfb : b'.sc.foundBreak with
        | none => rfl
        | some v => rw [hfb] at h2; simp at h2
      have := not_break_dead hb.toPostL hnb
      rw [h2.1]; simpa using this
    · simp only [h2, Bool.false_eq_true, if_false]
      exact .mark _ nofun

theorem doWhile_t (ls : List Id) (p : Nat) (body : Stmt) (test : Kids) (tt : Bool) (hp : test.pure = true)
    (h : (Stmt.compl ls (.doWhileS p body test tt)).t = true) :
    (body.compl []).t = true ∨ (goesRound ls (body.compl []) && !tt && test.mayThrow) = true := by
  simp only [Stmt.compl, testComplOf_eq, loopCompl_t, union_t, guard_t, abrupt_t, testCompl_t] at h
  rw [Kids.compl_pure test hp, pureCompl_t] at h
  revert h; cases tt <;> cases test.mayThrow <;> cases (body.compl []).t <;> cases goesRound ls (body.compl []) <;> simp

/-- the optional extra mark of a `do-while` at the statement's position `p`: made only with a forced end of the body,
i.e. when the loop is never left normally -/
theorem doWhileAfter_ok {live loopN : Bool} {p bp : Nat} {body : Stmt} {a1 r c : A}
    (hc : LoopCore live loopN p bp body [] a1 r c) (hfresh : a1.info.endAt p = none) :
    PostL live body.upos (p :: body.positions) (loopPart loopN (body.compl []))
        body.reach body.inner a1 (doWhileAfter p bp r) ∧
      (stopsEnd ((doWhileAfter p bp r).info.endAt p) = true → (live && loopN) = false) := by
  have hL := hc.toL nofun
  unfold doWhileAfter
  split
  · next rr t i her =>
    have hst : stopsEnd (some (End.forced rr t i)) = true → (live && loopN) = false :=
      fun _ => hc.bpForced (by rw [her]; rfl)
    exact ⟨hL.markAsEnd (List.mem_cons_self ..) _ hst, hL.markAsEnd_at p _ hst⟩
  · exact ⟨hL, fun h => by rw [hc.atP nofun, hfresh] at h; simp at h⟩

theorem doWhile_ok (live : Bool) (ls : List Id) (p : Nat) (body : Stmt) (test : Kids) (tt : Bool) (a : A)
    (hf : (Stmt.doWhileS p body test tt).inF = true) (hpre : Pre live (p :: (test.positions ++ body.positions)) a)
    (ihk : ∀ x, test.okF = true → test.pure = true → PreK test.positions x →
      PostK test.upos test.positions test.inner test.mayThrow x (visitKids test x))
    (ih : ∀ a0, body.inF = true → Pre live body.positions a0 → PostS live [] body a0 (visitStmt body a0)) :
    PostS live ls (.doWhileS p body test tt) a (visitStmt (.doWhileS p body test tt) a) := by
  simp only [Stmt.inF, Bool.and_eq_true] at hf
  have hp := hf.1.2
  replace ih := fun a0 => ih a0 hf.2
  have hsp := Split.of hpre.nodup
  have hv : visitStmt (.doWhileS p body test tt) a =
      visitKids test (doWhileAfter p body.pos
        (withChild .loop body.pos (fun x => doWhileTail tt body.isDeclOrExpr body.pos (visitStmt body x)) (flagA a p .other))) := by
    simp [visitStmt, flagA]
  rw [hv]
  -- the loop scope, then the extra mark at `p` (`doWhileAfter_ok`), then the pure test, which the analyzer visits last;
  -- `h2` is their sequence with the flag at `p`, and the reference completions (`doWhile_n`, `doWhile_t`) are among its
  have hc := loopCore live _ p body.pos body [] (doWhileTail tt body.isDeclOrExpr body.pos) (flagA a p .other) rfl
    hpre.hs (fun q hq => by rw [flagA_endAt]; exact hpre.fresh q (List.mem_cons_of_mem _ (List.mem_append.mpr (Or.inr hq))))
    hsp.pb hsp.ndb ih (fun b' hb => doWhileTail_ok live tt ls body _ b' hb)
  generalize withChild .loop body.pos (fun x => doWhileTail tt body.isDeclOrExpr body.pos (visitStmt body x)) (flagA a p .other) = r at hc
  obtain ⟨hL, hp4⟩ := doWhileAfter_ok hc (by rw [flagA_endAt]; exact hpre.fresh p (List.mem_cons_self ..))
  have hur : (doWhileAfter p body.pos r).info.ur p = r.info.ur p := (doWhileAfter_marks ..).ur p
  generalize doWhileAfter p body.pos r = r2 at hL hp4 hur
  have hdisj : ∀ q, q ∈ p :: body.positions → q ∈ test.positions → False := fun q hq ht =>
    (List.mem_cons.mp hq).elim (fun e => hsp.pk (e ▸ ht)) (hsp.disj q ht)
  have hk := ihk r2 hf.1.1 hp ⟨fun q hq => by
    rw [endAt_eq_of_info_eq (hL.frame q fun h => hdisj q h hq), flagA_endAt]
    exact hpre.fresh q (List.mem_cons_of_mem _ (List.mem_append.mpr (Or.inl hq))), hsp.ndk⟩
  generalize visitKids test r2 = fin at hk
  have h2 := (hL.seq (hk.toL hL.p1) hdisj (body.inside.mono fun _ => List.mem_cons_of_mem _)
    test.insidePure).flag hpre.hs
    (by rw [ur_eq_of_info_eq (hk.frame p hsp.pk), hur, hc.urp])
    (fun hq => (List.mem_append.mp hq).elim (fun h => hsp.pb (body.upos_sub p h)) (fun h => hsp.pk (test.upos_sub p h)))
    (by simp [body.inner_false p hsp.pb, test.inner_false p hsp.pk])
  obtain ⟨hn, hb0, hc0, hl0⟩ := doWhile_n ls p body test tt hp
  refine ⟨h2.weaken (fun q hq => ?_) (fun q hq => ?_)
    ⟨fun h => by simpa [hn] using h, by simp [hb0], fun h => by simp [hc0] at h; simp [hl0 h], fun h => ?_⟩
    (fun q _ h => ?_) (fun q _ h => ?_), fun _ hst => ?_⟩
  · simpa [Stmt.upos, or_comm] using hq
  · simpa [Stmt.positions, or_comm, or_left_comm] using hq
  · rcases doWhile_t ls p body test tt hp h with ht | ht
    · simp [ht]
    · simp only [Bool.and_eq_true, Bool.not_eq_true'] at ht
      simp [ht.1.1, ht.1.2, ht.2]
  · simpa [Stmt.reach, Kids.flowReach_pure test q hp] using h
  · simpa [Stmt.inner, Bool.or_comm] using h
  · rw [Stmt.pos, endAt_eq_of_info_eq (hk.frame p hsp.pk)] at hst
    simpa [hn] using hp4 hst

theorem kids2L (live : Bool) (k1 k2 : Kids) (x : A) (hpre : Pre live (k1.positions ++ k2.positions) x)
    (ih1 : ∀ (l : Bool) x, Pre l k1.positions x → KidsL l k1 x (visitKids k1 x))
    (ih2 : ∀ (l : Bool) x, Pre l k2.positions x → KidsL l k2 x (visitKids k2 x)) :
    PostL live (k1.upos ++ k2.upos) (k1.positions ++ k2.positions) (k1.compl.seq k2.compl)
      (fun p => k1.flowReach p || (k1.compl.n && k2.flowReach p)) (fun p => k1.inner p || k2.inner p) x
      (visitKids k2 (visitKids k1 x)) :=
  .seqL hpre (ih1 live x hpre.left) (ih2 _ _) k1.inside k2.inside

theorem kids3L (live : Bool) (k1 k2 k3 : Kids) (x : A) (hpre : Pre live (k1.positions ++ (k2.positions ++ k3.positions)) x)
    (ih1 : ∀ (l : Bool) x, Pre l k1.positions x → KidsL l k1 x (visitKids k1 x))
    (ih2 : ∀ (l : Bool) x, Pre l k2.positions x → KidsL l k2 x (visitKids k2 x))
    (ih3 : ∀ (l : Bool) x, Pre l k3.positions x → KidsL l k3 x (visitKids k3 x)) :
    PostL live (k1.upos ++ (k2.upos ++ k3.upos)) (k1.positions ++ (k2.positions ++ k3.positions))
      (k1.compl.seq (k2.compl.seq k3.compl))
      (fun p => k1.flowReach p || (k1.compl.n && (k2.flowReach p || (k2.compl.n && k3.flowReach p))))
      (fun p => k1.inner p || (k2.inner p || k3.inner p)) x (visitKids k3 (visitKids k2 (visitKids k1 x))) :=
  .seqL hpre (ih1 live x hpre.left) (fun h => kids2L _ k2 k3 _ h ih2 ih3) k1.inside (k2.inside.seq k3.inside _)

theorem kids2_ok (k1 k2 : Kids) (x : A) (hpre : PreK (k1.positions ++ k2.positions) x)
    (ih1 : ∀ x, PreK k1.positions x → PostK k1.upos k1.positions k1.inner k1.mayThrow x (visitKids k1 x))
    (ih2 : ∀ x, PreK k2.positions x → PostK k2.upos k2.positions k2.inner k2.mayThrow x (visitKids k2 x)) :
    PostK (k1.upos ++ k2.upos) (k1.positions ++ k2.positions) (fun q => k1.inner q || k2.inner q)
      (k1.mayThrow || k2.mayThrow) x (visitKids k2 (visitKids k1 x)) := by
  have h1 := ih1 x hpre.left
  have h2 := ih2 _ (hpre.right h1.frame)
  exact h1.seq h2 hpre.disj (Kids.upos_sub k1) (Kids.upos_sub k2) (Kids.inner_false k1) (Kids.inner_false k2)

theorem kids3_ok (k1 k2 k3 : Kids) (x : A) (hpre : PreK (k1.positions ++ (k2.positions ++ k3.positions)) x)
    (ih1 : ∀ x, PreK k1.positions x → PostK k1.upos k1.positions k1.inner k1.mayThrow x (visitKids k1 x))
    (ih2 : ∀ x, PreK k2.positions x → PostK k2.upos k2.positions k2.inner k2.mayThrow x (visitKids k2 x))
    (ih3 : ∀ x, PreK k3.positions x → PostK k3.upos k3.positions k3.inner k3.mayThrow x (visitKids k3 x)) :
    PostK (k1.upos ++ (k2.upos ++ k3.upos)) (k1.positions ++ (k2.positions ++ k3.positions))
      (fun q => k1.inner q || (k2.inner q || k3.inner q)) (k1.mayThrow || (k2.mayThrow || k3.mayThrow)) x
      (visitKids k3 (visitKids k2 (visitKids k1 x))) := by
  have h1 := ih1 x hpre.left
  have h2 := kids2_ok k2 k3 _ (hpre.right h1.frame) ih2 ih3
  refine h1.seq h2 hpre.disj (Kids.upos_sub k1) ?_ (Kids.inner_false k1) ?_
  · intro q hq
    rcases List.mem_append.mp hq with h | h
    · exact List.mem_append.mpr (Or.inl (Kids.upos_sub k2 q h))
    · exact List.mem_append.mpr (Or.inr (Kids.upos_sub k3 q h))
  · intro q hq
    simp only [List.mem_append, not_or] at hq
    simp [Kids.inner_false k2 q hq.1, Kids.inner_false k3 q hq.2]

theorem forTail_ok (live hasTest tt : Bool) (p : Nat) (body : Stmt) (x b' : A) (hb : PostS live [] body x b') :
    TailOK live ((hasTest && !tt) || (body.compl []).b) body.pos [p] b' (forTail p body.pos body.isDeclOrExpr hasTest tt b') := by
  unfold forTail
  by_cases hent : forEnters hasTest tt b' = true
  · -- the loop is entered unconditionally and cannot be left by `break`
    rw [if_pos hent]
    have hdead : (live && ((hasTest && !tt) || (body.compl []).b)) = false := by
      simp only [forEnters, Bool.and_eq_true, Bool.not_eq_true', Bool.or_eq_true] at hent
      have := not_break_dead hb.toPostL hent.1
      rcases hent.2 with h | h
      · simp only [h]; simpa using this
      · rw [h]; simpa using this
    refine ⟨?_, fun q => by simp, by simp, by simp, by simp, ?_, fun _ => hdead, fun _ _ _ _ _ => hdead⟩
    · intro q _ hq; exact markAsEnd_info_other _ _ _ _ (by simpa using hq)
    · unfold markAsEnd
      rcases hbe : b'.sc.end_ with _ | ⟨r, t, i⟩ | _ | _ <;> simp [hbe]
  · rw [if_neg hent]
    exact .mark _ nofun

/-- a loop statement whose expressions (completions `tc`) are all visited before the loop scope is entered
(`for`, `for-in/of`): the loop is live when they can complete normally -/
theorem kidsThenLoop {live loopN : Bool} {ls : List Id} {s : Stmt} {p : Nat} {kus kps : List Nat} {tc : Compl}
    {tr ti : Nat → Bool} {body : Stmt} {extra : List Nat} {tail : A → A} {a a1 : A}
    (hpos : s.positions = p :: (kps ++ body.positions)) (hup : s.upos = p :: (kus ++ body.upos)) (hp : s.pos = p)
    (hn : (s.compl ls).n = (tc.n && loopN)) (hb0 : (s.compl ls).b = false) (hc0 : (s.compl ls).c = false)
    (hl0 : (s.compl ls).hasCl = true → tc.n = true ∧ (body.compl []).hasCl = true)
    (ht0 : (s.compl ls).t = true → tc.t = true ∨ (tc.n = true ∧ (body.compl []).t = true))
    (hr : ∀ q, s.reach q = (q == p || tr q || (tc.n && body.reach q))) (hin : ∀ q, s.inner q = (ti q || body.inner q))
    (wk : Inside kus kps tr ti) (hextra : ∀ q, q ∈ extra → q = p)
    (hpre : Pre live (p :: (kps ++ body.positions)) a)
    (hk : PostL live kus kps tc tr ti (flagA a p .other) a1)
    (ih : ∀ a0, Pre (live && tc.n) body.positions a0 → PostS (live && tc.n) [] body a0 (visitStmt body a0))
    (htail : ∀ b', PostS (live && tc.n) [] body (childA .loop a1) b' → TailOK (live && tc.n) loopN body.pos extra b' (tail b')) :
    PostS live ls s a (withChild .loop body.pos (fun x => tail (visitStmt body x)) a1) := by
  have hx := Prefix.of hpre hk
  have hc := loopCore (live && tc.n) loopN p body.pos body extra tail a1 rfl hx.hs hx.hfresh hx.pr hx.ndr ih htail
  generalize withChild .loop body.pos (fun x => tail (visitStmt body x)) a1 = r at hc
  have h2 := (hk.seq (hc.toL hextra)
    (fun q hk hb => (List.mem_cons.mp hb).elim (fun e => hx.pk (e ▸ hk)) (hx.disj q hk)) wk
    (body.inside.mono fun _ => List.mem_cons_of_mem _)).flag hpre.hs (hc.urp.trans hx.hur)
    (fun hq => (List.mem_append.mp hq).elim (fun h => hx.pk (wk.us p h)) (fun h => hx.pr (body.upos_sub p h)))
    (by simp [wk.i p hx.pk, body.inner_false p hx.pr])
  refine ⟨h2.weaken (fun q hq => hup ▸ hq) (fun q hq => ?_)
    ⟨fun h => by simpa [hn] using h, by simp [hb0], fun h => by simp [hc0] at h; simp [hl0 h], fun h => ?_⟩
    (fun q _ h => ?_) (fun q _ h => hin q ▸ h), fun _ hst => ?_⟩
  · rw [hpos]; simpa [or_left_comm] using hq
  · rcases ht0 h with ht | ht <;> simp [ht]
  · simpa [hr, Bool.or_assoc] using h
  · rw [hp] at hst
    rw [hn, ← Bool.and_assoc]
    by_cases hpe : p ∈ extra
    · exact hc.pExtra hpe hst hx.hp
    · rw [hc.atP hpe, hx.hp] at hst; simp at hst

theorem for_fields (ls : List Id) (p : Nat) (i u t : Kids) (hasTest tt : Bool) (body : Stmt)
    (hi : i.compl.plain = true) (hu : u.pure = true) (ht : t.compl.plain = true) (htt : tt = true → t.pure = true) :
    let s := Stmt.compl ls (.forS p i u t hasTest tt body)
    let K := i.compl.seq (u.compl.seq t.compl)
    s.n = (K.n && ((hasTest && !tt) || (body.compl []).b)) ∧ s.b = false ∧ s.c = false ∧
    (s.hasCl = true → K.n = true ∧ (body.compl []).hasCl = true) ∧
    (s.t = true → K.t = true ∨ (K.n = true ∧ (body.compl []).t = true)) ∧
    (testCompl tt t).n = t.compl.n := by
  -- `K` is what the analyzer sees before the loop scope: init, update, test.  The reference evaluates the update after
  -- the body; being pure it completes normally and holds no `break`/`continue`, so only its throw has to be placed.
  have htn : (testCompl tt t).n = t.compl.n := by
    rw [testCompl_n]; cases htt' : tt with
    | false => simp
    | true => rw [Kids.compl_pure t (htt htt')]; rfl
  have hp := testCompl_plain tt t ht
  have hup := Kids.compl_pure u hu
  refine ⟨?_, ?_, ?_, ?_, ?_, htn⟩
  · simp only [Stmt.compl, testComplOf_eq, seq_n, union_n, loopCompl_n, guard_n, abrupt_n, htn, hup, pureCompl_n]
    cases i.compl.n <;> cases t.compl.n <;> simp
  · simp [Stmt.compl, Compl.plain_b hi, Compl.plain_b hp, hup]
  · simp [Stmt.compl, Compl.plain_c hi, Compl.plain_c hp, hup]
  · intro h
    simp only [Stmt.compl, testComplOf_eq, seq_hasCl, Compl.plain_hasCl hi, Compl.plain_hasCl hp, union_hasCl, guard_hasCl,
      abrupt_hasCl, hup, pureCompl_hasCl, pureCompl_n, Bool.false_or, Bool.and_false, Bool.or_false, Bool.and_eq_true, htn] at h
    refine ⟨?_, loopCompl_hasCl _ _ _ h.2.2⟩
    simp [hup, h.1, h.2.1]
  · intro h
    simp only [Stmt.compl, testComplOf_eq, seq_t, union_t, loopCompl_t, guard_t, abrupt_t, testCompl_t, htn, hup, pureCompl_t,
      pureCompl_n, seq_n] at h ⊢
    grind

theorem for_ok (live : Bool) (ls : List Id) (p : Nat) (i u t : Kids) (hasTest tt : Bool) (body : Stmt) (a : A)
    (hf : (Stmt.forS p i u t hasTest tt body).inF = true)
    (hpre : Pre live (p :: ((i.positions ++ (u.positions ++ t.positions)) ++ body.positions)) a)
    (ihi : ∀ (l : Bool) x, i.okF = true → Pre l i.positions x → KidsL l i x (visitKids i x))
    (ihu : ∀ (l : Bool) x, u.okF = true → Pre l u.positions x → KidsL l u x (visitKids u x))
    (iht : ∀ (l : Bool) x, t.okF = true → Pre l t.positions x → KidsL l t x (visitKids t x))
    (ih : ∀ (l : Bool) a0, body.inF = true → Pre l body.positions a0 → PostS l [] body a0 (visitStmt body a0)) :
    PostS live ls (.forS p i u t hasTest tt body) a (visitStmt (.forS p i u t hasTest tt body) a) := by
  simp only [Stmt.inF, Bool.and_eq_true, Bool.or_eq_true, Bool.not_eq_true'] at hf
  obtain ⟨⟨⟨⟨hio, hi⟩, huo, hu⟩, ⟨hto, ht⟩, htt⟩, hbf⟩ := hf
  replace htt : tt = true → t.pure = true := fun h => htt.resolve_left (by simp [h])
  have hv : visitStmt (.forS p i u t hasTest tt body) a =
      withChild .loop body.pos (fun x => forTail p body.pos body.isDeclOrExpr hasTest tt (visitStmt body x))
        (visitKids t (visitKids u (visitKids i (flagA a p .other)))) := by
    simp [visitStmt, flagA]
  rw [hv]
  obtain ⟨hn, hb0, hc0, hl0, ht0, htn⟩ := for_fields ls p i u t hasTest tt body hi hu ht htt
  have hup := Kids.compl_pure u hu
  refine kidsThenLoop (extra := [p]) rfl rfl rfl hn hb0 hc0 hl0 ht0 (fun q => ?_) (fun q => by simp [Stmt.inner, Bool.or_assoc])
    (i.inside.seq (u.inside.seq t.inside _) _) (by simp) hpre (kids3L live i u t _ (Prefix.pre hpre) (ihi · · hio) (ihu · · huo) (iht · · hto))
    (fun a0 h0 => ih _ a0 hbf h0) (fun b' hb => forTail_ok _ hasTest tt p body _ b' hb)
  simp only [Stmt.reach, testComplOf_eq, htn, seq_n, hup, pureCompl_n, Kids.flowReach_pure u q hu, Bool.and_false, Bool.or_false,
    Bool.true_and, Bool.false_or]
  cases (q == p) <;> cases i.flowReach q <;> cases i.compl.n <;> cases t.flowReach q <;> cases t.compl.n <;>
    cases body.reach q <;> rfl

theorem forIn_fields (ls : List Id) (p : Nat) (l r : Kids) (body : Stmt) (hl : l.pure = true) (hr : r.compl.plain = true) :
    let s := Stmt.compl ls (.forInOf p l r body)
    let K := l.compl.seq r.compl
    s.n = (K.n && true) ∧ s.b = false ∧ s.c = false ∧
    (s.hasCl = true → K.n = true ∧ (body.compl []).hasCl = true) ∧
    (s.t = true → K.t = true ∨ (K.n = true ∧ (body.compl []).t = true)) := by
  have hlp := Kids.compl_pure l hl
  refine ⟨?_, ?_, ?_, ?_, ?_⟩
  · simp [Stmt.compl, hlp]
  · simp [Stmt.compl, Compl.plain_b hr, hlp]
  · simp [Stmt.compl, Compl.plain_c hr, hlp]
  · intro h
    simp only [Stmt.compl, testComplOf_eq, seq_hasCl, Compl.plain_hasCl hr, union_hasCl, abrupt_hasCl, hlp, pureCompl_hasCl,
      pureCompl_n, seq_n, Bool.false_or, Bool.and_false, Bool.or_false, Bool.and_true, Bool.and_eq_true] at h
    refine ⟨by simp [hlp, h.1], loopCompl_hasCl _ _ _ h.2⟩
  · intro h
    simp only [Stmt.compl, testComplOf_eq, seq_t, union_t, loopCompl_t, abrupt_t, hlp, pureCompl_t, pureCompl_n, seq_n,
      Bool.and_true, Bool.true_and] at h ⊢
    revert h
    cases l.mayThrow <;> cases r.compl.t <;> cases r.compl.n <;> cases (body.compl []).t <;> simp

theorem forInOf_ok (live : Bool) (ls : List Id) (p : Nat) (l r : Kids) (body : Stmt) (a : A)
    (hf : (Stmt.forInOf p l r body).inF = true)
    (hpre : Pre live (p :: ((l.positions ++ r.positions) ++ body.positions)) a)
    (ihl : ∀ (lv : Bool) x, l.okF = true → Pre lv l.positions x → KidsL lv l x (visitKids l x))
    (ihr : ∀ (lv : Bool) x, r.okF = true → Pre lv r.positions x → KidsL lv r x (visitKids r x))
    (ih : ∀ (lv : Bool) a0, body.inF = true → Pre lv body.positions a0 → PostS lv [] body a0 (visitStmt body a0)) :
    PostS live ls (.forInOf p l r body) a (visitStmt (.forInOf p l r body) a) := by
  simp only [Stmt.inF, Bool.and_eq_true] at hf
  obtain ⟨⟨⟨hlo, hl⟩, hro, hr⟩, hbf⟩ := hf
  have hv : visitStmt (.forInOf p l r body) a =
      withChild .loop body.pos (fun x => forInOfTail body.pos (visitStmt body x))
        (visitKids r (visitKids l (flagA a p .other))) := by
    simp [visitStmt, flagA]
  rw [hv]
  obtain ⟨hn, hb0, hc0, hl0, ht0⟩ := forIn_fields ls p l r body hl hr
  have hlp := Kids.compl_pure l hl
  refine kidsThenLoop (loopN := true) (extra := []) rfl rfl rfl hn hb0 hc0 hl0 ht0 (fun q => ?_) (fun q => by simp [Stmt.inner])
    (l.inside.seq r.inside _) nofun hpre (kids2L live l r _ (Prefix.pre hpre) (ihl · · hlo) (ihr · · hro))
    (fun a0 h0 => ih _ a0 hbf h0)
    (fun b' _ => .mark _ nofun)
  simp only [Stmt.reach, seq_n, hlp, pureCompl_n, Kids.flowReach_pure l q hl, Bool.true_and, Bool.false_or]

end DL.CF
