import DL.Lemmas.RxCompWc

/-! # Completeness: the stepping tactic for `Wc` (a copy of the one for `Wp`) -/
namespace DL.Rx

theorem head_ne_of_ne {x y : Nat} (h : x ≠ y) (m : List Nat) : (x :: m).head? ≠ some y := head_cons_ne h m

theorem nil_head_ne (y : Nat) : ([] : List Nat).head? ≠ some y := by simp


macro "rx5_ne2" : tactic => `(tactic| first
  | with_reducible assumption
  | exact no_eat2_nil
  | exact no_eat2_one
  | exact no_eat2_ne1 (by decide)
  | exact no_eat2_ne2 (by decide)
  | exact no_eat2_head (by assumption))

macro "rx5_ne3" : tactic => `(tactic| first
  | with_reducible assumption
  | exact no_eat3_ne1 (by decide)
  | exact no_eat3_ne2 (by decide)
  | exact no_eat3_ne3 (by decide)
  | exact no_eat3_head (by assumption)
  | exact no_eat3_of_eat2 (by assumption))

open Lean Elab Tactic Meta in
/-- succeeds iff the computation of the `Wc` goal is `if … then … else …` (`bind = false`) or
`(if … then … else …) >>= g` (`bind = true`) — a syntactic test -/
def headIsIteC (bind : Bool) : TacticM Unit := do
  let g ← getMainGoal
  let t ← instantiateMVars (← g.getType)
  unless t.isAppOfArity ``DL.Rx.Wc 3 do throwError "not a Wp goal"
  let comp := t.getAppArgs[1]!.appFn!
  if bind then
    unless comp.isAppOfArity ``Bind.bind 6 do throwError "not a bind"
    unless (comp.getAppArgs[4]!).isAppOfArity ``ite 5 do throwError "not an ite"
  else
    unless comp.isAppOfArity ``ite 5 do throwError "not an ite"

elab "rx5_is_ite" : tactic => headIsIteC false
elab "rx5_is_bind_ite" : tactic => headIsIteC true

open Lean Elab Tactic Meta in
/-- candidates for "the `UAt` fact of the current state": hypotheses about exactly the state term of the `Wc` goal,
and hypotheses about states that differ from it by record updates outside the reader and the mode fields (transported
with `UAt.of_eq`, elaborated at default transparency) -/
def uatHereC : TacticM (Array (TSyntax `term)) := do
  let g ← getMainGoal
  g.withContext do
    let t ← instantiateMVars (← g.getType)
    unless t.isAppOfArity ``DL.Rx.Wc 3 do return #[]
    let st := t.getAppArgs[1]!.appArg!
    let stx ← Term.exprToSyntax st
    let decls := (← getLCtx).decls.toList.reverse.filterMap id
    let mut out : Array (TSyntax `term) := #[]
    for decl in decls do
      if decl.isImplementationDetail then continue
      let ty ← instantiateMVars decl.type
      unless ty.isAppOfArity ``DL.Rx.UAt 4 do continue
      let h ← Term.exprToSyntax (mkFVar decl.fvarId)
      if ty.getAppArgs[3]! == st then
        return #[h]
      else
        let saved ← saveState
        try
          let e ← Tactic.elabTerm (← `((UAt.of_eq $h rfl rfl rfl rfl rfl : UAt _ _ _ $stx))) none
          let e ← instantiateMVars e
          if e.hasExprMVar then restoreState saved
          else return #[← Term.exprToSyntax e]
        catch _ => restoreState saved
    return out

open Lean Elab Tactic Meta in
/-- the reader primitives (`code_point_with_offset(0)`, `eat`, `advance`, `rewind`) at the head of the computation -/
elab "rx5_prim" : tactic => do
  let here ← uatHereC
  let cands ← uatCandidates
  for h in here do
    let saved ← saveState
    try
      evalTactic (← `(tactic| first
        | (with_reducible refine Wc.bind_cpo0 $h (fun hr => ?nil) (fun _ _ hr => ?cons);
           (case' nil => first | subst hr | cases hr); (case' cons => first | subst hr | cases hr))
        | (with_reducible refine Wc.bind_eat_ne $h ?hne ?_;
           (case hne => first | with_reducible assumption | exact head_ne_of_ne (by decide) _ | exact nil_head_ne _))
        | (with_reducible refine Wc.bind_eat $h (fun _ hr _ => ?t) (fun hf => ?f); (case' t => first | subst hr | cases hr);
           (case' f => first | (exact absurd rfl hf) | skip))
        | (with_reducible refine Wc.bind_eat2_ne $h ?hne ?_;
           (case hne => rx5_ne2))
        | (with_reducible refine Wc.bind_eat3_ne $h ?hne ?_;
           (case hne => rx5_ne3))
        | (with_reducible refine Wc.bind_eat2 $h (fun _ hr _ => ?t) (fun hf => ?f); (case' t => first | subst hr | cases hr);
           (case' f => first | (exact absurd ⟨_, rfl⟩ hf) | skip))
        | (with_reducible refine Wc.bind_eat3 $h (fun _ hr _ => ?t) (fun hf => ?f); (case' t => first | subst hr | cases hr);
           (case' f => first | (exact absurd ⟨_, rfl⟩ hf) | skip))
        | with_reducible refine Wc.bind_advance_cons $h (fun _ => ?_)
        | with_reducible refine Wc.bind_advance_nil $h ?_
        | with_reducible refine Wc.bind_cpo $h (by decide) ?_))
      return
    catch _ => restoreState saved
  for h in here do
    for h0 in cands do
      let saved ← saveState
      try
        evalTactic (← `(tactic| with_reducible refine Wc.bind_rewind $h $h0 (fun _ => ?_)))
        return
      catch _ => restoreState saved
  for h in here do
    let saved ← saveState
    try
      evalTactic (← `(tactic| with_reducible refine Wc.bind_rewind' $h ?hle (fun _ => ?_)))
      evalTactic (← `(tactic| case hle => first | assumption | omega))
      return
    catch _ => restoreState saved
  throwError "rx5_prim: no reader primitive applies"

/-- side conditions of a conditional specification -/
syntax "rx5_side" : tactic
macro_rules
  | `(tactic| rx5_side) => `(tactic| first
    | with_reducible assumption
    | omega
    | rfl
    | exact head_ne_of_ne (by decide) _
    | exact nil_head_ne _
    | (intro h; cases h; done)
    | (refine ⟨?_, ?_⟩ <;> rx5_side)
    | decide)

open Lean Elab Tactic Meta in
/-- `f args >>= g` for an `f` with a specification `DL.Rx.S.f`: hypotheses of the specification are looked up with
`rx4_at`; the postcondition becomes a hypothesis -/
elab "rx5_known" : tactic => do
  let g ← getMainGoal
  g.withContext do
    let t ← instantiateMVars (← g.getType)
    unless t.isAppOfArity ``DL.Rx.Wc 3 do throwError "rx5_known: not a Wp goal"
    let res := t.getAppArgs[1]!
    -- res = (m >>= g) s
    let comp := res.appFn!
    unless comp.isAppOfArity ``Bind.bind 6 do throwError "rx5_known: not a bind"
    let m := comp.getAppArgs[4]!
    let .const n _ := m.getAppFn | throwError "rx5_known: no head constant"
    let mut fns : Array (TSyntax `term × Expr) := #[]
    for decl in (← getLCtx) do
      if decl.isImplementationDetail then continue
      let ty ← instantiateMVars decl.type
      let hit ← withNewMCtxDepth do
        let (_, _, concl) ← forallMetaTelescope ty
        if concl.isAppOfArity ``DL.Rx.Wc 3 then
          match concl.getAppArgs[1]!.appFn!.getAppFn with
          | .const n' _ => pure (n' == n)
          | _ => pure false
        else pure false
      if hit then
        fns := fns.push (← Term.exprToSyntax (mkFVar decl.fvarId), ty)
    if fns.isEmpty then
      let .str _ last := n | throwError "rx5_known: anonymous"
      for suf in ["_wc", "_wcn", "_wcm"] do
        let lem := Name.str `DL.Rx (last ++ suf)
        if let some ci := (← getEnv).find? lem then
          fns := fns.push (mkIdent lem, ci.type)
    if fns.isEmpty then throwError "rx5_known: no lemma for {n}"
    let cands0 ← uatHereC
    let hole ← `(_)
    for (f, ty) in fns do
      -- kinds of the explicit arguments: 0 = data fixed by the goal or the `UAt` fact, 1 = a `UAt` hypothesis,
      -- 2 = another hypothesis, 3 = data fixed only by the side conditions
      let kinds ← forallTelescope ty fun xs concl => do
        let mut ks : Array Nat := #[]
        let mut anchor : Array Expr := #[concl.getAppArgs[1]!]
        for x in xs do
          let d ← x.fvarId!.getDecl
          if d.binderInfo.isExplicit && d.type.isAppOfArity ``DL.Rx.UAt 4 then anchor := anchor.push d.type
        for x in xs do
          let d ← x.fvarId!.getDecl
          if d.binderInfo.isExplicit then
            if d.type.isAppOfArity ``DL.Rx.UAt 4 then ks := ks.push 1
            else if ← isProp d.type then ks := ks.push 2
            else if anchor.any (fun e => e.containsFVar x.fvarId!) then ks := ks.push 0
            else ks := ks.push 3
        return ks
      let cands := if kinds.contains 1 then cands0 else #[hole]
      for h in cands do
        let saved ← saveState
        try
          let mut args : Array (TSyntax `term) := #[]
          let mut holes := 0
          for k in kinds do
            if k == 0 then args := args.push (← `(_))
            else if k == 1 then args := args.push h
            else
              args := args.push (← `(?_))
              holes := holes + 1
          evalTactic (← `(tactic| refine Wc.call ($f $args*) (fun _ _ hpost => ?_)))
          let gs ← getGoals
          let side := gs.take holes
          let rest := gs.drop holes
          for sg in side do
            if ← sg.isAssigned then continue
            let isP ← sg.withContext do isProp (← sg.getType)
            if isP then
              setGoals [sg]
              evalTactic (← `(tactic| rx5_side))
          for sg in side do
            unless ← sg.isAssigned do throwError "rx5_known: undetermined argument"
          setGoals rest
          evalTactic (← `(tactic| rx4_destruct))
          return
        catch _ => restoreState saved
    throwError "rx5_known: the specification of {n} does not apply"

open Lean Elab Tactic Meta in
/-- decide the mode test (`u_flag`, `strict`, `n_flag`) that is the condition of the `if` at the head of the computation,
from the `UAt` facts; only the condition is simplified, the state terms are left alone -/
elab "rx5_modes" : tactic => do
  let facts ← factTerms
  let g ← getMainGoal
  let cstx ← g.withContext do
    let t ← instantiateMVars (← g.getType)
    unless t.isAppOfArity ``DL.Rx.Wc 3 do throwError "not a Wp goal"
    let comp := t.getAppArgs[1]!.appFn!
    let ite := if comp.isAppOfArity ``Bind.bind 6 then comp.getAppArgs[4]! else comp
    unless ite.isAppOfArity ``ite 5 do throwError "not an ite"
    Term.exprToSyntax ite.getAppArgs[1]!
  evalTactic (← `(tactic| first
    | (have hcond : $cstx := by
         first
         | rfl
         | decide
         | ((try dsimp only [st_simp])
            simp only [$[$facts:term],*, *, Bool.or_true, Bool.true_or, Bool.or_self, Bool.and_self,
              Bool.not_true, Bool.not_false, Bool.and_true, Bool.true_and, Bool.and_false, Bool.false_and,
              Bool.false_or, Bool.or_false, Bool.false_eq_true])
       rw [if_pos hcond]; clear hcond)
    | (have hcond : ¬ $cstx := by
         first
         | decide
         | ((try dsimp only [st_simp])
            simp only [$[$facts:term],*, *, Bool.or_true, Bool.true_or, Bool.or_self, Bool.and_self,
              Bool.not_true, Bool.not_false, Bool.and_true, Bool.true_and, Bool.and_false, Bool.false_and,
              Bool.false_or, Bool.or_false, Bool.false_eq_true, not_false_eq_true])
       rw [if_neg hcond]; clear hcond)))

macro "rx5_step" : tactic => `(tactic| (show Wc _ _; first
  | (rx5_is_ite; rx5_modes)
  | (rx5_is_bind_ite; rx5_modes)
  | (rx5_is_ite; refine Wc.ite (fun hc => ?pos) (fun hn => ?neg);
     (case' pos => first | contradiction | (exact absurd hc (by decide)) | (subst hc; rx4_iteh; rx4_destruct)
                         | (simp only [Bool.not_eq_true'] at hc; subst hc; rx4_iteh; rx4_destruct) | skip);
     (case' neg => first | contradiction | (exact absurd (by decide) hn)
                         | (simp only [Bool.not_eq_true, Bool.not_eq_true', Bool.not_eq_false] at hn; subst hn; rx4_iteh; rx4_destruct) | skip))
  | (rx5_is_bind_ite; refine Wc.bind_ite (fun hc => ?pos) (fun hn => ?neg);
     (case' pos => first | contradiction | (exact absurd hc (by decide)) | (subst hc; rx4_iteh; rx4_destruct)
                         | (simp only [Bool.not_eq_true'] at hc; subst hc; rx4_iteh; rx4_destruct) | skip);
     (case' neg => first | contradiction | (exact absurd (by decide) hn)
                         | (simp only [Bool.not_eq_true, Bool.not_eq_true', Bool.not_eq_false] at hn; subst hn; rx4_iteh; rx4_destruct) | skip))
  | with_reducible refine Wc.bind_pure ?_
  | with_reducible refine Wc.bind_assoc ?_
  | with_reducible refine Wc.bind_orM ?_
  | with_reducible refine Wc.bind_andM ?_
  | with_reducible refine Wc.bind_getSt ?_
  | with_reducible refine Wc.bind_index ?_
  | (with_reducible refine Wc.bind_fail ?_; first | contradiction | skip)
  | with_reducible exact Wc.bind_outOfFuel
  | with_reducible exact Wc.bind_rustPanic
  | with_reducible exact Wc.outOfFuel
  | with_reducible refine Wc.bind_unwrap (fun _ _ => ?_)
  | with_reducible refine Wc.bind_setInt ?_
  | with_reducible refine Wc.bind_setStr ?_
  | with_reducible refine Wc.bind_modSt ?_
  | rx5_known
  | rx5_prim
  | (with_reducible refine Wc.pure ?_)
  | dsimp only
  | split
  | ((fail_if_success (with_reducible refine Wc.bind ?_));
     (fail_if_success (with_reducible refine Wc.pure ?_)); with_reducible refine Wc.tail ?_)))

macro "rx5_auto" : tactic => `(tactic| repeat' rx5_step)
/-- like `rx5_auto`, substituting explicit state equations as they appear -/
macro "rx5_autos" : tactic => `(tactic| repeat' (rx5_step <;> rx4_subst))

/-- close a conjunction of the routine kinds of leaf facts (leaves the others) -/
macro "rx5_fin" : tactic => `(tactic| (
  repeat' (with_reducible refine And.intro ?_ ?_)
  all_goals (try first | rfl | rx4_at | rx4_keep | with_reducible assumption | (st_norm; done) | (st_norm; omega))))

/-- close a leaf: contradictory, or routine -/
macro "rx5_close" : tactic => `(tactic| first
  | contradiction
  | (exact absurd rfl ‹_ ≠ _›)
  | (rx5_fin; done))

end DL.Rx
