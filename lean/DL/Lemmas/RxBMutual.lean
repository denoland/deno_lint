import DL.Lemmas.RxBClass
import DL.Lemmas.RxSpecMutual

/-! # Annex B (no `u` flag): the recursive productions -/
namespace DL.Rx
open DL.RxSpec DL.Gen.Unicode
attribute [local irreducible] isScalar
variable {src : List Nat} {K : Bool × Nat}

/-- a sequence of `Term`s (what the loop of `consume_alternative` reads) -/
inductive AltTailB (K : Bool × Nat) : Str → Str → Attr → Prop
  | nil (r : Str) : AltTailB K r r Attr.nil
  | cons (r m r1 : Str) (a₁ a₂ : Attr) : RxSpecB.Derives K.1 qokSat K.2 .Term r m a₁ → AltTailB K m r1 a₂ → AltTailB K r r1 (a₁ ++ a₂)

/-- a sequence of `| Alternative`s (what the loop of `consume_disjunction` reads) -/
inductive DisjTailB (K : Bool × Nat) : Str → Str → Attr → Prop
  | nil (r : Str) : DisjTailB K r r Attr.nil
  | cons (m m₂ r1 : Str) (a₁ a₂ : Attr) : RxSpecB.Derives K.1 qokSat K.2 .Alternative m m₂ a₁ → DisjTailB K m₂ r1 a₂ →
      DisjTailB K (c '|' :: m) r1 (a₁ ++ a₂)

theorem alt_of_tailB {r m r1 : Str} {a₀ a : Attr} (h0 : RxSpecB.Derives K.1 qokSat K.2 .Alternative r m a₀) (h : AltTailB K m r1 a) :
    RxSpecB.Derives K.1 qokSat K.2 .Alternative r r1 (a₀ ++ a) := by
  induction h generalizing a₀ r with
  | nil r' => rw [Attr.append_nil]; exact h0
  | cons r' m' r1' a₁ a₂ ht _ ih =>
    have := ih (RxSpecB.Derives.altSnoc r r' m' a₀ a₁ h0 ht)
    rw [Attr.append_assoc] at this; exact this

theorem disj_of_tailB {r m r1 : Str} {a₀ a : Attr} (h0 : RxSpecB.Derives K.1 qokSat K.2 .Alternative r m a₀) (h : DisjTailB K m r1 a) :
    RxSpecB.Derives K.1 qokSat K.2 .Disjunction r r1 (a₀ ++ a) := by
  induction h generalizing a₀ r with
  | nil r' => rw [Attr.append_nil]; exact RxSpecB.Derives.disjOne _ _ _ h0
  | cons m' m₂ r1' a₁ a₂ halt _ ih =>
    exact RxSpecB.Derives.disjMore r m' r1' a₀ (a₁ ++ a₂) h0 (ih halt)

theorem alt_of_tailB' {r r1 : Str} {a : Attr} (h : AltTailB K r r1 a) : RxSpecB.Derives K.1 qokSat K.2 .Alternative r r1 a := by
  have := alt_of_tailB (RxSpecB.Derives.altEmpty r) h
  rw [Attr.nil_append] at this; exact this


theorem consumeReverseSolidusAtomEscape_wb (hN : K.2 < 2 ^ 62) (hsrc : ∀ x ∈ src, x ≤ 0xFFFF) (n : Nat) (r : List Nat)
    (s : St) (h : BAt src K r s) :
    Wp (consumeReverseSolidusAtomEscape n s) (fun b s1 =>
      if b = true then ∃ r1 a, BAt src K r1 s1 ∧ RxSpecB.Derives K.1 qokSat K.2 .ExtendedAtom r r1 a ∧ Track s s1 a
      else BAt src K r s1 ∧ KeepN s s1 ∧ ∀ m, r = c '\\' :: m → ¬∃ r1 v, RxSpecB.CharacterEscape K.1 m r1 v) := by
  unfold consumeReverseSolidusAtomEscape
  rx6_auto
  · rename_i m hat0 s1 hat1 hk hno hat2
    rw [if_neg (by decide)]
    refine ⟨hat2, by rx6_keep, ?_⟩
    intro m' e
    have e' : m = m' := (List.cons.inj e).2
    subst e'
    exact hno
  · rename_i m hat0 s1 r1 a hat1 hae htr
    rw [if_pos rfl]
    exact ⟨r1, a, hat1, RxSpecB.Derives.atomEscape m r1 a hae, Track.pre (s1 := s.setPos src (s.reader.index + 1)) ⟨rfl, rfl⟩ htr⟩
  · rename_i hne
    rw [if_neg (by decide)]
    exact ⟨h, KeepN.refl s, fun m e => absurd (by rw [e]; rfl) hne⟩

theorem not_startsWordBoundary {r : List Nat} (hB : ¬∃ r', r = ch '\\' :: ch 'B' :: r')
    (hb : ¬∃ r', r = ch '\\' :: ch 'b' :: r') : ¬RxSpecB.StartsWordBoundary r :=
  fun ⟨r', e⟩ => e.elim (fun e => hb ⟨r', e⟩) (fun e => hB ⟨r', e⟩)

structure AllSpecB (src : List Nat) (K : Bool × Nat) (n : Nat) : Prop where
  disjunction : ∀ (r : List Nat) (s : St), BAt src K r s → Wp (consumeDisjunction n s) (fun _ s1 =>
    ∃ r1 a, BAt src K r1 s1 ∧ RxSpecB.Derives K.1 qokSat K.2 .Disjunction r r1 a ∧ Track s s1 a)
  disjunctionLoop : ∀ (r : List Nat) (s : St), BAt src K r s → Wp (consumeDisjunctionLoop n s) (fun _ s1 =>
    ∃ r1 a, BAt src K r1 s1 ∧ DisjTailB K r r1 a ∧ Track s s1 a)
  alternative : ∀ (r : List Nat) (s : St), BAt src K r s → Wp (consumeAlternative n s) (fun _ s1 =>
    ∃ r1 a, BAt src K r1 s1 ∧ AltTailB K r r1 a ∧ Track s s1 a)
  term : ∀ (r : List Nat) (s : St), BAt src K r s → Wp (consumeTerm n s) (fun b s1 =>
    if b = true then ∃ r1 a, BAt src K r1 s1 ∧ RxSpecB.Derives K.1 qokSat K.2 .Term r r1 a ∧ Track s s1 a
    else BAt src K r s1 ∧ KeepN s s1)
  assertion : ∀ (r : List Nat) (s : St), BAt src K r s → Wp (consumeAssertion n s) (fun b s1 =>
    if b = true then ∃ r1 a, BAt src K r1 s1 ∧ Track s s1 a ∧
      ((s1.lastAssertionIsQuantifiable = true ∧ RxSpecB.Derives K.1 qokSat K.2 .QuantifiableAssertion r r1 a) ∨
       (s1.lastAssertionIsQuantifiable = false ∧ RxSpecB.Derives K.1 qokSat K.2 .Assertion r r1 a))
    else BAt src K r s1 ∧ KeepN s s1 ∧ ¬RxSpecB.StartsWordBoundary r)
  extendedAtom : ∀ (r : List Nat) (s : St), BAt src K r s → Wp (consumeExtendedAtom n s) (fun b s1 =>
    if b = true then ∃ r1 a, BAt src K r1 s1 ∧ RxSpecB.Derives K.1 qokSat K.2 .ExtendedAtom r r1 a ∧ Track s s1 a
    else BAt src K r s1 ∧ KeepN s s1)
  uncapturingGroup : ∀ (r : List Nat) (s : St), BAt src K r s → Wp (consumeUncapturingGroup n s) (fun b s1 =>
    if b = true then ∃ r1 a, BAt src K r1 s1 ∧ RxSpecB.Derives K.1 qokSat K.2 .ExtendedAtom r r1 a ∧ Track s s1 a
    else BAt src K r s1 ∧ KeepN s s1)
  capturingGroup : ∀ (r : List Nat) (s : St), BAt src K r s → Wp (consumeCapturingGroup n s) (fun b s1 =>
    if b = true then ∃ r1 a, BAt src K r1 s1 ∧ RxSpecB.Derives K.1 qokSat K.2 .ExtendedAtom r r1 a ∧ Track s s1 a
    else BAt src K r s1 ∧ KeepN s s1)

theorem AllSpecB.disjunction_succ {n : Nat} (ih : AllSpecB src K n) (r : List Nat) (s : St)
    (h : BAt src K r s) : Wp (consumeDisjunction (n + 1) s) (fun _ s1 =>
    ∃ r1 a, BAt src K r1 s1 ∧ RxSpecB.Derives K.1 qokSat K.2 .Disjunction r r1 a ∧ Track s s1 a) := by
  have ih_alternative := ih.alternative
  have ih_disjunctionLoop := ih.disjunctionLoop
  unfold consumeDisjunction
  rx6_auto
  rename_i _ s1 m a1 hat1 halt htr1 _ s2 r1 a2 hat2 hdt htr2 s3 hk hat3 _
  exact ⟨r1, a1 ++ a2, hat3, disj_of_tailB (alt_of_tailB' halt) hdt, (htr1.trans htr2).post hk⟩

theorem AllSpecB.disjunctionLoop_succ {n : Nat} (ih : AllSpecB src K n) (r : List Nat) (s : St)
    (h : BAt src K r s) : Wp (consumeDisjunctionLoop (n + 1) s) (fun _ s1 =>
    ∃ r1 a, BAt src K r1 s1 ∧ DisjTailB K r r1 a ∧ Track s s1 a) := by
  have ih_alternative := ih.alternative
  have ih_disjunctionLoop := ih.disjunctionLoop
  unfold consumeDisjunctionLoop
  rx6_auto
  · rename_i m hat0 _ s1 m2 a1 hat1 halt htr1 _ s2 r1 a2 hat2 hdt htr2
    exact ⟨r1, a1 ++ a2, hat2, DisjTailB.cons m m2 r1 a1 a2 (alt_of_tailB' halt) hdt,
      (Track.pre (s := s) (s1 := s.setPos src (s.reader.index + 1)) ⟨rfl, rfl⟩ htr1).trans htr2⟩
  · exact ⟨r, Attr.nil, h, DisjTailB.nil r, Track.ofKeepN (KeepN.refl s)⟩

theorem AllSpecB.alternative_succ {n : Nat} (ih : AllSpecB src K n) (r : List Nat) (s : St)
    (h : BAt src K r s) : Wp (consumeAlternative (n + 1) s) (fun _ s1 =>
    ∃ r1 a, BAt src K r1 s1 ∧ AltTailB K r r1 a ∧ Track s s1 a) := by
  have ih_term := ih.term
  have ih_alternative := ih.alternative
  unfold consumeAlternative
  rx6_auto
  · rename_i x r' s1 hat1 hk
    exact ⟨_, Attr.nil, hat1, AltTailB.nil _, Track.ofKeepN hk⟩
  · rename_i x r' s1 m a1 hat1 hterm htr1 _ s2 r1 a2 hat2 htail htr2
    exact ⟨r1, a1 ++ a2, hat2, AltTailB.cons _ m r1 a1 a2 hterm htail, htr1.trans htr2⟩
  · exact ⟨[], Attr.nil, h, AltTailB.nil _, Track.ofKeepN (KeepN.refl s)⟩

theorem AllSpecB.term_succ {n : Nat} (ih : AllSpecB src K n) (r : List Nat) (s : St)
    (h : BAt src K r s) : Wp (consumeTerm (n + 1) s) (fun b s1 =>
    if b = true then ∃ r1 a, BAt src K r1 s1 ∧ RxSpecB.Derives K.1 qokSat K.2 .Term r r1 a ∧ Track s s1 a
    else BAt src K r s1 ∧ KeepN s s1) := by
  have ih_assertion := ih.assertion
  have ih_extendedAtom := ih.extendedAtom
  unfold consumeTerm
  rx6_auto
  · rename_i s1 hat1 hk1 hws s2 hat2 hk2
    rw [if_neg (by decide)]
    exact ⟨hat2, hk1.trans hk2⟩
  · rename_i s1 hat1 hk1 hws s2 m a hat2 hatom htr b s3 hb hk3 r1 hat3 hq
    subst hb
    rw [if_pos rfl]
    refine ⟨r1, a, hat3, ?_, (Track.pre hk1 htr).post hk3⟩
    rcases hq with rfl | hq
    · exact RxSpecB.Derives.termAtom _ _ _ hatom hws
    · exact RxSpecB.Derives.termAtomQuantified _ m _ _ hatom hq hws
  · -- a quantifiable assertion, with or without a quantifier
    rename_i s1 m a hat1 htr hd hn s2 hk2 r1 hat2 hq _
    rw [if_pos rfl]
    have hl : s1.lastAssertionIsQuantifiable = true := by
      cases hb : s1.lastAssertionIsQuantifiable
      · rw [hb] at hn; exact absurd rfl hn
      · rfl
    have hqa : RxSpecB.Derives K.1 qokSat K.2 .QuantifiableAssertion r m a := by
      rcases hd with ⟨_, hd⟩ | ⟨hf, _⟩
      · exact hd
      · rw [hl] at hf; cases hf
    refine ⟨r1, a, hat2, ?_, htr.post hk2⟩
    rcases hq with rfl | hq
    · exact RxSpecB.Derives.termAssertion _ _ _ (RxSpecB.Derives.quantifiable _ _ _ hqa)
    · exact RxSpecB.Derives.termQAssertionQuantified _ m _ _ hqa hq
  · -- an assertion that cannot be quantified
    rename_i s1 m a hat1 htr hd hc
    rw [if_pos rfl]
    refine ⟨m, a, hat1, RxSpecB.Derives.termAssertion _ _ _ ?_, htr⟩
    rcases hd with ⟨_, hd⟩ | ⟨_, hd⟩
    · exact RxSpecB.Derives.quantifiable _ _ _ hd
    · exact hd

/-- a failing answer leaves the reader at `start` -/
theorem lookaround_wb {n : Nat} (ih : AllSpecB src K n) (start : Nat) (hs : start ≤ src.length) (r : List Nat) (s : St)
    (h : BAt src K r s) :
    Wp (lookaround n start s) (fun b s1 =>
      if b = true then ∃ r1 a, BAt src K r1 s1 ∧ Track s s1 a ∧
        ((s1.lastAssertionIsQuantifiable = true ∧
            RxSpecB.Derives K.1 qokSat K.2 .QuantifiableAssertion (c '(' :: c '?' :: r) r1 a) ∨
         (s1.lastAssertionIsQuantifiable = false ∧ RxSpecB.Derives K.1 qokSat K.2 .Assertion (c '(' :: c '?' :: r) r1 a))
      else BAt src K (src.drop start) s1 ∧ KeepN s s1) := by
  have ih_disjunction := ih.disjunction
  unfold lookaround lookaroundBody
  rx6_auto
  · rename_i a htr r1 hat1 _ hd
    rw [if_pos rfl]
    exact ⟨r1, a, by rx6_at, (Track.pre' (s := s) htr ⟨rfl, rfl⟩).post ⟨rfl, rfl⟩,
      .inr ⟨rfl, RxSpecB.Derives.lookbehind _ _ r1 a rfl hd⟩⟩
  · rename_i a htr r1 hat1 _ hd
    rw [if_pos rfl]
    exact ⟨r1, a, by rx6_at, (Track.pre' (s := s) htr ⟨rfl, rfl⟩).post ⟨rfl, rfl⟩,
      .inr ⟨rfl, RxSpecB.Derives.negativeLookbehind _ _ r1 a rfl hd⟩⟩
  · rw [if_neg (by decide)]
    exact ⟨by rx6_at, by rx6_keep⟩
  · rename_i a htr r1 hat1 _ hd
    rw [if_pos rfl]
    exact ⟨r1, a, by rx6_at, (Track.pre' (s := s) htr ⟨rfl, rfl⟩).post ⟨rfl, rfl⟩,
      .inl ⟨by show (!false && !(_ : St).strict) = true; rw [hat1.strict']; rfl,
        RxSpecB.Derives.lookahead _ _ r1 a rfl hd⟩⟩
  · rename_i a htr r1 hat1 _ hd
    rw [if_pos rfl]
    exact ⟨r1, a, by rx6_at, (Track.pre' (s := s) htr ⟨rfl, rfl⟩).post ⟨rfl, rfl⟩,
      .inl ⟨by show (!false && !(_ : St).strict) = true; rw [hat1.strict']; rfl,
        RxSpecB.Derives.negativeLookahead _ _ r1 a rfl hd⟩⟩
  · rw [if_neg (by decide)]
    exact ⟨by rx6_at, by rx6_keep⟩

theorem AllSpecB.assertion_succ {n : Nat} (ih : AllSpecB src K n) (r : List Nat) (s : St)
    (h : BAt src K r s) : Wp (consumeAssertion (n + 1) s) (fun b s1 =>
    if b = true then ∃ r1 a, BAt src K r1 s1 ∧ Track s s1 a ∧
      ((s1.lastAssertionIsQuantifiable = true ∧ RxSpecB.Derives K.1 qokSat K.2 .QuantifiableAssertion r r1 a) ∨
       (s1.lastAssertionIsQuantifiable = false ∧ RxSpecB.Derives K.1 qokSat K.2 .Assertion r r1 a))
    else BAt src K r s1 ∧ KeepN s s1 ∧ ¬RxSpecB.StartsWordBoundary r) := by
  have hlook := lookaround_wb ih s.reader.index h.inv.le
  rw [consumeAssertion_succ_eq]
  rx6_auto
  · rw [if_pos rfl]
    exact ⟨_, Attr.nil, by rx6_at, Track.ofKeepN ⟨rfl, rfl⟩, .inr ⟨rfl, RxSpecB.Derives.caret _⟩⟩
  · rw [if_pos rfl]
    exact ⟨_, Attr.nil, by rx6_at, Track.ofKeepN ⟨rfl, rfl⟩, .inr ⟨rfl, RxSpecB.Derives.dollar _⟩⟩
  · rw [if_pos rfl]
    exact ⟨_, Attr.nil, by rx6_at, Track.ofKeepN ⟨rfl, rfl⟩, .inr ⟨rfl, RxSpecB.Derives.notWordBoundary _⟩⟩
  · rw [if_pos rfl]
    exact ⟨_, Attr.nil, by rx6_at, Track.ofKeepN ⟨rfl, rfl⟩, .inr ⟨rfl, RxSpecB.Derives.wordBoundary _⟩⟩
  · rename_i hB hb b s1 hpost
    cases b
    · rw [if_neg (by decide)] at hpost ⊢
      exact ⟨h.rest ▸ hpost.1, ⟨hpost.2.gn, hpost.2.bn⟩, not_startsWordBoundary hB hb⟩
    · rw [if_pos rfl] at hpost ⊢
      obtain ⟨r1, a, hat, htr, hd⟩ := hpost
      exact ⟨r1, a, hat, htr.pre' ⟨rfl, rfl⟩, hd⟩
  · rename_i hB hb _
    rw [if_neg (by decide)]
    exact ⟨by rx6_at, by rx6_keep, not_startsWordBoundary hB hb⟩

theorem eat_wb (x : Char) (r : List Nat) (s : St) (h : BAt src K r s) :
    Wp (eat x s) (fun b s1 => if b = true then ∃ r1, r = ch x :: r1 ∧ BAt src K r1 s1 ∧ KeepN s s1
      else s1 = s) :=
  Wp.tail (WpB.bind_eat h (fun r1 e h1 => Wp.pure ((if_pos rfl).mpr ⟨r1, e, h1, rfl, rfl⟩))
    (fun _ => Wp.pure ((if_neg Bool.false_ne_true).mpr rfl)))

theorem AllSpecB.extendedAtom_succ {n : Nat} (ih : AllSpecB src K n) (hN : K.2 < 2 ^ 62) (hsrc : ∀ x ∈ src, x ≤ 0xFFFF) (r : List Nat) (s : St)
    (h : BAt src K r s) : Wp (consumeExtendedAtom (n + 1) s) (fun b s1 =>
    if b = true then ∃ r1 a, BAt src K r1 s1 ∧ RxSpecB.Derives K.1 qokSat K.2 .ExtendedAtom r r1 a ∧ Track s s1 a
    else BAt src K r s1 ∧ KeepN s s1) := by
  unfold consumeExtendedAtom
  refine Wp.orM_cases (eat_wb '.' r s h) (fun s1 ⟨r1, e, h1, k1⟩ => ?_) (fun s1 e => ?_)
  · exact (if_pos rfl).mpr ⟨r1, Attr.nil, h1, e ▸ RxSpecB.Derives.dot _, Track.ofKeepN k1⟩
  rw [e]
  refine Wp.orM_cases (consumeReverseSolidusAtomEscape_wb hN hsrc n r s h) (fun s1 g => (if_pos rfl).mpr g)
    (fun s1 ⟨h1, k1, hno⟩ => ?_)
  refine Wp.orM_cases (consumeReverseSolidusFollowedByC_wb r s1 h1).and_ite (fun s2 ⟨k2, w, hr, h2⟩ => ?_)
    (fun s2 ⟨k2, h2⟩ => ?_)
  · subst hr
    refine (if_pos rfl).mpr ⟨_, Attr.nil, h2, RxSpecB.Derives.backslashC w ?_, Track.ofKeepN (k1.trans k2.toN)⟩
    intro l hl hcl
    cases w with
    | nil => cases hl
    | cons l' w' =>
      cases hl
      exact hno _ rfl ⟨w', l % 32, RxSpecB.CharacterEscape.controlLetter l w' hcl⟩
  have k2 := k1.trans k2.toN
  refine Wp.orM_cases (consumeCharacterClass_wb hsrc n r s2 h2).and_ite (fun s3 ⟨k3, r1, h3, hc⟩ => ?_)
    (fun s3 ⟨k3, h3⟩ => ?_)
  · exact (if_pos rfl).mpr ⟨r1, Attr.nil, h3, RxSpecB.Derives.characterClass _ _ hc, Track.ofKeepN (k2.trans k3)⟩
  have k3 := k2.trans k3
  have ok : ∀ s0 s1, KeepN s s0 →
      (∃ r1 a, BAt src K r1 s1 ∧ RxSpecB.Derives K.1 qokSat K.2 .ExtendedAtom r r1 a ∧ Track s0 s1 a) →
      if true = true then ∃ r1 a, BAt src K r1 s1 ∧ RxSpecB.Derives K.1 qokSat K.2 .ExtendedAtom r r1 a ∧ Track s s1 a
      else BAt src K r s1 ∧ KeepN s s1 :=
    fun s0 s1 k ⟨r1, a, h1, d, t⟩ => (if_pos rfl).mpr ⟨r1, a, h1, d, t.pre k⟩
  refine Wp.orM_cases (ih.uncapturingGroup r s3 h3) (fun s4 => ok s3 s4 k3) (fun s4 ⟨h4, k4⟩ => ?_)
  have k4 := k3.trans k4
  refine Wp.orM_cases (ih.capturingGroup r s4 h4) (fun s5 => ok s4 s5 k4) (fun s5 ⟨h5, k5⟩ => ?_)
  have k5 := k4.trans k5
  refine Wp.bind ((consumeInvalidBracedQuantifier_wb n r s5 h5).mono ?_)
  rintro _ s6 ⟨rfl, h6, k6, hno6⟩
  refine (consumeExtendedPatternCharacter_wb hsrc r s6 h6).mono fun b s7 ⟨k7, hb⟩ => ?_
  have k7 := (k5.trans k6).trans k7.toN
  cases b
  · exact (if_neg Bool.false_ne_true).mpr ⟨(if_neg Bool.false_ne_true).mp hb, k7⟩
  · obtain ⟨x, r1, rfl, hx, h7⟩ := (if_pos rfl).mp hb
    exact (if_pos rfl).mpr ⟨r1, Attr.nil, h7, RxSpecB.Derives.extendedPatternCharacter x r1 hx hno6, Track.ofKeepN k7⟩

theorem AllSpecB.uncapturingGroup_succ {n : Nat} (ih : AllSpecB src K n) (r : List Nat) (s : St)
    (h : BAt src K r s) : Wp (consumeUncapturingGroup (n + 1) s) (fun b s1 =>
    if b = true then ∃ r1 a, BAt src K r1 s1 ∧ RxSpecB.Derives K.1 qokSat K.2 .ExtendedAtom r r1 a ∧ Track s s1 a
    else BAt src K r s1 ∧ KeepN s s1) := by
  have ih_disjunction := ih.disjunction
  unfold consumeUncapturingGroup
  rx6_auto
  · rename_i m hat0 _ s1 a htr r1 hat1 hat2 hd
    rw [if_pos rfl]
    exact ⟨r1, a, by rx6_at, RxSpecB.Derives.nonCapturing _ m r1 a rfl hd,
      Track.post (Track.pre' (s := s) htr ⟨rfl, rfl⟩) ⟨rfl, rfl⟩⟩
  · rw [if_neg (by decide)]
    exact ⟨h, KeepN.refl s⟩

theorem AllSpecB.capturingGroup_succ {n : Nat} (ih : AllSpecB src K n) (r : List Nat) (s : St)
    (h : BAt src K r s) : Wp (consumeCapturingGroup (n + 1) s) (fun b s1 =>
    if b = true then ∃ r1 a, BAt src K r1 s1 ∧ RxSpecB.Derives K.1 qokSat K.2 .ExtendedAtom r r1 a ∧ Track s s1 a
    else BAt src K r s1 ∧ KeepN s s1) := by
  have ih_disjunction := ih.disjunction
  unfold consumeCapturingGroup
  rx6_auto
  · rename_i m hat0 b s1 hpost
    cases b
    · rw [if_neg (by decide)] at hpost
      obtain ⟨hat1, hk1⟩ := hpost
      rx6_auto
      rename_i _ s2 a htr r1 hat2 hat3 hd
      rw [if_pos rfl]
      refine ⟨r1, ⟨[none], []⟩ ++ a, by rx6_at, RxSpecB.Derives.group m m r1 none a (RxSpecB.GroupSpecifier.empty m) hd, ?_⟩
      have h0 : Track s s1 ⟨[none], []⟩ :=
        Track.pre' (s := s) (s1 := s.setPos src (s.reader.index + 1)) (Track.ofKeepN_none hk1) ⟨rfl, rfl⟩
      exact Track.post (h0.trans htr) ⟨rfl, rfl⟩
    · rw [if_pos rfl] at hpost
      obtain ⟨m2, nm, hat1, hgs, htr1⟩ := hpost
      rx6_auto
      rename_i _ s2 a htr r1 hat2 hat3 hd
      rw [if_pos rfl]
      refine ⟨r1, ⟨[some nm], []⟩ ++ a, by rx6_at, RxSpecB.Derives.group m m2 r1 (some nm) a hgs hd, ?_⟩
      have h0 : Track s s1 ⟨[some nm], []⟩ :=
        Track.pre' (s := s) (s1 := s.setPos src (s.reader.index + 1)) htr1 ⟨rfl, rfl⟩
      exact Track.post (h0.trans htr) ⟨rfl, rfl⟩
  · rw [if_neg (by decide)]
    exact ⟨h, KeepN.refl s⟩

theorem allSpecB (hN : K.2 < 2 ^ 62) (hsrc : ∀ x ∈ src, x ≤ 0xFFFF) : ∀ n, AllSpecB src K n
  | 0 => by
    constructor
    · intro r s h; unfold consumeDisjunction; exact Wp.outOfFuel
    · intro r s h; unfold consumeDisjunctionLoop; exact Wp.outOfFuel
    · intro r s h; unfold consumeAlternative; exact Wp.outOfFuel
    · intro r s h; unfold consumeTerm; exact Wp.outOfFuel
    · intro r s h; unfold consumeAssertion; exact Wp.outOfFuel
    · intro r s h; unfold consumeExtendedAtom; exact Wp.outOfFuel
    · intro r s h; unfold consumeUncapturingGroup; exact Wp.outOfFuel
    · intro r s h; unfold consumeCapturingGroup; exact Wp.outOfFuel
  | n + 1 =>
    have ih := allSpecB hN hsrc n
    ⟨ih.disjunction_succ, ih.disjunctionLoop_succ, ih.alternative_succ, ih.term_succ, ih.assertion_succ,
      ih.extendedAtom_succ hN hsrc, ih.uncapturingGroup_succ, ih.capturingGroup_succ⟩

end DL.Rx
