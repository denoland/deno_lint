import DL.Lemmas.RxSpecProp
import DL.Lemmas.RxIdent

/-! # Soundness w.r.t. the grammar: `RegExpIdentifierName`, `GroupName`, `\k<…>`, group specifiers -/
namespace DL.Rx
open DL.RxSpec DL.Gen.Unicode
attribute [local irreducible] isScalar
variable {src : List Nat} {N : Nat}

theorem Wp.bind_tests {β : Type} {m : M Bool} {p : Prop} {g : Bool → M β} {s : St} {Q : β → St → Prop}
    (ht : Tests m p) (k : ∀ b, (b = true → p) → Wp (g b s) Q) : Wp ((m >>= g) s) Q := by
  show Wp (M.bind m g s) Q
  unfold M.bind
  rcases ht s with ⟨b, hb, hp⟩ | hb
  · rw [hb]; exact k b hp
  · rw [hb]; trivial

theorem inTable_of_inRanges {cp : Nat} {t : Array Nat} (h : InRanges cp t) : InTable cp t := h

theorem isIdStart_spec (cp : Nat) : Tests (isIdStart cp) (UnicodeIDStart cp) := by
  unfold isIdStart
  refine Tests.ite (fun _ => Tests.pure (fun h => by cases h)) fun h1 => ?_
  refine Tests.ite (fun h2 => Tests.pure fun _ => .inl (.inr ⟨by show 0x41 ≤ cp; omega, by show cp ≤ 0x5a; omega⟩))
    fun h2 => ?_
  refine Tests.ite (fun _ => Tests.pure (fun h => by cases h)) fun h3 => ?_
  refine Tests.ite (fun h4 => Tests.pure fun _ => .inl (.inl ⟨by show 0x61 ≤ cp; omega, by show cp ≤ 0x7a; omega⟩))
    fun h4 => ?_
  exact (isInRange_tests cp _).mono fun h => .inr h

theorem isIdContinue_spec (cp : Nat) : Tests (isIdContinue cp) (UnicodeIDContinue cp) := by
  unfold isIdContinue
  refine Tests.ite (fun _ => Tests.pure (fun h => by cases h)) fun h1 => ?_
  refine Tests.ite (fun h2 => Tests.pure fun _ => .inr (.inl ⟨by show 0x30 ≤ cp; omega, by show cp ≤ 0x39; omega⟩))
    fun h2 => ?_
  refine Tests.ite (fun _ => Tests.pure (fun h => by cases h)) fun h3 => ?_
  refine Tests.ite (fun h4 => Tests.pure fun _ => ?_) fun h4 => ?_
  · simp only [Bool.or_eq_true, decide_eq_true_eq, beq_iff_eq] at h4
    rcases h4 with h4 | h4
    · exact .inl (.inl (.inr ⟨by show 0x41 ≤ cp; omega, by show cp ≤ 0x5a; omega⟩))
    · exact .inr (.inr (.inl h4))
  refine Tests.ite (fun _ => Tests.pure (fun h => by cases h)) fun h5 => ?_
  refine Tests.ite (fun h6 => Tests.pure fun _ =>
    .inl (.inl (.inl ⟨by show 0x61 ≤ cp; omega, by show cp ≤ 0x7a; omega⟩))) fun h6 => ?_
  exact Tests.orM ((isInRange_tests cp _).mono fun h => .inl (.inr h))
    ((isInRange_tests cp _).mono fun h => .inr (.inr (.inr h)))

theorem tests_eq' (cp v : Nat) (p : Prop) (hp : cp = v → p) : Tests (pure (cp == v)) p :=
  Tests.pure fun h => hp (by simpa using h)

theorem isRegexpIdentifierStart_spec (cp : Nat) : Tests (isRegexpIdentifierStart cp) (IdentifierStartChar cp) := by
  unfold isRegexpIdentifierStart
  exact Tests.orM ((isIdStart_spec cp).mono .inl)
    (Tests.orM (tests_eq' cp _ _ fun h => .inr (.inl h)) (tests_eq' cp _ _ fun h => .inr (.inr h)))

theorem isRegexpIdentifierPart_spec (cp : Nat) : Tests (isRegexpIdentifierPart cp) (IdentifierPartChar cp) := by
  unfold isRegexpIdentifierPart
  exact Tests.orM ((isIdContinue_spec cp).mono .inl)
    (Tests.orM (tests_eq' cp _ _ fun h => .inr (.inl h))
      (Tests.orM (tests_eq' cp _ _ fun h => .inl (.inr (.inr (.inl h))))
        (Tests.orM (tests_eq' cp _ _ fun h => .inr (.inr (.inl h))) (tests_eq' cp _ _ fun h => .inr (.inr (.inr h))))))

/-- the value of a unicode escape is a code point -/
theorem rues_le {r r1 : List Nat} {v : Nat} (h : RegExpUnicodeEscapeSequence r r1 v) : v ≤ 0x10FFFF := by
  have hex4 : ∀ {i r v}, Hex4Digits i r v → v < 65536 := by
    rintro i r v ⟨a, b, c', d, -, ha, hb, hc, hd, rfl⟩
    have := hexVal_lt ha; have := hexVal_lt hb; have := hexVal_lt hc; have := hexVal_lt hd
    show (((16 * (16 * (16 * (16 * 0 + hexVal a) + hexVal b) + hexVal c') + hexVal d) : Nat)) < 65536
    omega
  cases h with
  | surrogatePair m₁ m₂ r lead trail h1 hl h2 ht =>
    unfold isLead at hl; unfold isTrail at ht; omega
  | lead m r v h1 _ _ | nonLead m r v h1 _ => have := hex4 h1; omega
  | codePoint m r ds _ hle => exact hle

theorem i64AsU32_small {v : Nat} (h : v ≤ 0x10FFFF) : i64AsU32 (v : Int) = v := by
  unfold i64AsU32; omega

theorem UAt.of_index_eq {r r1 : List Nat} {s s1 : St} (h1 : UAt src N r1 s1) (h : UAt src N r s)
    (he : s1.reader.index = s.reader.index) : UAt src N r s1 := by
  have : r1 = r := by rw [← h1.rest, ← h.rest, he]
  rw [← this]; exact h1

/-- every range of the table starts at `m` or later -/
def pairsGe (m : Nat) : List Nat → Bool
  | lo :: _ :: rest => decide (m ≤ lo) && pairsGe m rest
  | _ => true

theorem pairsGe_get (m : Nat) : ∀ (l : List Nat) (i lo hi : Nat), pairsGe m l = true → l[2 * i]? = some lo →
    l[2 * i + 1]? = some hi → m ≤ lo
  | [], _, _, _, _, h, _ => by simp at h
  | [_], i, _, _, _, _, h => by simp at h
  | a :: b :: rest, 0, lo, hi, hp, h0, _ => by
    simp only [pairsGe, Bool.and_eq_true, decide_eq_true_eq] at hp
    simp at h0; subst h0; exact hp.1
  | a :: b :: rest, i + 1, lo, hi, hp, h0, h1 => by
    simp only [pairsGe, Bool.and_eq_true] at hp
    have e0 : 2 * (i + 1) = 2 * i + 1 + 1 := by omega
    have e1 : 2 * (i + 1) + 1 = 2 * i + 1 + 1 + 1 := by omega
    rw [e0] at h0; rw [e1] at h1
    simp only [List.getElem?_cons_succ] at h0 h1
    exact pairsGe_get m rest i lo hi hp.2 h0 h1

theorem inTable_ge {cp m : Nat} {t : Array Nat} (hg : pairsGe m t.toList = true) (h : InTable cp t) : m ≤ cp := by
  obtain ⟨k, lo, hi, h0, h1, hlo, -⟩ := h
  rw [← Array.getElem?_toList] at h0 h1
  exact Nat.le_trans (pairsGe_get m _ k lo hi hg h0 h1) hlo

set_option maxRecDepth 100000 in
theorem largeIdStart_ge : pairsGe 128 largeIdStartRanges.toList = true := by decide +kernel
set_option maxRecDepth 100000 in
theorem largeIdContinue_ge : pairsGe 128 largeIdContinueRanges.toList = true := by decide +kernel

/-- an identifier character is an ASCII letter or digit, `$`, `_`, or not ASCII -/
theorem identifierPartChar_cases {x : Nat} (h : IdentifierPartChar x) :
    (0x30 ≤ x ∧ x ≤ 0x39) ∨ (0x41 ≤ x ∧ x ≤ 0x5a) ∨ (0x61 ≤ x ∧ x ≤ 0x7a) ∨ x = 0x24 ∨ x = 0x5F ∨ 128 ≤ x := by
  rcases h with ((((h | h) | h) | h | h | h) | h | h | h)
  · have h' : (0x61 ≤ x ∧ x ≤ 0x7a) := h; omega
  · have h' : (0x41 ≤ x ∧ x ≤ 0x5a) := h; omega
  · have := inTable_ge largeIdStart_ge h; omega
  · have h' : 0x30 ≤ x ∧ x ≤ 0x39 := h; omega
  · have h' : x = 0x5F := h; omega
  · have := inTable_ge largeIdContinue_ge h; omega
  · have h' : x = 0x24 := h; omega
  · have h' : x = 0x200C := h; omega
  · have h' : x = 0x200D := h; omega

/-- `\\` is not an identifier character -/
theorem not_identifierPartChar_backslash : ¬IdentifierPartChar (ch '\\') := by
  intro h
  have := identifierPartChar_cases h
  have c5c : ch '\\' = 0x5C := rfl
  omega

theorem Tests.wp {m : M Bool} {p : Prop} (ht : Tests m p) (s : St) :
    Wp (m s) (fun b s1 => s1 = s ∧ (b = true → p)) := by
  rcases ht s with ⟨b, hb, hp⟩ | hb
  · rw [hb]; exact ⟨rfl, hp⟩
  · rw [hb]; trivial

theorem isRegexpIdentifierPart_wp (cp : Nat) (s : St) :
    Wp (isRegexpIdentifierPart cp s) (fun b s1 => s1 = s ∧ (b = true → IdentifierPartChar cp)) :=
  (isRegexpIdentifierPart_spec cp).wp s

theorem isRegexpIdentifierStart_wp (cp : Nat) (s : St) :
    Wp (isRegexpIdentifierStart cp s) (fun b s1 => s1 = s ∧ (b = true → IdentifierStartChar cp)) :=
  (isRegexpIdentifierStart_spec cp).wp s

theorem identifierStartChar_part {x : Nat} (h : IdentifierStartChar x) : IdentifierPartChar x := by
  rcases h with h | h | h
  · exact .inl (.inl h)
  · exact .inr (.inl h)
  · exact .inl (.inr (.inr (.inl h)))

theorem not_identifierStartChar_backslash : ¬IdentifierStartChar (ch '\\') :=
  fun h => not_identifierPartChar_backslash (identifierStartChar_part h)

theorem eatRegexpIdentifierPart_eq_frame (fuel : Nat) :
    eatRegexpIdentifierPart fuel = identFrame (identPartHit fuel) := by
  rw [eatRegexpIdentifierPart_eq]
  unfold identFrame identPartHit
  simp only [bind_assoc']

/-- the code point an identifier character denotes: the character itself, or the value of a `\u` escape -/
inductive IdentCp : List Nat → List Nat → Nat → Prop
  | char (x : Nat) (r : List Nat) : IdentCp (x :: r) r x
  | escape (m r : List Nat) (v : Nat) : RegExpUnicodeEscapeSequence m r v → IdentCp (ch '\\' :: m) r v

theorem IdentCp.start {r r1 : List Nat} {x : Nat} (h : IdentCp r r1 x) (hx : IdentifierStartChar x) :
    RegExpIdentifierStart r r1 x := by
  cases h with
  | char => exact .char _ _ hx
  | escape m _ _ hu => exact .escape m _ _ hu hx

theorem IdentCp.part {r r1 : List Nat} {x : Nat} (h : IdentCp r r1 x) (hx : IdentifierPartChar x) :
    RegExpIdentifierPart r r1 x := by
  cases h with
  | char => exact .char _ _ hx
  | escape m _ _ hu => exact .escape m _ _ hu hx

/-- with the `u` flag `force_u_flag` is off, so no surrogate pair is combined: the code point is the character or an escape -/
theorem identStartCp_wp (n cp0 : Nat) (cp1 : Option Nat) (r : List Nat) (s : St) (h : UAt src N r s) :
    Wp (identStartCp n false cp0 cp1 s) (fun cp s1 => Keep s s1 ∧ ∃ r1, UAt src N r1 s1 ∧ IdentCp (cp0 :: r) r1 cp) := by
  unfold identStartCp
  rx4_autos
  · exact ⟨.refl s, r, h, .char cp0 r⟩
  · exact ⟨‹_›, r, ‹_›, .char cp0 r⟩
  · rename_i hc s1 hk r1 v hat hu hv
    have hx : cp0 = ch '\\' := by simpa using hc
    subst hx
    rw [hv, i64AsU32_small (rues_le hu)]
    exact ⟨hk, r1, hat, .escape r r1 v hu⟩

theorem identPartCp_wp (n : Nat) (cp0 cp1 : Option Nat) (r : List Nat) (s : St) (h : UAt src N r s) :
    Wp (identPartCp n false cp0 cp1 s) (fun cp s1 => Keep s s1 ∧ ∃ r1, UAt src N r1 s1 ∧
      ∀ v, cp = some v → ∃ x, cp0 = some x ∧ IdentCp (x :: r) r1 v) := by
  unfold identPartCp
  rx4_autos
  · exact ⟨.refl s, r, h, fun v hv => ⟨v, hv, .char v r⟩⟩
  · exact ⟨‹_›, r, ‹_›, fun v hv => ⟨v, hv, .char v r⟩⟩
  · rename_i hc s1 hk r1 v hat hu hv
    have hx : cp0 = some (ch '\\') := by simpa using hc
    subst hx
    rw [hv, i64AsU32_small (rues_le hu)]
    refine ⟨hk, r1, hat, fun v' hv' => ⟨_, rfl, ?_⟩⟩
    cases hv'
    exact .escape r r1 v hu

/-- `advance` without a case distinction on the remaining input: the reader moves on to its tail -/
theorem Wp.bind_advance {β : Type} {r : List Nat} {g : Unit → M β} {s : St} {Q : β → St → Prop} (h : UAt src N r s)
    (hg : ∀ s1, UAt src N r.tail s1 → Keep s s1 → Wp (g () s1) Q) : Wp ((advance >>= g) s) Q := by
  cases r with
  | nil => exact Wp.bind_advance_nil h (hg s h (.refl s))
  | cons x r' => exact Wp.bind_advance_cons h fun h1 => hg _ h1 ⟨rfl, rfl, rfl⟩

theorem identStartHit_wp (n : Nat) (r : List Nat) (s : St) (h : UAt src N r s) :
    Wp (identStartHit n false s) (fun b s1 => Keep s s1 ∧
      if b = true then ∃ r1 x, UAt src N r1 s1 ∧ RegExpIdentifierStart r r1 x ∧ s1.lastIntValue = (x : Nat)
      else ∃ r', UAt src N r' s1) := by
  unfold identStartHit
  refine Wp.bind_cpo0 h (fun hr => ?_) (fun x r' hr => ?_)
  · exact ⟨.refl s, by rw [if_neg (by decide)]; exact ⟨r, h⟩⟩
  · subst hr
    dsimp only
    refine Wp.bind_advance_cons h fun h1 => ?_
    refine Wp.bind_cpo h1 (by decide) ?_
    rx4_autos
    · exact ⟨by rx4_keep, by rw [if_neg (by decide)]; exact ⟨_, by rx4_at⟩⟩
    · rx4_true
      exact ⟨_, _, by rx4_at, (‹IdentCp _ _ _›).start (‹True → _› trivial), rfl⟩

/-- what follows the first character does not matter with the `u` flag, so the input is not taken apart -/
theorem identPartHit_wp (n : Nat) (r : List Nat) (s : St) (h : UAt src N r s) :
    Wp (identPartHit n false s) (fun b s1 => Keep s s1 ∧
      if b = true then ∃ r1 x, UAt src N r1 s1 ∧ RegExpIdentifierPart r r1 x ∧ s1.lastIntValue = (x : Nat)
      else ∃ r', UAt src N r' s1) := by
  unfold identPartHit
  refine Wp.bind_cpo h (by decide) ?_
  refine Wp.bind_advance h fun s1 h1 k1 => ?_
  refine Wp.bind_cpo h1 (by decide) ?_
  rx4_autos
  all_goals (try exact ⟨by rx4_keep, by rw [if_neg (by decide)]; exact ⟨_, by rx4_at⟩⟩)
  rename_i r1 _ c hcp s2 _ hat hp
  obtain ⟨x, hx, hcp⟩ := hcp c rfl
  rx4_true
  cases r with
  | nil => cases hx
  | cons y r' =>
    cases hx
    exact ⟨r1, c, by rx4_at, hcp.part (hp trivial), rfl⟩

/-- the frame of the two identifier functions: a failed attempt is rewound -/
theorem identFrame_wp {hit : Bool → M Bool} {P : List Nat → List Nat → Nat → Prop} (r : List Nat) (s : St)
    (h : UAt src N r s)
    (hhit : Wp (hit false s) (fun b s1 => Keep s s1 ∧
      if b = true then ∃ r1 x, UAt src N r1 s1 ∧ P r r1 x ∧ s1.lastIntValue = (x : Nat) else ∃ r', UAt src N r' s1)) :
    Wp (identFrame hit s) (fun b s1 => Keep s s1 ∧
      if b = true then ∃ r1 x, UAt src N r1 s1 ∧ P r r1 x ∧ s1.lastIntValue = (x : Nat) else UAt src N r s1) := by
  unfold identFrame
  rx4_step
  rx4_step
  dsimp only
  simp only [h.uFlag', Bool.not_true, Bool.false_and]
  refine Wp.call hhit (fun b s1 ⟨hk, hb⟩ => ?_)
  cases b
  · obtain ⟨r', hat⟩ := hb
    rx4_autos
    · rename_i hn
      exact ⟨hk, UAt.of_index_eq hat h (by simpa using hn)⟩
    · rx4_false
  · exact ⟨hk, hb⟩

theorem eatRegexpIdentifierPart_wp (n : Nat) (r : List Nat) (s : St) (h : UAt src N r s) :
    Wp (eatRegexpIdentifierPart n s) (fun b s1 => Keep s s1 ∧
      if b = true then ∃ r1 x, UAt src N r1 s1 ∧ RegExpIdentifierPart r r1 x ∧ s1.lastIntValue = (x : Nat)
      else UAt src N r s1) := by
  rw [eatRegexpIdentifierPart_eq_frame]
  exact identFrame_wp r s h (identPartHit_wp n r s h)

theorem eatRegexpIdentifierStart_wp (n : Nat) (r : List Nat) (s : St) (h : UAt src N r s) :
    Wp (eatRegexpIdentifierStart n s) (fun b s1 => Keep s s1 ∧
      if b = true then ∃ r1 x, UAt src N r1 s1 ∧ RegExpIdentifierStart r r1 x ∧ s1.lastIntValue = (x : Nat)
      else UAt src N r s1) := by
  rw [eatRegexpIdentifierStart_eq_frame]
  exact identFrame_wp r s h (identStartHit_wp n r s h)

theorem toChar_eq_of_isSome {x : Nat} (h : (toChar x).isSome = true) : toChar x = some x ∧ x ≤ 0x10FFFF := by
  unfold toChar at h ⊢
  by_cases hc : x < 0xD800 ∨ (0xE000 ≤ x ∧ x < 0x110000)
  · rw [if_pos hc]; exact ⟨rfl, by omega⟩
  · rw [if_neg hc] at h; cases h

theorem identifierPartChar_char {x : Nat} (h : IdentifierPartChar x) : toChar x = some x ∧ x ≤ 0x10FFFF := by
  have small : ∀ {y : Nat}, y < 0xD800 → toChar y = some y ∧ y ≤ 0x10FFFF :=
    fun hy => toChar_eq_of_isSome (isChar_lt hy)
  rcases h with ((((h | h) | h) | h | h | h) | h | h | h)
  · have h' : (0x61 ≤ x ∧ x ≤ 0x7a) := h; exact small (by omega)
  · have h' : (0x41 ≤ x ∧ x ≤ 0x5a) := h; exact small (by omega)
  · exact toChar_eq_of_isSome (toChar_of_inRanges largeIdStart_chars h)
  · have h' : 0x30 ≤ x ∧ x ≤ 0x39 := h; exact small (by omega)
  · have h' : x = 0x5F := h; exact small (by omega)
  · exact toChar_eq_of_isSome (toChar_of_inRanges largeIdContinue_chars h)
  · have h' : x = 0x24 := h; exact small (by omega)
  · have h' : x = 0x200C := h; exact small (by omega)
  · have h' : x = 0x200D := h; exact small (by omega)

theorem part_value {r r1 : List Nat} {x : Nat} (h : RegExpIdentifierPart r r1 x) : IdentifierPartChar x := by
  cases h with
  | char x r h => exact h
  | escape m r v _ h => exact h

theorem start_value {r r1 : List Nat} {x : Nat} (h : RegExpIdentifierStart r r1 x) : IdentifierStartChar x := by
  cases h with
  | char x r h => exact h
  | escape m r v _ h => exact h

/-- a sequence of `RegExpIdentifierPart`s with the code points they denote -/
inductive PartsRun : List Nat → List Nat → List Nat → Prop
  | nil (r : List Nat) : PartsRun r r []
  | cons (r m r1 : List Nat) (x : Nat) (xs : List Nat) : RegExpIdentifierPart r m x → PartsRun m r1 xs →
      PartsRun r r1 (x :: xs)

theorem name_append {r m r1 : List Nat} {nm xs : List Nat} (h1 : RegExpIdentifierName r m nm) (h2 : PartsRun m r1 xs) :
    RegExpIdentifierName r r1 (nm ++ xs) := by
  induction h2 generalizing nm with
  | nil r => rw [List.append_nil]; exact h1
  | cons r' m' r1' x xs hp _ ih =>
    have := ih (RegExpIdentifierName.part r r' m' nm x h1 hp)
    rw [List.append_assoc] at this; exact this

theorem eatRegexpIdentifierNameLoop_wp : ∀ (n : Nat) (r : List Nat) (s : St), UAt src N r s →
    Wp (eatRegexpIdentifierNameLoop n s) (fun _ s1 => KeepN s s1 ∧ ∃ xs r1, PartsRun r r1 xs ∧ UAt src N r1 s1 ∧
      s1.lastStrValue = s.lastStrValue ++ xs)
  | 0, _, _, _ => Wp.outOfFuel
  | n + 1, r, s, h => by
    have ih := eatRegexpIdentifierNameLoop_wp n
    unfold eatRegexpIdentifierNameLoop
    rx4_auto
    · rename_i s1 hk hat1
      exact ⟨hk.toN, [], r, PartsRun.nil r, hat1, by rw [hk.str, List.append_nil]⟩
    · rename_i s1 hk r1 x hat1 hpart hv c hc _ s2 hk2 xs r2 hrun hat2 hstr
      have hpc := identifierPartChar_char (part_value hpart)
      rw [hv, i64AsU32_small hpc.2, hpc.1] at hc
      cases hc
      refine ⟨⟨hk2.gn.trans hk.gn, hk2.bn.trans hk.bn⟩, x :: xs, r2, PartsRun.cons r r1 r2 x xs hpart hrun, hat2, ?_⟩
      rw [hstr]
      show (s1.lastStrValue ++ [x]) ++ xs = _
      rw [hk.str, List.append_assoc]; rfl

theorem eatRegexpIdentifierName_wp (n : Nat) (r : List Nat) (s : St) (h : UAt src N r s) :
    Wp (eatRegexpIdentifierName n s) (fun b s1 => KeepN s s1 ∧
      if b = true then ∃ r1 nm, UAt src N r1 s1 ∧ RegExpIdentifierName r r1 nm ∧ s1.lastStrValue = nm
      else UAt src N r s1) := by
  unfold eatRegexpIdentifierName
  rx4_auto
  all_goals (try rx4_false)
  rename_i s1 hk r1 x hat1 hstart hv c hc _ s2 hk2 xs r2 hrun hat2 hstr
  have hpc := identifierPartChar_char (identifierStartChar_part (start_value hstart))
  rw [hv, i64AsU32_small hpc.2, hpc.1] at hc
  cases hc
  refine ⟨⟨hk2.gn.trans hk.gn, hk2.bn.trans hk.bn⟩, ?_⟩
  rw [if_pos rfl]
  exact ⟨r2, [x] ++ xs, hat2, name_append (RegExpIdentifierName.start r r1 x hstart) hrun, hstr⟩

theorem eatGroupName_wp (n : Nat) (r : List Nat) (s : St) (h : UAt src N r s) :
    Wp (eatGroupName n s) (fun b s1 => KeepN s s1 ∧
      if b = true then ∃ r1 nm, UAt src N r1 s1 ∧ GroupName r r1 nm ∧ s1.lastStrValue = nm
      else UAt src N r s1) := by
  unfold eatGroupName
  rx4_auto
  all_goals (try rx4_false)
  rename_i m hat0 s1 hk nm hstr r1 hat1 hat2 hname
  rx4_true
  exact ⟨r1, nm, by rx4_at, ⟨m, rfl, hname⟩, hstr⟩

end DL.Rx
