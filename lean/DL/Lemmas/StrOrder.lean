/-!
# Comparing string literals in the kernel

`s < t` on `String` is decided on `s.toList`, and `String.toList` runs the UTF-8 decoder on the byte array of `s`:
evaluated by the kernel on a literal, decoding is far slower than reading the bytes.  `codes s` reads
the code points of an ASCII string off its bytes, so that a table of string literals is compared as lists of numbers.
-/
namespace DL.Str

/-- an ASCII character is encoded as the one byte that is its code point -/
theorem ascii_char (c : Char) (h : ∀ b ∈ String.utf8EncodeChar c, b < 128) :
    (String.utf8EncodeChar c).map (·.toNat) = [c.toNat] := by
  unfold String.utf8EncodeChar at h ⊢
  simp only [← Char.toNat_val] at h ⊢
  generalize c.val.toNat = v at h ⊢
  by_cases h1 : v ≤ 127
  · simp only [h1, if_true, List.map_cons, List.map_nil, UInt8.toNat_ofNat']
    congr 1; omega
  · -- a multi-byte encoding ends in a continuation byte `0b10xxxxxx`
    have hlast : ¬ UInt8.ofNat (v % 64 + 128) < 128 := by
      rw [UInt8.lt_iff_toNat_lt, UInt8.toNat_ofNat']; simp; omega
    refine absurd (h _ ?_) hlast
    rw [if_neg h1]
    split
    · simp
    · split <;> simp

theorem ascii_bytes (l : List Char) (h : ∀ b ∈ l.flatMap String.utf8EncodeChar, b < 128) :
    (l.flatMap String.utf8EncodeChar).map (·.toNat) = l.map (·.toNat) := by
  induction l with
  | nil => rfl
  | cons c l ih =>
    rw [List.flatMap_cons] at h ⊢
    rw [List.map_append, ascii_char c fun b hb => h b (List.mem_append_left _ hb),
      ih fun b hb => h b (List.mem_append_right _ hb), List.map_cons, List.singleton_append]

/-- the code points of `s`, without decoding when `s` is ASCII -/
def codes (s : String) : List Nat :=
  if s.toByteArray.data.toList.all (· < 128) then s.toByteArray.data.toList.map (·.toNat) else s.toList.map (·.toNat)

theorem codes_eq (s : String) : codes s = s.toList.map (·.toNat) := by
  unfold codes
  split
  · next h =>
    rw [← String.utf8Encode_toList, List.utf8Encode, List.toList_data_toByteArray] at h ⊢
    exact ascii_bytes _ fun b hb => of_decide_eq_true (List.all_eq_true.mp h b hb)
  · rfl

theorem lt_of_map_toNat_lt : ∀ {l₁ l₂ : List Char}, l₁.map (·.toNat) < l₂.map (·.toNat) → l₁ < l₂
  | [], [], h => absurd h (List.lt_irrefl _)
  | [], _ :: _, _ => List.nil_lt_cons _ _
  | _ :: _, [], h => by simp at h
  | a :: l₁, b :: l₂, h => by
    rw [List.map_cons, List.map_cons, List.cons_lt_cons_iff] at h
    rw [List.cons_lt_cons_iff, Char.lt_def, UInt32.lt_iff_toNat_lt]
    exact h.imp id (And.imp Char.toNat_inj.mp lt_of_map_toNat_lt)

theorem lt_of_codes_lex {a b : String} (h : (codes a).lex (codes b) = true) : a < b := by
  rw [codes_eq, codes_eq, List.lex_eq_true_iff_lt] at h
  exact lt_of_map_toNat_lt h

/-- each element's code points precede the next one's -/
def ascending : List (List Nat) → Bool
  | a :: b :: l => a.lex b && ascending (b :: l)
  | _ => true

/-- a list whose keys ascend is strictly sorted by key: one comparison per element -/
theorem pairwise_lt_of_ascending {α : Type} (key : α → String) :
    ∀ {l : List α}, ascending (l.map (codes ∘ key)) = true → l.Pairwise (fun a b => key a < key b)
  | [], _ => .nil
  | [_], _ => List.pairwise_singleton _ _
  | a :: b :: l, h => by
    simp only [List.map_cons, ascending, Bool.and_eq_true] at h
    have ih := pairwise_lt_of_ascending key (l := b :: l) h.2
    have hab := lt_of_codes_lex h.1
    refine List.pairwise_cons.mpr ⟨fun c hc => ?_, ih⟩
    rcases List.mem_cons.mp hc with rfl | hc
    · exact hab
    · exact String.lt_trans hab ((List.pairwise_cons.mp ih).1 c hc)

end DL.Str
