import DL.Lemmas.RxSpecPrim
import DL.Model.RegexSpecB

/-! # Annex B (no `u` flag): the symbolic state `BAt` and the primitive steps (instances of the rules for any `AtLike` predicate) -/
namespace DL.Rx

/-- the validator without the `u` flag reads the code units `src`; `K.1` is `n_flag`, `K.2` the number of groups counted;
`r` is the input that remains -/
def BAt (src : List Nat) (K : Bool × Nat) (r : List Nat) (s : St) : Prop :=
  RInv src s.reader ∧ src.drop s.reader.index = r ∧ s.uFlag = false ∧ s.strict = false ∧ s.nFlag = K.1 ∧
    s.numCapturingParens = K.2

variable {src : List Nat} {K : Bool × Nat} {α β : Type}

theorem BAt.like : AtLike src (BAt src K) where
  rat h := ⟨h.1, h.2.1⟩
  move h h' m := ⟨h'.1, h'.2, m.1.trans h.2.2.1, m.2.1.trans h.2.2.2.1, m.2.2.1.trans h.2.2.2.2.1, m.2.2.2.trans h.2.2.2.2.2⟩

theorem BAt.rat {r : List Nat} {s : St} (h : BAt src K r s) : RAt src r s := BAt.like.rat h
theorem BAt.uFlag' {r : List Nat} {s : St} (h : BAt src K r s) : s.uFlag = false := h.2.2.1
theorem BAt.strict' {r : List Nat} {s : St} (h : BAt src K r s) : s.strict = false := h.2.2.2.1
theorem BAt.nFlag' {r : List Nat} {s : St} (h : BAt src K r s) : s.nFlag = K.1 := h.2.2.2.2.1
theorem BAt.ncp {r : List Nat} {s : St} (h : BAt src K r s) : s.numCapturingParens = K.2 := h.2.2.2.2.2

theorem BAt.inv {r : List Nat} {s : St} (h : BAt src K r s) : RInv src s.reader := h.1
theorem BAt.rest {r : List Nat} {s : St} (h : BAt src K r s) : src.drop s.reader.index = r := h.2.1

/-- record updates outside the reader and the mode fields keep `BAt` -/
theorem BAt.of_eq {r : List Nat} {s s' : St} (h : BAt src K r s) (h1 : s'.reader = s.reader) (h2 : s'.uFlag = s.uFlag)
    (h3 : s'.strict = s.strict) (h4 : s'.nFlag = s.nFlag) (h5 : s'.numCapturingParens = s.numCapturingParens) :
    BAt src K r s' := BAt.like.reg h h1 ⟨h2, h3, h4, h5⟩

/-! the reader rules, as the stepping tactic calls them -/

theorem WpB.bind_cpo0 {r : List Nat} {g : Option Nat → M β} {s : St} {Q : β → St → Prop} (h : BAt src K r s)
    (hnil : r = [] → Wp (g none s) Q) (hcons : ∀ x r', r = x :: r' → Wp (g (some x) s) Q) :
    Wp ((codePointWithOffset 0 >>= g) s) Q := BAt.like.bind_cpo0 h hnil hcons

theorem WpB.bind_cpo {r : List Nat} {k : Nat} {g : Option Nat → M β} {s : St} {Q : β → St → Prop} (h : BAt src K r s)
    (hk : k < 4) (hg : Wp (g r[k]? s) Q) : Wp ((codePointWithOffset k >>= g) s) Q := BAt.like.bind_cpo h hk hg

theorem WpB.bind_advance_cons {x : Nat} {r : List Nat} {g : Unit → M β} {s : St} {Q : β → St → Prop}
    (h : BAt src K (x :: r) s)
    (hg : BAt src K r (s.setPos src (s.reader.index + 1)) → Wp (g () (s.setPos src (s.reader.index + 1))) Q) :
    Wp ((advance >>= g) s) Q := BAt.like.bind_advance_cons h hg

theorem WpB.bind_advance_nil {g : Unit → M β} {s : St} {Q : β → St → Prop}
    (h : BAt src K [] s) (hg : Wp (g () s) Q) : Wp ((advance >>= g) s) Q := BAt.like.bind_advance_nil h hg

theorem WpB.bind_rewind {r r0 : List Nat} {g : Unit → M β} {s s0 : St} {Q : β → St → Prop}
    (h : BAt src K r s) (h0 : BAt src K r0 s0)
    (hg : BAt src K r0 (s.setPos src s0.reader.index) → Wp (g () (s.setPos src s0.reader.index)) Q) :
    Wp ((rewind s0.reader.index >>= g) s) Q := BAt.like.bind_rewind h h0 hg

theorem WpB.bind_rewind' {r : List Nat} {i : Nat} {g : Unit → M β} {s : St} {Q : β → St → Prop}
    (h : BAt src K r s) (hle : i ≤ src.length)
    (hg : BAt src K (src.drop i) (s.setPos src i) → Wp (g () (s.setPos src i)) Q) : Wp ((rewind i >>= g) s) Q :=
  BAt.like.bind_rewind' h hle hg

theorem WpB.bind_eat {r : List Nat} {x : Char} {g : Bool → M β} {s : St} {Q : β → St → Prop} (h : BAt src K r s)
    (ht : ∀ r', r = ch x :: r' → BAt src K r' (s.setPos src (s.reader.index + 1)) →
      Wp (g true (s.setPos src (s.reader.index + 1))) Q)
    (hf : r.head? ≠ some (ch x) → Wp (g false s) Q) : Wp ((eat x >>= g) s) Q := BAt.like.bind_eat h ht hf

theorem WpB.bind_eat2 {r : List Nat} {x y : Char} {g : Bool → M β} {s : St} {Q : β → St → Prop} (h : BAt src K r s)
    (ht : ∀ r', r = ch x :: ch y :: r' → BAt src K r' (s.setPos src (s.reader.index + 2)) →
      Wp (g true (s.setPos src (s.reader.index + 2))) Q)
    (hf : (¬∃ r', r = ch x :: ch y :: r') → Wp (g false s) Q) : Wp ((eat2 x y >>= g) s) Q := BAt.like.bind_eat2 h ht hf

theorem WpB.bind_eat3 {r : List Nat} {x y z : Char} {g : Bool → M β} {s : St} {Q : β → St → Prop} (h : BAt src K r s)
    (ht : ∀ r', r = ch x :: ch y :: ch z :: r' → BAt src K r' (s.setPos src (s.reader.index + 3)) →
      Wp (g true (s.setPos src (s.reader.index + 3))) Q)
    (hf : (¬∃ r', r = ch x :: ch y :: ch z :: r') → Wp (g false s) Q) : Wp ((eat3 x y z >>= g) s) Q :=
  BAt.like.bind_eat3 h ht hf

theorem WpB.bind_eat_ne {r : List Nat} {x : Char} {g : Bool → M β} {s : St} {Q : β → St → Prop} (h : BAt src K r s)
    (hne : r.head? ≠ some (ch x)) (hf : Wp (g false s) Q) : Wp ((eat x >>= g) s) Q := BAt.like.bind_eat_ne h hne hf

theorem WpB.bind_eat2_ne {r : List Nat} {x y : Char} {g : Bool → M β} {s : St} {Q : β → St → Prop} (h : BAt src K r s)
    (hne : ¬∃ r', r = ch x :: ch y :: r') (hf : Wp (g false s) Q) : Wp ((eat2 x y >>= g) s) Q :=
  BAt.like.bind_eat2_ne h hne hf

theorem WpB.bind_eat3_ne {r : List Nat} {x y z : Char} {g : Bool → M β} {s : St} {Q : β → St → Prop} (h : BAt src K r s)
    (hne : ¬∃ r', r = ch x :: ch y :: ch z :: r') (hf : Wp (g false s) Q) : Wp ((eat3 x y z >>= g) s) Q :=
  BAt.like.bind_eat3_ne h hne hf

end DL.Rx
