import DL.Lemmas.RxSafe

/-!
# The identifier tests: the binary search stays inside its table, and what it accepts is a `char`

`is_in_range` indexes `ranges[2*i]`, `ranges[2*i+1]` with `l ≤ i < r ≤ len/2`: never out of bounds, for ANY table.
Every range of the two concrete tables lies inside the scalar values (checked by kernel evaluation), so a code point
accepted by `is_regexp_identifier_start/part` converts with `char::from_u32(..).unwrap()`.
-/
namespace DL.Rx
open DL.Gen.Unicode

/-- `m` reads the state only; it answers `true` only if `p` -/
def Tests (m : M Bool) (p : Prop) : Prop :=
  ∀ s, (∃ b, m s = .ok b s ∧ (b = true → p)) ∨ m s = .outOfFuel s

theorem Tests.pure {b : Bool} {p : Prop} (h : b = true → p) : Tests (pure b) p := fun _ => .inl ⟨b, rfl, h⟩

theorem Tests.ite {c : Prop} [Decidable c] {a b : M Bool} {p : Prop} (ha : c → Tests a p) (hb : ¬c → Tests b p) :
    Tests (if c then a else b) p := by
  by_cases h : c
  · rw [if_pos h]; exact ha h
  · rw [if_neg h]; exact hb h

theorem Tests.orM {a b : M Bool} {p : Prop} (ha : Tests a p) (hb : Tests b p) : Tests (a <or> b) p := by
  intro s
  show (∃ r, M.bind a (fun x => if x = true then Pure.pure true else b) s = .ok r s ∧ _) ∨
    M.bind a (fun x => if x = true then Pure.pure true else b) s = _
  unfold M.bind
  rcases ha s with ⟨x, hx, hp⟩ | hx
  · rw [hx]
    cases x with
    | true => exact .inl ⟨true, rfl, hp⟩
    | false => exact hb s
  · rw [hx]; exact .inr rfl

theorem Tests.mono {m : M Bool} {p q : Prop} (h : Tests m p) (hpq : p → q) : Tests m q := by
  intro s
  rcases h s with ⟨x, hx, hp⟩ | hx
  · exact .inl ⟨x, hx, fun h => hpq (hp h)⟩
  · exact .inr hx

theorem Tests.safe {m : M Bool} {p : Prop} (h : Tests m p) {I : St → Prop} :
    Safe I m (fun b s => I s ∧ (b = true → p)) := by
  intro s hs
  rcases h s with ⟨x, hx, hp⟩ | hx
  · rw [hx]; exact ⟨hs, hp⟩
  · rw [hx]; trivial

theorem Tests.keeps {m : M Bool} {p : Prop} (h : Tests m p) {I : St → Prop} : Keeps I m :=
  h.safe.post fun _ _ h => h.1

/-- `cp` lies in one of the ranges of the table -/
def InRanges (cp : Nat) (ranges : Array Nat) : Prop :=
  ∃ i lo hi, ranges[2 * i]? = some lo ∧ ranges[2 * i + 1]? = some hi ∧ lo ≤ cp ∧ cp ≤ hi

theorem isInRangeLoop_tests (cp : Nat) (ranges : Array Nat) :
    ∀ n l r, r ≤ ranges.size / 2 → Tests (isInRangeLoop cp ranges n l r) (InRanges cp ranges)
  | 0, _, _, _ => fun _ => .inr rfl
  | n + 1, l, r, hr => by
    unfold isInRangeLoop
    by_cases hlr : l < r
    · rw [if_pos hlr]
      dsimp only
      have h0 : 2 * ((l + r) / 2) < ranges.size := by omega
      have h1 : 2 * ((l + r) / 2) + 1 < ranges.size := by omega
      rw [Array.getElem?_eq_getElem h0, Array.getElem?_eq_getElem h1]
      show Tests (if cp < ranges[2 * ((l + r) / 2)] then _ else if cp > ranges[2 * ((l + r) / 2) + 1] then _ else _) _
      refine Tests.ite (fun _ => isInRangeLoop_tests cp ranges n _ _ (by omega)) fun h2 => ?_
      refine Tests.ite (fun _ => isInRangeLoop_tests cp ranges n _ _ (by omega)) fun h3 => ?_
      refine Tests.pure fun _ => ⟨(l + r) / 2, _, _, Array.getElem?_eq_getElem h0, Array.getElem?_eq_getElem h1, ?_, ?_⟩
      · omega
      · omega
    · rw [if_neg hlr]; exact Tests.pure (fun h => by cases h)

theorem isInRange_tests (cp : Nat) (ranges : Array Nat) : Tests (isInRange cp ranges) (InRanges cp ranges) :=
  isInRangeLoop_tests cp ranges _ _ _ (Nat.le_refl _)

/-- `char::from_u32` succeeds on the whole range `lo..=hi` -/
def rangeIsChars (lo hi : Nat) : Bool := hi < 0xD800 || (0xE000 ≤ lo && hi < 0x110000)

def pairsAreChars : List Nat → Bool
  | lo :: hi :: rest => rangeIsChars lo hi && pairsAreChars rest
  | _ => true

theorem pairsAreChars_get : ∀ (l : List Nat) (i lo hi : Nat), pairsAreChars l = true →
    l[2 * i]? = some lo → l[2 * i + 1]? = some hi → rangeIsChars lo hi = true
  | [], _, _, _, _, h, _ => by simp at h
  | [_], i, _, _, _, _, h => by simp at h
  | a :: b :: rest, 0, lo, hi, hp, h0, h1 => by
    simp only [pairsAreChars, Bool.and_eq_true] at hp
    simp at h0 h1
    subst h0 h1; exact hp.1
  | a :: b :: rest, i + 1, lo, hi, hp, h0, h1 => by
    simp only [pairsAreChars, Bool.and_eq_true] at hp
    have e0 : 2 * (i + 1) = 2 * i + 1 + 1 := by omega
    have e1 : 2 * (i + 1) + 1 = 2 * i + 1 + 1 + 1 := by omega
    rw [e0] at h0; rw [e1] at h1
    simp only [List.getElem?_cons_succ] at h0 h1
    exact pairsAreChars_get rest i lo hi hp.2 h0 h1

theorem toChar_of_inRanges {cp : Nat} {ranges : Array Nat} (hg : pairsAreChars ranges.toList = true)
    (h : InRanges cp ranges) : (toChar cp).isSome = true := by
  obtain ⟨i, lo, hi, h0, h1, hlo, hhi⟩ := h
  rw [← Array.getElem?_toList] at h0 h1
  have := pairsAreChars_get _ i lo hi hg h0 h1
  simp only [rangeIsChars, Bool.or_eq_true, Bool.and_eq_true, decide_eq_true_eq] at this
  unfold toChar
  rw [if_pos (by omega)]; rfl

set_option maxRecDepth 100000 in
theorem largeIdStart_chars : pairsAreChars largeIdStartRanges.toList = true := by decide +kernel
set_option maxRecDepth 100000 in
theorem largeIdContinue_chars : pairsAreChars largeIdContinueRanges.toList = true := by decide +kernel

/-- what the identifier tests establish: the value converts to a `char` (and is below 2^32) -/
def IsChar (cp : Nat) : Prop := (toChar cp).isSome = true

theorem isChar_lt {cp : Nat} (h : cp < 0xD800) : IsChar cp := by
  unfold IsChar toChar; rw [if_pos (.inl h)]; rfl

theorem isLargeIdStart_tests (cp : Nat) : Tests (isLargeIdStart cp) (IsChar cp) :=
  (isInRange_tests cp _).mono (toChar_of_inRanges largeIdStart_chars)
theorem isLargeIdContinue_tests (cp : Nat) : Tests (isLargeIdContinue cp) (IsChar cp) :=
  (isInRange_tests cp _).mono (toChar_of_inRanges largeIdContinue_chars)

theorem isIdStart_tests (cp : Nat) : Tests (isIdStart cp) (IsChar cp) := by
  unfold isIdStart
  refine Tests.ite (fun _ => Tests.pure (fun h => by cases h)) fun _ => ?_
  refine Tests.ite (fun _ => Tests.pure fun _ => isChar_lt (by omega)) fun _ => ?_
  refine Tests.ite (fun _ => Tests.pure (fun h => by cases h)) fun _ => ?_
  refine Tests.ite (fun _ => Tests.pure fun _ => isChar_lt (by omega)) fun _ => ?_
  exact isLargeIdStart_tests cp

theorem isIdContinue_tests (cp : Nat) : Tests (isIdContinue cp) (IsChar cp) := by
  unfold isIdContinue
  refine Tests.ite (fun _ => Tests.pure (fun h => by cases h)) fun _ => ?_
  refine Tests.ite (fun _ => Tests.pure fun _ => isChar_lt (by omega)) fun _ => ?_
  refine Tests.ite (fun _ => Tests.pure (fun h => by cases h)) fun _ => ?_
  refine Tests.ite (fun h => Tests.pure fun _ => isChar_lt ?_) fun _ => ?_
  · simp only [Bool.or_eq_true, decide_eq_true_eq, beq_iff_eq] at h; omega
  refine Tests.ite (fun _ => Tests.pure (fun h => by cases h)) fun _ => ?_
  refine Tests.ite (fun _ => Tests.pure fun _ => isChar_lt (by omega)) fun _ => ?_
  exact Tests.orM (isLargeIdStart_tests cp) (isLargeIdContinue_tests cp)

theorem tests_eq (cp v : Nat) (hv : v < 0xD800) : Tests (pure (cp == v)) (IsChar cp) :=
  Tests.pure fun h => by
    have : cp = v := by simpa using h
    subst this; exact isChar_lt hv

theorem isRegexpIdentifierStart_tests (cp : Nat) : Tests (isRegexpIdentifierStart cp) (IsChar cp) := by
  unfold isRegexpIdentifierStart
  exact Tests.orM (isIdStart_tests cp) (Tests.orM (tests_eq cp _ (by decide)) (tests_eq cp _ (by decide)))

theorem isRegexpIdentifierPart_tests (cp : Nat) : Tests (isRegexpIdentifierPart cp) (IsChar cp) := by
  unfold isRegexpIdentifierPart
  exact Tests.orM (isIdContinue_tests cp) (Tests.orM (tests_eq cp _ (by decide)) (Tests.orM (tests_eq cp _ (by decide))
    (Tests.orM (tests_eq cp _ (by decide)) (tests_eq cp _ (by decide)))))

@[rx_ok] theorem OK.isIdContinue (cp : Nat) : OK (isIdContinue cp) := (isIdContinue_tests cp).keeps
theorem OK.isRegexpIdentifierStart (cp : Nat) : OK (isRegexpIdentifierStart cp) := (isRegexpIdentifierStart_tests cp).keeps
theorem OK.isRegexpIdentifierPart (cp : Nat) : OK (isRegexpIdentifierPart cp) := (isRegexpIdentifierPart_tests cp).keeps

end DL.Rx
