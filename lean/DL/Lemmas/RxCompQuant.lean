import DL.Lemmas.RxCompClass

/-! # Completeness: quantifiers (u-mode) -/
namespace DL.Rx
open DL.RxSpec DL.Gen.Unicode

attribute [local irreducible] isScalar
variable {src : List Nat} {N : Nat}

/-- `eat_decimal_digits` on a known run of digits, as `eat_braced_quantifier` uses it: the value read is in
`last_int_value`, the two bounds are untouched (cf. `eatDecimalDigits_keeps`) -/
theorem eatDecimalDigits_wc (n : Nat) (ds r1 : List Nat) (s : St) (h : UAt src N (ds ++ r1) s)
    (hds : ∀ d ∈ ds, DecimalDigit d) (hstop : ∀ d, r1.head? = some d → ¬DecimalDigit d) :
    Wc (eatDecimalDigits n s) (fun b s1 => (b = true ↔ ds ≠ []) ∧ UAt src N r1 s1 ∧ KeepN s s1 ∧
      s1.lastIntValue = satI (mvDec ds) ∧ s1.lastMinValue = s.lastMinValue ∧ s1.lastMaxValue = s.lastMaxValue) := by
  refine (Wc.of_wp (eatDecimalDigits_wp n _ s h) (NE.eatDecimalDigits n)).mono ?_
  rintro b s1 ⟨ds', r1', he, hds', hstop', hat, rfl, hb⟩
  obtain ⟨e1, e2⟩ := run_unique he hds hds' hstop hstop'
  subst e1 e2
  exact ⟨hb, hat, ⟨rfl, rfl⟩, rfl, rfl, rfl⟩

/-- not followed by a quantifier -/
def NoQ (r : List Nat) : Prop :=
  r.head? ≠ some (ch '*') ∧ r.head? ≠ some (ch '+') ∧ r.head? ≠ some (ch '?') ∧ r.head? ≠ some (ch '{')

theorem not_digit_of {x : Nat} (h : x < 0x30 ∨ 0x39 < x) : ¬DecimalDigit x := by
  intro hd
  have h' : 0x30 ≤ x ∧ x ≤ 0x39 := hd
  omega

theorem head_not_digit {x : Nat} {m : List Nat} (h : x < 0x30 ∨ 0x39 < x) :
    ∀ d, (x :: m).head? = some d → ¬DecimalDigit d := by
  intro d hd; cases hd; exact not_digit_of h

theorem bracedBounds_wc (n : Nat) (m r1 : List Nat) (s : St) (h : UAt src N m s)
    (hq : QuantifierPrefix qokSat (ch '{' :: m) r1) :
    Wc (bracedBounds n false s) (fun b s1 => b = true ∧ UAt src N r1 s1 ∧ KeepN s s1) := by
  cases hq with
  | exact _ _ ds hrun =>
    obtain ⟨e, hne, hds⟩ := hrun
    subst e
    have hdd := fun s h => (eatDecimalDigits_wc (src := src) (N := N) n ds (ch '}' :: r1) s h hds
      (head_not_digit (by decide))).mono (fun b s1 hp => (⟨hp.1.mpr hne, hp.2⟩ : b = true ∧ _))
    unfold bracedBounds
    rx5_auto
    case pos =>
      rename_i hc
      simp only [st_simp, Bool.not_false, Bool.true_and] at hc
      exact absurd (of_decide_eq_true hc) (Int.lt_irrefl _)
    rx5_fin
  | atLeast _ _ ds hrun =>
    obtain ⟨e, hne, hds⟩ := hrun
    subst e
    have hdd := fun s h => (eatDecimalDigits_wc (src := src) (N := N) n ds (ch ',' :: ch '}' :: r1) s h hds
      (head_not_digit (by decide))).mono (fun b s1 hp => (⟨hp.1.mpr hne, hp.2⟩ : b = true ∧ _))
    have hd0 := fun s h => (eatDecimalDigits_wc (src := src) (N := N) n [] (ch '}' :: r1) s h (by simp)
      (head_not_digit (by decide))).mono (fun b s1 hp => (⟨by
        cases b
        · rfl
        · exact absurd rfl (hp.1.mp rfl), hp.2⟩ : b = false ∧ _))
    unfold bracedBounds
    rx5_auto
    case pos =>
      rename_i hint1 _ _ _ _ _ _ _ _ _ hmin2 _ _ hc
      simp only [st_simp, hmin2, hint1, Bool.not_false, Bool.true_and] at hc
      have := of_decide_eq_true hc
      have := satI_le (mvDec ds)
      omega
    rx5_fin
  | range m₁ m₂ _ ds₁ ds₂ hrun1 hrun2 hok =>
    obtain ⟨e1, hne1, hds1⟩ := hrun1
    obtain ⟨e2, hne2, hds2⟩ := hrun2
    subst e2
    have e1' : m = ds₁ ++ ch ',' :: (ds₂ ++ ch '}' :: r1) := e1
    subst e1'
    have hdd1 := fun s h => (eatDecimalDigits_wc (src := src) (N := N) n ds₁ (ch ',' :: (ds₂ ++ ch '}' :: r1)) s h hds1
      (head_not_digit (by decide))).mono (fun b s1 hp => (⟨hp.1.mpr hne1, hp.2⟩ : b = true ∧ _))
    have hdd2 := fun s h => (eatDecimalDigits_wc (src := src) (N := N) n ds₂ (ch '}' :: r1) s h hds2
      (head_not_digit (by decide))).mono (fun b s1 hp => (⟨hp.1.mpr hne2, hp.2⟩ : b = true ∧ _))
    unfold bracedBounds
    rx5_auto
    case pos =>
      rename_i hint1 _ _ _ _ _ _ _ _ hint2 hmin2 _ _ hc
      simp only [st_simp, hint2, hmin2, hint1, Bool.not_false, Bool.true_and] at hc
      have := of_decide_eq_true hc
      have hok' : satI (mvDec ds₁) ≤ satI (mvDec ds₂) := hok
      omega
    rx5_fin

theorem eatBracedQuantifier_wc (n : Nat) (m r1 : List Nat) (s : St) (h : UAt src N (ch '{' :: m) s)
    (hq : QuantifierPrefix qokSat (ch '{' :: m) r1) :
    Wc (eatBracedQuantifier n false s) (fun b s1 => b = true ∧ UAt src N r1 s1 ∧ KeepN s s1) := by
  rw [eatBracedQuantifier_eq]
  rx5_autos
  rx5_fin

theorem eatBracedQuantifier_wcn (n : Nat) (b : Bool) (r : List Nat) (s : St) (h : UAt src N r s)
    (hn : r.head? ≠ some (ch '{')) :
    Wc (eatBracedQuantifier n b s) (fun b s1 => b = false ∧ s1 = s) := by
  rw [eatBracedQuantifier_eq]
  rx5_autos
  exact ⟨rfl, rfl⟩

theorem consumeQuantifier_wcn (n : Nat) (b : Bool) (r : List Nat) (s : St) (h : UAt src N r s) (hn : NoQ r) :
    Wc (consumeQuantifier n b s) (fun b s1 => b = false ∧ s1 = s) := by
  obtain ⟨h1, h2, h3, h4⟩ := hn
  have hb := fun s (h : UAt src N r s) => eatBracedQuantifier_wcn (src := src) (N := N) n b r s h h4
  unfold consumeQuantifier
  rx5_autos
  exact ⟨rfl, rfl⟩

/-- a `QuantifierPrefix` is one of the three symbols or starts with `{` -/
theorem quantifierPrefix_head {qok : Nat → Nat → Prop} {r m : List Nat} (hp : QuantifierPrefix qok r m) :
    r = ch '*' :: m ∨ r = ch '+' :: m ∨ r = ch '?' :: m ∨ ∃ m', r = ch '{' :: m' := by
  cases hp with
  | star => exact .inl rfl
  | plus => exact .inr (.inl rfl)
  | opt => exact .inr (.inr (.inl rfl))
  | exact m₁ | atLeast m₁ | range m₁ => exact .inr (.inr (.inr ⟨m₁, rfl⟩))

/-- the alternatives of `consume_quantifier` for the `QuantifierPrefix` -/
theorem quantifierPrefix_wc (n : Nat) (r m : List Nat) (s : St) (h : UAt src N r s)
    (hp : QuantifierPrefix qokSat r m) :
    Wc ((eat '*' <or> eat '+' <or> eat '?' <or> eatBracedQuantifier n false) s)
      (fun b s1 => b = true ∧ UAt src N m s1 ∧ KeepN s s1) := by
  have moved : ∀ {x : Char}, UAt src N (ch x :: m) s → Wc (eat x s) (fun b s1 => b = true ∧ UAt src N m s1 ∧ KeepN s s1) :=
    fun h => (Wc.eat_hit h).mono fun _ _ hq => ⟨hq.1, hq.2 ▸ h.step, hq.2 ▸ ⟨rfl, rfl⟩⟩
  rcases quantifierPrefix_head hp with rfl | rfl | rfl | ⟨m', rfl⟩
  · exact .orM_hit (moved h)
  · exact .orM_skip (Wc.eat_miss h (head_ne_of_ne (by decide) _)) <| .orM_hit (moved h)
  · exact .orM_skip (Wc.eat_miss h (head_ne_of_ne (by decide) _)) <|
      .orM_skip (Wc.eat_miss h (head_ne_of_ne (by decide) _)) <| .orM_hit (moved h)
  · exact .orM_skip (Wc.eat_miss h (head_ne_of_ne (by decide) _)) <|
      .orM_skip (Wc.eat_miss h (head_ne_of_ne (by decide) _)) <|
      .orM_skip (Wc.eat_miss h (head_ne_of_ne (by decide) _)) <| eatBracedQuantifier_wc n m' m s h hp

theorem consumeQuantifier_wc (n : Nat) (r r1 : List Nat) (s : St) (h : UAt src N r s)
    (hq : Quantifier qokSat r r1) (hf : r1.head? ≠ some (ch '?')) :
    Wc (consumeQuantifier n false s) (fun b s1 => b = true ∧ UAt src N r1 s1 ∧ KeepN s s1) := by
  unfold consumeQuantifier
  cases hq with
  | greedy hp | lazy hp =>
    refine Wc.call (quantifierPrefix_wc n r _ s h hp) fun b s1 hq => ?_
    obtain ⟨rfl, hat, hk⟩ := hq
    rx5_auto
    rx5_fin

theorem consumeOptionalQuantifier_wc (n : Nat) (r r1 : List Nat) (s : St) (h : UAt src N r s)
    (hq : Quantifier qokSat r r1) (hf : r1.head? ≠ some (ch '?')) :
    Wc (consumeOptionalQuantifier n s) (fun b s1 => b = true ∧ UAt src N r1 s1 ∧ KeepN s s1) := by
  unfold consumeOptionalQuantifier
  rx5_autos
  exact ⟨rfl, ‹UAt src N r1 _›, ‹KeepN s _›⟩

theorem consumeOptionalQuantifier_wcn (n : Nat) (r : List Nat) (s : St) (h : UAt src N r s) (hf : NoQ r) :
    Wc (consumeOptionalQuantifier n s) (fun b s1 => b = true ∧ s1 = s) := by
  have hq := fun s (h : UAt src N r s) => consumeQuantifier_wcn (src := src) (N := N) n false r s h hf
  unfold consumeOptionalQuantifier
  rx5_autos
  exact ⟨rfl, rfl⟩

end DL.Rx
