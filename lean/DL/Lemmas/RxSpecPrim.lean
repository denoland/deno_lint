import DL.Lemmas.RxAt
import DL.Lemmas.RxInd

/-! # Soundness w.r.t. the grammar: the symbolic state `UAt`, primitive steps, the stepping tactic -/
namespace DL.Rx

/-- the validator in u-mode reads `src`, has counted `N` groups, and `r` is the input that remains -/
def UAt (src : List Nat) (N : Nat) (r : List Nat) (s : St) : Prop :=
  RInv src s.reader ∧ src.drop s.reader.index = r ∧ s.uFlag = true ∧ s.strict = true ∧ s.nFlag = true ∧
    s.numCapturingParens = N

variable {src : List Nat} {N : Nat} {α β : Type}

theorem UAt.like : AtLike src (UAt src N) where
  rat h := ⟨h.1, h.2.1⟩
  move h h' m := ⟨h'.1, h'.2, m.1.trans h.2.2.1, m.2.1.trans h.2.2.2.1, m.2.2.1.trans h.2.2.2.2.1, m.2.2.2.trans h.2.2.2.2.2⟩

theorem UAt.rat {r : List Nat} {s : St} (h : UAt src N r s) : RAt src r s := UAt.like.rat h
theorem UAt.inv {r : List Nat} {s : St} (h : UAt src N r s) : RInv src s.reader := h.1
theorem UAt.rest {r : List Nat} {s : St} (h : UAt src N r s) : src.drop s.reader.index = r := h.2.1

theorem UAt.uFlag' {r : List Nat} {s : St} (h : UAt src N r s) : s.uFlag = true := h.2.2.1
theorem UAt.strict' {r : List Nat} {s : St} (h : UAt src N r s) : s.strict = true := h.2.2.2.1
theorem UAt.nFlag' {r : List Nat} {s : St} (h : UAt src N r s) : s.nFlag = true := h.2.2.2.2.1
theorem UAt.ncp {r : List Nat} {s : St} (h : UAt src N r s) : s.numCapturingParens = N := h.2.2.2.2.2

/-- what every production leaves alone -/
structure Keep (s0 s1 : St) : Prop where
  gn : s1.groupNames = s0.groupNames
  bn : s1.backreferenceNames = s0.backreferenceNames
  str : s1.lastStrValue = s0.lastStrValue

theorem Keep.refl (s : St) : Keep s s := ⟨rfl, rfl, rfl⟩
theorem Keep.trans {a b c : St} (h1 : Keep a b) (h2 : Keep b c) : Keep a c :=
  ⟨h2.gn.trans h1.gn, h2.bn.trans h1.bn, h2.str.trans h1.str⟩

/-- the weaker frame of the productions that use `last_str_value` themselves -/
structure KeepN (s0 s1 : St) : Prop where
  gn : s1.groupNames = s0.groupNames
  bn : s1.backreferenceNames = s0.backreferenceNames

theorem KeepN.refl (s : St) : KeepN s s := ⟨rfl, rfl⟩
theorem KeepN.trans {a b c : St} (h1 : KeepN a b) (h2 : KeepN b c) : KeepN a c :=
  ⟨h2.gn.trans h1.gn, h2.bn.trans h1.bn⟩
theorem Keep.toN {a b : St} (h : Keep a b) : KeepN a b := ⟨h.gn, h.bn⟩

/-- after consuming one unit -/
theorem UAt.step {x : Nat} {r : List Nat} {s : St} (h : UAt src N (x :: r) s) :
    UAt src N r (s.setPos src (s.reader.index + 1)) := UAt.like.step h

theorem setPos_self {s : St} (h : RInv src s.reader) : s.setPos src s.reader.index = s := by
  unfold St.setPos St.pos
  rw [← h.cps_eq]

/-- record updates outside the reader and the mode fields keep `UAt` -/
theorem UAt.of_eq {r : List Nat} {s s' : St} (h : UAt src N r s) (h1 : s'.reader = s.reader) (h2 : s'.uFlag = s.uFlag)
    (h3 : s'.strict = s.strict) (h4 : s'.nFlag = s.nFlag) (h5 : s'.numCapturingParens = s.numCapturingParens) :
    UAt src N r s' := UAt.like.reg h h1 ⟨h2, h3, h4, h5⟩

/-! ### `Wp` rules in continuation-passing form -/

theorem Wp.pure {a : α} {s : St} {Q : α → St → Prop} (h : Q a s) : Wp ((Pure.pure a : M α) s) Q := h

theorem Wp.bind_pure {a : α} {f : α → M β} {s : St} {Q : β → St → Prop} (h : Wp (f a s) Q) :
    Wp (((Pure.pure a : M α) >>= f) s) Q := h

theorem Wp.tail {m : M α} {s : St} {Q : α → St → Prop} (h : Wp ((m >>= Pure.pure) s) Q) : Wp (m s) Q := by
  rw [bind_pure'] at h; exact h

theorem Wp.bind_assoc {γ : Type} {a : M α} {f : α → M β} {g : β → M γ} {s : St} {Q : γ → St → Prop}
    (h : Wp ((a >>= fun x => f x >>= g) s) Q) : Wp (((a >>= f) >>= g) s) Q := by
  rw [bind_assoc']; exact h

theorem Wp.ite {p : Prop} [Decidable p] {a b : M α} {s : St} {Q : α → St → Prop}
    (ha : p → Wp (a s) Q) (hb : ¬p → Wp (b s) Q) : Wp ((if p then a else b) s) Q := by
  by_cases h : p
  · rw [if_pos h]; exact ha h
  · rw [if_neg h]; exact hb h

theorem Wp.bind_ite {p : Prop} [Decidable p] {a b : M α} {g : α → M β} {s : St} {Q : β → St → Prop}
    (ha : p → Wp ((a >>= g) s) Q) (hb : ¬p → Wp ((b >>= g) s) Q) : Wp (((if p then a else b) >>= g) s) Q := by
  rw [ite_bind]; exact Wp.ite ha hb

theorem Wp.bind_orM {a b : M Bool} {g : Bool → M β} {s : St} {Q : β → St → Prop}
    (h : Wp ((a >>= fun x => if x = true then g true else b >>= g) s) Q) : Wp (((a <or> b) >>= g) s) Q := by
  rw [orM_bind]; exact h

theorem Wp.bind_andM {a b : M Bool} {g : Bool → M β} {s : St} {Q : β → St → Prop}
    (h : Wp ((a >>= fun x => if x = true then b >>= g else g false) s) Q) : Wp (((a <and> b) >>= g) s) Q := by
  rw [andM_bind]; exact h

theorem Wp.bind_getSt {g : St → M β} {s : St} {Q : β → St → Prop} (h : Wp (g s s) Q) : Wp ((getSt >>= g) s) Q := h

theorem Wp.bind_modSt {f : St → St} {g : Unit → M β} {s : St} {Q : β → St → Prop} (h : Wp (g () (f s)) Q) :
    Wp ((modSt f >>= g) s) Q := h

theorem Wp.bind_setInt {v : Int} {g : Unit → M β} {s : St} {Q : β → St → Prop}
    (h : Wp (g () (s.withInt v)) Q) : Wp ((setInt v >>= g) s) Q := h

theorem Wp.bind_setStr {v : List Nat} {g : Unit → M β} {s : St} {Q : β → St → Prop}
    (h : Wp (g () (s.withStr v)) Q) : Wp ((setStr v >>= g) s) Q := h

theorem Wp.bind_fail {msg : String} {g : α → M β} {s : St} {Q : β → St → Prop} :
    Wp (((fail msg : M α) >>= g) s) Q := trivial

theorem Wp.bind_outOfFuel {g : α → M β} {s : St} {Q : β → St → Prop} :
    Wp (((outOfFuel : M α) >>= g) s) Q := trivial

theorem Wp.outOfFuel {s : St} {Q : α → St → Prop} : Wp ((DL.Rx.outOfFuel : M α) s) Q := trivial

theorem Wp.bind_rustPanic {why : String} {g : α → M β} {s : St} {Q : β → St → Prop} :
    Wp (((rustPanic why : M α) >>= g) s) Q := trivial

theorem Wp.bind_unwrap {o : Option α} {why : String} {g : α → M β} {s : St} {Q : β → St → Prop}
    (h : ∀ a, o = some a → Wp (g a s) Q) : Wp ((unwrap o why >>= g) s) Q := by
  cases o with
  | none => trivial
  | some a => exact h a rfl

theorem Wp.bind_index {g : Nat → M β} {s : St} {Q : β → St → Prop} (h : Wp (g s.reader.index s) Q) :
    Wp ((index >>= g) s) Q := h

/-! the reader rules, as the stepping tactic calls them -/

theorem Wp.bind_cpo0 {r : List Nat} {g : Option Nat → M β} {s : St} {Q : β → St → Prop} (h : UAt src N r s)
    (hnil : r = [] → Wp (g none s) Q) (hcons : ∀ x r', r = x :: r' → Wp (g (some x) s) Q) :
    Wp ((codePointWithOffset 0 >>= g) s) Q := UAt.like.bind_cpo0 h hnil hcons

theorem Wp.bind_cpo {r : List Nat} {k : Nat} {g : Option Nat → M β} {s : St} {Q : β → St → Prop} (h : UAt src N r s)
    (hk : k < 4) (hg : Wp (g r[k]? s) Q) : Wp ((codePointWithOffset k >>= g) s) Q := UAt.like.bind_cpo h hk hg

theorem Wp.bind_advance_cons {x : Nat} {r : List Nat} {g : Unit → M β} {s : St} {Q : β → St → Prop}
    (h : UAt src N (x :: r) s)
    (hg : UAt src N r (s.setPos src (s.reader.index + 1)) → Wp (g () (s.setPos src (s.reader.index + 1))) Q) :
    Wp ((advance >>= g) s) Q := UAt.like.bind_advance_cons h hg

theorem Wp.bind_advance_nil {g : Unit → M β} {s : St} {Q : β → St → Prop}
    (h : UAt src N [] s) (hg : Wp (g () s) Q) : Wp ((advance >>= g) s) Q := UAt.like.bind_advance_nil h hg

theorem Wp.bind_rewind {r r0 : List Nat} {g : Unit → M β} {s s0 : St} {Q : β → St → Prop}
    (h : UAt src N r s) (h0 : UAt src N r0 s0)
    (hg : UAt src N r0 (s.setPos src s0.reader.index) → Wp (g () (s.setPos src s0.reader.index)) Q) :
    Wp ((rewind s0.reader.index >>= g) s) Q := UAt.like.bind_rewind h h0 hg

theorem Wp.bind_rewind' {r : List Nat} {i : Nat} {g : Unit → M β} {s : St} {Q : β → St → Prop}
    (h : UAt src N r s) (hle : i ≤ src.length)
    (hg : UAt src N (src.drop i) (s.setPos src i) → Wp (g () (s.setPos src i)) Q) : Wp ((rewind i >>= g) s) Q :=
  UAt.like.bind_rewind' h hle hg

theorem Wp.bind_eat {r : List Nat} {x : Char} {g : Bool → M β} {s : St} {Q : β → St → Prop} (h : UAt src N r s)
    (ht : ∀ r', r = ch x :: r' → UAt src N r' (s.setPos src (s.reader.index + 1)) →
      Wp (g true (s.setPos src (s.reader.index + 1))) Q)
    (hf : r.head? ≠ some (ch x) → Wp (g false s) Q) : Wp ((eat x >>= g) s) Q := UAt.like.bind_eat h ht hf

theorem Wp.bind_eat2 {r : List Nat} {x y : Char} {g : Bool → M β} {s : St} {Q : β → St → Prop} (h : UAt src N r s)
    (ht : ∀ r', r = ch x :: ch y :: r' → UAt src N r' (s.setPos src (s.reader.index + 2)) →
      Wp (g true (s.setPos src (s.reader.index + 2))) Q)
    (hf : (¬∃ r', r = ch x :: ch y :: r') → Wp (g false s) Q) : Wp ((eat2 x y >>= g) s) Q := UAt.like.bind_eat2 h ht hf

theorem Wp.bind_eat3 {r : List Nat} {x y z : Char} {g : Bool → M β} {s : St} {Q : β → St → Prop} (h : UAt src N r s)
    (ht : ∀ r', r = ch x :: ch y :: ch z :: r' → UAt src N r' (s.setPos src (s.reader.index + 3)) →
      Wp (g true (s.setPos src (s.reader.index + 3))) Q)
    (hf : (¬∃ r', r = ch x :: ch y :: ch z :: r') → Wp (g false s) Q) : Wp ((eat3 x y z >>= g) s) Q :=
  UAt.like.bind_eat3 h ht hf

/-- ordered choice, one alternative at a time: alternatives that share a specification — success establishes `G`,
failure leaves the reader at `r` — pass it on to `a <or> b` -/
theorem Wp.orM_at {a b : M Bool} {r : List Nat} {s : St} {G : St → Prop}
    (ha : Wp (a s) (fun x s1 => Keep s s1 ∧ if x = true then G s1 else UAt src N r s1))
    (hb : ∀ s1, Keep s s1 → UAt src N r s1 →
      Wp (b s1) (fun x s2 => Keep s1 s2 ∧ if x = true then G s2 else UAt src N r s2)) :
    Wp ((a <or> b) s) (fun x s1 => Keep s s1 ∧ if x = true then G s1 else UAt src N r s1) := by
  refine Wp.bind (ha.mono ?_)
  rintro x s1 ⟨k1, hx⟩
  cases x
  · rw [if_neg Bool.false_ne_true] at hx
    exact (hb s1 k1 hx).mono fun y s2 hq => ⟨k1.trans hq.1, hq.2⟩
  · exact ⟨k1, hx⟩

end DL.Rx
