import DL.Lemmas.CFPos

/-!
# What the analyzer's steps leave alone

Every step of a visit other than `visit_stmt`'s own flag and the visits of sub-nodes only *records ends*: it calls
`mark_as_end` under some keys and sets the scope's end.  `Marks ks a b` says so once, for all components such a step
cannot touch; each tail operation of `Model/CF.lean` has one lemma `…_marks`, and `with_child_scope` one description of
what the parent sees afterwards (`Sees`, `withChildR_sees`).  `Writes` is the coarser fact about a whole visit: flags
are written under statement positions only, anything at all under positions of the syntax only (`Stmt.writes`).
-/
namespace DL.CF

/-- `b` is `a` after steps that only record ends, under keys of `ks`: the `unreachable` flags, the metadata under other
keys, and what the scope has found (`found_break`, `found_continue`, `may_throw`) are those of `a` -/
structure Marks (ks : List Nat) (a b : A) : Prop where
  ur : ∀ q, b.info.ur q = a.info.ur q
  info : ∀ q, q ∉ ks → b.info q = a.info q
  fb : b.sc.foundBreak = a.sc.foundBreak
  fc : b.sc.foundContinue = a.sc.foundContinue
  mt : b.sc.mayThrow = a.sc.mayThrow

@[simp] theorem setEnd_ur (a : A) (e : Option End) (q : Nat) : (a.setEnd e).info.ur q = a.info.ur q := rfl

section
variable {ks ks' : List Nat} {a b c : A}

theorem Marks.refl (a : A) : Marks ks a a := ⟨fun _ => rfl, fun _ _ => rfl, rfl, rfl, rfl⟩

theorem Marks.trans (h1 : Marks ks a b) (h2 : Marks ks b c) : Marks ks a c :=
  ⟨fun q => (h2.ur q).trans (h1.ur q), fun q hq => (h2.info q hq).trans (h1.info q hq), h2.fb.trans h1.fb,
    h2.fc.trans h1.fc, h2.mt.trans h1.mt⟩

theorem Marks.mono (h : Marks ks a b) (hs : ∀ q, q ∈ ks → q ∈ ks') : Marks ks' a b :=
  ⟨h.ur, fun q hq => h.info q fun hk => hq (hs q hk), h.fb, h.fc, h.mt⟩

theorem Marks.mark (h : Marks ks a b) {p : Nat} (hp : p ∈ ks) (e : End) : Marks ks a (markAsEnd p e b) :=
  ⟨fun q => (markAsEnd_ur p e b q).trans (h.ur q),
    fun q hq => (markAsEnd_info_other p e b q fun he => hq (he ▸ hp)).trans (h.info q hq),
    (markAsEnd_foundBreak p e b).trans h.fb, (markAsEnd_foundContinue p e b).trans h.fc,
    (markAsEnd_mayThrow p e b).trans h.mt⟩

theorem Marks.setEnd (h : Marks ks a b) (e : Option End) : Marks ks a (b.setEnd e) := ⟨h.ur, h.info, h.fb, h.fc, h.mt⟩

theorem Marks.info1 {p q : Nat} (h : Marks [p] a b) (hq : q ≠ p) : b.info q = a.info q :=
  h.info q fun hm => hq (List.mem_singleton.mp hm)

theorem Marks.endAt (h : Marks ks a b) {q : Nat} (hq : q ∉ ks) : b.info.endAt q = a.info.endAt q := by
  unfold Info.endAt; rw [h.info q hq]
end

/-- `mark_as_end(p, e)` followed by setting the scope's end: the shape of most tails -/
theorem markSet_marks (p : Nat) (e : End) (e' : Option End) (a : A) : Marks [p] a ((markAsEnd p e a).setEnd e') :=
  ((Marks.refl a).mark (.head _) e).setEnd e'

theorem blockTail_marks (p : Nat) (a : A) : Marks [p] a (blockTail p a) := (Marks.refl a).mark (.head _) _

theorem sobTail_marks (s : Stmt) (a : A) : Marks [s.pos] a (sobTail s a) := by
  unfold sobTail; split
  · exact (Marks.refl a).mark (.head _) _
  · exact .refl a

theorem whileTail_marks (tt de : Bool) (bp : Nat) (a : A) : Marks [bp] a (whileTail tt de bp a) := by
  unfold whileTail; simp only
  split
  · split
    · exact markSet_marks ..
    · exact .refl a
  · split <;> exact markSet_marks ..

theorem doWhileTail_marks (tt de : Bool) (bp : Nat) (a : A) : Marks [bp] a (doWhileTail tt de bp a) := by
  unfold doWhileTail; simp only
  split
  · split
    · exact markSet_marks ..
    · exact .refl a
  · split <;> exact markSet_marks ..

theorem doWhileAfter_marks (p bp : Nat) (a : A) : Marks [p] a (doWhileAfter p bp a) := by
  unfold doWhileAfter; split
  · exact (Marks.refl a).mark (.head _) _
  · exact .refl a

theorem forTail_marks (p bp : Nat) (de ht tt : Bool) (a : A) : Marks [p, bp] a (forTail p bp de ht tt a) := by
  unfold forTail; split
  · exact (Marks.refl a).mark (.head _) _
  · exact ((Marks.refl a).mark (.tail _ (.head _)) _).setEnd _

theorem forInOfTail_marks (bp : Nat) (a : A) : Marks [bp] a (forInOfTail bp a) := markSet_marks ..

theorem ifJoin_marks (p : Nat) (cr ar : Option End) (a : A) : Marks [p] a (ifJoin p cr ar a) := by
  unfold ifJoin; split <;> exact (Marks.refl a).mark (.head _) _

theorem caseTail_marks (p : Nat) (prev : Option End) (r : A × Sc) : Marks [p] r.1 (caseTail p prev r) := markSet_marks ..

theorem tryCatchJoin_marks (te : Option End) (tm : Bool) (a : A) : Marks [] a (tryCatchJoin te tm a) := by
  unfold tryCatchJoin; split
  · split <;> first | exact .refl a | exact (Marks.refl a).setEnd _
  · exact (Marks.refl a).setEnd _

theorem finallyJoin_marks (te : Option End) (a : A) : Marks [] a (finallyJoin te a) := by
  unfold finallyJoin; split <;> first | exact .refl a | exact (Marks.refl a).setEnd _

/-! ### `visit_stmt`'s flag, and `visit_try_stmt`, `visit_switch_stmt` cut into named steps -/

/-- the state right after `visit_stmt` recorded the `unreachable` flag at `p` -/
def flagA (a : A) (p : Nat) (t : Tag) : A := { a with info := a.info.setUnreach p (unreachableFlag a.sc t) }

/-- the last step of `visit_try_stmt`, `if let Some(end) = self.scope.end { self.mark_as_end(n.start(), end) }` -/
def tryFin (p : Nat) (a : A) : A :=
  match a.sc.end_ with
  | some e => markAsEnd p e a
  | none => a

/-- the `if let Some(handler) = &n.handler` part of `visit_try_stmt`: `a` is the state after the try block, `prev` is
`prev_end`, and the `match (try_block_end, self.scope.end)` is `tryCatchJoin` -/
def tryHandler (hh : Bool) (cp : Nat) (ck : Kids) (prev : Option End) (a : A) : A :=
  if hh then
    tryCatchJoin a.sc.end_ a.sc.mayThrow
      (withChild .catch_ cp (visitKids ck)
        { (if a.sc.mayThrow then a.setEnd prev else a) with sc := { (if a.sc.mayThrow then a.setEnd prev else a).sc with mayThrow := false } })
  else a

/-- the `if let Some(finalizer) = &n.finalizer` part, whose `match (try_catch_end, self.scope.end)` is `finallyJoin` -/
def tryFinalizer (hf : Bool) (fp : Nat) (f : Stmts) (prev : Option End) (a : A) : A :=
  if hf then finallyJoin a.sc.end_ (withChild .finally_ fp (fun x => blockTail fp (visitStmts f x)) (a.setEnd prev))
  else a

/-- the state the try block is visited from: flag recorded, `may_throw` reset -/
def tryStart (p : Nat) (a : A) : A :=
  { sc := { a.sc with mayThrow := false }, info := a.info.setUnreach p (unreachableFlag a.sc .other) }

/-- the last step: the enclosing `may_throw` is restored -/
def tryDone (old : Bool) (x : A) : A := { x with sc := { x.sc with mayThrow := x.sc.mayThrow || old } }

theorem visitStmt_try (p bp : Nat) (b : Stmts) (hh : Bool) (cp : Nat) (ck : Kids) (hf : Bool) (fp : Nat) (f : Stmts) (a : A) :
    visitStmt (.tryS p bp b hh cp ck hf fp f) a =
      tryDone a.sc.mayThrow (tryFin p (tryFinalizer hf fp f a.sc.end_ (tryHandler hh cp ck a.sc.end_
        (blockTail bp (visitStmts b (tryStart p a)))))) := by
  cases hh <;> cases hf <;> rfl

/-- the end `visit_switch_stmt` gives the statement -/
def switchE (info : Info) (cs : Cases) : End :=
  match (switchEnd info cs).2 with
  | some e => if (switchEnd info cs).1 then e else .cont
  | none => .cont

def switchFin (p : Nat) (prev : Option End) (e : End) (a : A) : A :=
  if e.isForced then markAsEnd p e a else (markAsEnd p e a).setEnd prev

theorem visitStmt_switch (p : Nat) (d : Kids) (cs : Cases) (a : A) :
    visitStmt (.switchS p d cs) a =
      switchFin p a.sc.end_ (switchE (visitCases cs (visitKids d (flagA a p .other))).info cs)
        (visitCases cs (visitKids d (flagA a p .other))) := rfl

theorem tryFin_marks (p : Nat) (a : A) : Marks [p] a (tryFin p a) := by
  unfold tryFin; split
  · exact (Marks.refl a).mark (.head _) _
  · exact .refl a

theorem switchFin_marks (p : Nat) (prev : Option End) (e : End) (a : A) : Marks [p] a (switchFin p prev e a) := by
  unfold switchFin; split
  · exact (Marks.refl a).mark (.head _) _
  · exact markSet_marks ..

/-! ### `with_child_scope` -/

/-- the state `with_child_scope` hands to its closure: a new scope that inherits only a forced end, the same metadata -/
def childA (kind : BlockKind) (a : A) : A := { sc := { end_ := childEnd kind a.sc.end_ }, info := a.info }

/-- does an unlabelled `break` found in a child scope of this kind count for the parent -/
def BlockKind.passesBreak : BlockKind → Bool
  | .case | .function | .loop => false
  | _ => true

/-- does the exit of a child scope of this kind call `mark_as_end` -/
def BlockKind.marksParent : BlockKind → Bool
  | .function | .loop | .catch_ | .finally_ => true
  | _ => false

/-- can a child scope of this kind end the enclosing scope -/
def BlockKind.endsParent : BlockKind → Bool
  | .loop | .catch_ | .finally_ => true
  | _ => false

theorem mergeFb_some_none (kind : BlockKind) (x y : Option (Option Id)) :
    mergeFb kind x y = some none ↔ (x = some none ∨ (kind.passesBreak = true ∧ y = some none)) := by
  have hgen : (if (y == some none) = true then some none else if x.isNone = true then y else x) = some none ↔
      (x = some none ∨ y = some none) := by
    by_cases hy : y = some none
    · simp [hy]
    · rcases x with _ | x
      · simp [hy]
      · simp [hy]
  cases kind with
  | case | function | loop => simp [mergeFb, BlockKind.passesBreak]
  | _ => simpa [mergeFb, BlockKind.passesBreak] using hgen

theorem mergeFb_kept (kind : BlockKind) (x y : Option (Option Id)) (h : kind.passesBreak = false) : mergeFb kind x y = x := by
  cases kind <;> first | rfl | cases h

/-- What the parent scope `a` sees in `r` after `with_child_scope(kind, p, ..)` whose closure left the child in `c`:
the child's metadata but for an end recorded under `p`; the child's `found_continue` and `may_throw` joined to its own;
an unlabelled `break` of the child if the kind lets it pass; and an end that stops only if its own did or the child's
does. -/
structure Sees (kind : BlockKind) (p : Nat) (a c r : A) : Prop where
  ur : ∀ q, r.info.ur q = c.info.ur q
  info : ∀ q, q ≠ p → r.info q = c.info q
  infoAll : kind.marksParent = false → r.info = c.info
  fc : r.sc.foundContinue = (a.sc.foundContinue || c.sc.foundContinue)
  mt : r.sc.mayThrow = (a.sc.mayThrow || c.sc.mayThrow)
  fb : r.sc.foundBreak = some none ↔ (a.sc.foundBreak = some none ∨ (kind.passesBreak = true ∧ c.sc.foundBreak = some none))
  fbKept : kind.passesBreak = false → r.sc.foundBreak = a.sc.foundBreak
  stop : stopsEnd r.sc.end_ = true → stopsEnd a.sc.end_ = true ∨ stopsEnd c.sc.end_ = true
  end_ : kind.endsParent = false → r.sc.end_ = a.sc.end_

theorem childExit_sees (kind : BlockKind) (p : Nat) (a c : A) :
    Sees kind p a c (childExit kind p a.sc.end_ { sc := mergeSc kind a.sc c.sc, info := c.info } c.sc.end_) := by
  -- the merged parent, before the exit looks at the child's end
  have hm : Sees kind p a c { sc := mergeSc kind a.sc c.sc, info := c.info } :=
    ⟨fun _ => rfl, fun _ _ => rfl, fun _ => rfl, rfl, rfl, mergeFb_some_none kind _ _,
      mergeFb_kept kind _ _, Or.inl, fun _ => rfl⟩
  -- an exit that is `mark_as_end(p, e)` with the child's end `e`, possibly followed by setting the scope's end
  have hmark (e : End) (he : c.sc.end_ = some e) (x : A)
      (hx : Marks [p] { sc := mergeSc kind a.sc c.sc, info := c.info } x)
      (hst : stopsEnd x.sc.end_ = true → stopsEnd a.sc.end_ = true ∨ stopsEnd (some e) = true)
      (hk : kind.endsParent = false → x.sc.end_ = a.sc.end_) (hmk : kind.marksParent = true) :
      Sees kind p a c x :=
    ⟨hx.ur, fun q hq => hx.info q (by simpa using hq), fun h => absurd (hmk.symm.trans h) (by simp), hx.fc, hx.mt, by rw [hx.fb]; exact hm.fb,
      fun h => hx.fb.trans (hm.fbKept h), fun h => he ▸ hst h, hk⟩
  rcases hce : c.sc.end_ with _ | e
  · exact hm
  · unfold childExit
    cases kind with
    | program | case | ifK => exact hm
    | function =>
      refine hmark e hce _ ?_ (fun h => .inl h) (fun _ => rfl) rfl
      cases e <;> first | exact (Marks.refl _).setEnd _ | exact markSet_marks ..
    | loop =>
      cases e with
      | forced r t i => exact hmark _ hce _ (markSet_marks ..) (fun _ => .inr rfl) nofun rfl
      | brk | cont => exact hmark _ hce _ (markSet_marks ..) (fun h => .inl h) nofun rfl
    | label l =>
      simp only
      split
      · next hfb =>
        refine ⟨fun _ => rfl, fun _ _ => rfl, fun _ => rfl, rfl, rfl, ?_, nofun, Or.inl, fun _ => rfl⟩
        have : mergeFb (.label l) a.sc.foundBreak c.sc.foundBreak = some (some l) := hfb
        rw [← hm.fb]
        show none = some none ↔ mergeFb (.label l) a.sc.foundBreak c.sc.foundBreak = some none
        rw [this]; simp
      · exact hm
    | catch_ =>
      refine hmark e hce _ ((Marks.refl _).mark (.head _) _) (fun h => ?_) nofun rfl
      rw [markAsEnd_stops, Bool.or_eq_true] at h; exact h
    | finally_ =>
      refine hmark e hce _ ((Marks.refl _).mark (.head _) _) (fun h => ?_) nofun rfl
      rw [markAsEnd_stops, Bool.or_eq_true] at h; exact h

theorem withChildR_sees (kind : BlockKind) (p : Nat) (op : A → A) (a : A) :
    Sees kind p a (op (childA kind a)) (withChildR kind p op a).1 := childExit_sees kind p a (op (childA kind a))

theorem withChild_sees (kind : BlockKind) (p : Nat) (op : A → A) (a : A) :
    Sees kind p a (op (childA kind a)) (withChild kind p op a) := withChildR_sees kind p op a

end DL.CF
