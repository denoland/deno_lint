import DL.Model.Regex

/-!
# The inner blocks of the validator's larger functions, by name

The model transcribes each Rust `fn` as one `def`; some of them hold an inner block whose result decides how the
function goes on (`let done ← (do …)`).  A proof by symbolic execution that walks through such a function as a whole
executes everything after the block once per path through it.  Here the blocks get names, and each function is shown
— by `rfl` — to be its frame around the block, so that the history pass (`RxIndLeaves`), the fuel pass (`RxFuLeaves`) and
the grammar passes (`RxSpecQuant`, `RxSpecProp`, `RxBQuant`, `RxBName`) state what the block does once and use it as they
use the specification of a callee.
-/
namespace DL.Rx

/-- `eat_braced_quantifier`: what follows `{` — `DecimalDigits [, [DecimalDigits]] }` with the order check -/
def bracedBounds (fuel : Nat) (noError : Bool) : M Bool := do
  if ← eatDecimalDigits fuel then
    modSt fun s => { s with lastMinValue := s.lastIntValue, lastMaxValue := s.lastIntValue }
    if ← eat ',' then
      if ← eatDecimalDigits fuel then modSt fun s => { s with lastMaxValue := s.lastIntValue }
      else modSt fun s => { s with lastMaxValue := i64Max }
    if ← eat '}' then
      let s ← getSt
      if !noError && s.lastMaxValue < s.lastMinValue then fail "numbers out of order in {} quantifier"
      else pure true
    else pure false
  else pure false

theorem eatBracedQuantifier_eq (fuel : Nat) (noError : Bool) : eatBracedQuantifier fuel noError = (do
    let start ← index
    if ← eat '{' then
      modSt fun s => { s with lastMinValue := 0, lastMaxValue := i64Max }
      let done ← bracedBounds fuel noError
      if done then pure true
      else
        let s ← getSt
        if !noError && (s.uFlag || s.strict) then fail "Incomplete quantifier"
        else do
          rewind start
          pure false
    else pure false) := rfl

/-- `eat_unicode_property_value_expression`: the attempt at `UnicodePropertyName = UnicodePropertyValue`;
`none` = not of this form (the caller rewinds) -/
def propNameValue (fuel : Nat) : M (Option Bool) := do
  if ← (eatUnicodePropertyName fuel <and> eat '=') then
    modSt fun s => { s with lastKeyValue := s.lastStrValue }
    if ← eatUnicodePropertyValue fuel then
      modSt fun s => { s with lastValValue := s.lastStrValue }
      let s ← getSt
      if isValidUnicodeProperty s.lastKeyValue s.lastValValue then pure (some true)
      else fail "Invalid property name"
    else pure none
  else pure none

/-- `eat_unicode_property_value_expression`: `LoneUnicodePropertyNameOrValue` -/
def propLone (fuel : Nat) : M Bool := do
  if ← eatLoneUnicodePropertyNameOrValue fuel then
    let nameOrValue := (← getSt).lastStrValue
    if isValidUnicodeProperty generalCategory nameOrValue then
      modSt fun s => { s with lastKeyValue := generalCategory, lastValValue := nameOrValue }
      pure true
    else if isValidLoneUnicodeProperty nameOrValue then
      modSt fun s => { s with lastKeyValue := nameOrValue, lastValValue := [] }
      pure true
    else fail "Invalid property name"
  else pure false

theorem eatUnicodePropertyValueExpression_eq (fuel : Nat) : eatUnicodePropertyValueExpression fuel = (do
    let start ← index
    let cont ← propNameValue fuel
    match cont with
    | some b => pure b
    | none => do
      rewind start
      propLone fuel) := rfl

/-- `eat_regexp_identifier_part`: the code point the identifier character denotes, read after `cp0` has been
consumed — a `\u` escape, a surrogate pair (without the `u` flag), or `cp0` itself -/
def identPartCp (fuel : Nat) (forceUFlag : Bool) (cp0 cp1 : Option Nat) : M (Option Nat) := do
  if ← (pure (cp0 == some (ch '\\')) <and> eatRegexpUnicodeEscapeSequence fuel forceUFlag) then
    pure (some (i64AsU32 (← getSt).lastIntValue))
  else
    match forceUFlag, cp0, cp1 with
    | true, some c, some c1 =>
      if isLeadSurrogate c && isTrailSurrogate c1 then do
        advance
        pure (some (i64AsU32 (combineSurrogatePair c c1)))
      else pure cp0
    | _, _, _ => pure cp0

theorem eatRegexpIdentifierPart_eq (fuel : Nat) : eatRegexpIdentifierPart fuel = (do
    let start ← index
    let forceUFlag := !(← getSt).uFlag && true
    let cp0 ← codePointWithOffset 0
    advance
    let cp1 ← codePointWithOffset 0
    let cp ← identPartCp fuel forceUFlag cp0 cp1
    let hit ← (match cp with
      | some c => do
        if ← isRegexpIdentifierPart c then do
          setInt c
          pure true
        else pure false
      | none => pure false : M Bool)
    if hit then pure true
    else do
      if (← index) != start then rewind start
      pure false) := rfl

/-- `eat_regexp_identifier_start`: as `identPartCp`, for a first character that exists -/
def identStartCp (fuel : Nat) (forceUFlag : Bool) (cp0 : Nat) (cp1 : Option Nat) : M Nat := do
  if ← (pure (cp0 == ch '\\') <and> eatRegexpUnicodeEscapeSequence fuel forceUFlag) then
    pure (i64AsU32 (← getSt).lastIntValue)
  else if forceUFlag && isLeadSurrogate cp0 then
    match cp1 with
    | some c1 =>
      if isTrailSurrogate c1 then do
        advance
        pure (i64AsU32 (combineSurrogatePair cp0 c1))
      else pure cp0
    | none => pure cp0
  else pure cp0

/-- the two blocks differ only in how they nest the tests for a surrogate pair -/
theorem identPartCp_some (n : Nat) (f : Bool) (c : Nat) (cp1 : Option Nat) :
    identPartCp n f (some c) cp1 = identStartCp n f c cp1 >>= fun v => pure (some v) := by
  funext s
  show M.bind _ _ s = M.bind (M.bind _ _) _ s
  unfold M.bind
  rw [show (some c == some (ch '\\')) = (c == ch '\\') from rfl]
  generalize (pure (c == ch '\\') <and> eatRegexpUnicodeEscapeSequence n f) s = res
  obtain _ | _ := f
  · obtain ⟨_ | _, s1⟩ | _ | _ | _ := res <;> rfl
  obtain ⟨_ | _, s1⟩ | _ | _ | _ := res <;> try rfl
  obtain _ | c1 := cp1 <;> dsimp only <;> cases isLeadSurrogate (c : Int) <;> try rfl
  cases isTrailSurrogate (c1 : Int) <;> try rfl
  show M.bind advance _ s1 = M.bind (M.bind advance _) _ s1
  unfold M.bind
  cases advance s1 <;> rfl

theorem identPartCp_none (n : Nat) (f : Bool) (cp1 : Option Nat) : identPartCp n f none cp1 = pure none := by
  funext s
  cases f <;> rfl

/-- `eat_regexp_identifier_start`: everything between taking `start` and the final rewind -/
def identStartHit (fuel : Nat) (forceUFlag : Bool) : M Bool := do
  match ← codePointWithOffset 0 with
  | some cp0 => do
    advance
    let cp1 ← codePointWithOffset 0
    let cp ← identStartCp fuel forceUFlag cp0 cp1
    if ← isRegexpIdentifierStart cp then do
      setInt cp
      pure true
    else pure false
  | none => pure false

theorem eatRegexpIdentifierStart_eq (fuel : Nat) : eatRegexpIdentifierStart fuel = (do
    let start ← index
    let forceUFlag := !(← getSt).uFlag && true
    let hit ← identStartHit fuel forceUFlag
    if hit then pure true
    else do
      if (← index) != start then rewind start
      pure false) := rfl

/-- `eat_regexp_identifier_part`: everything between taking `start` and the final rewind -/
def identPartHit (fuel : Nat) (forceUFlag : Bool) : M Bool := do
  let cp0 ← codePointWithOffset 0
  advance
  let cp1 ← codePointWithOffset 0
  let cp ← identPartCp fuel forceUFlag cp0 cp1
  match cp with
  | some c => do
    if ← isRegexpIdentifierPart c then do
      setInt c
      pure true
    else pure false
  | none => pure false

/-- what `eat_regexp_identifier_start` and `eat_regexp_identifier_part` have in common: remember `start`, try, and
rewind when the attempt fails having moved -/
def identFrame (hit : Bool → M Bool) : M Bool := do
  let start ← index
  let forceUFlag := !(← getSt).uFlag && true
  let hit ← hit forceUFlag
  if hit then pure true
  else do
    if (← index) != start then rewind start
    pure false

theorem eatRegexpIdentifierStart_eq_frame (fuel : Nat) :
    eatRegexpIdentifierStart fuel = identFrame (identStartHit fuel) := rfl

/-- `consume_character_class_escape`: what follows `p` / `P` — `{ UnicodePropertyValueExpression }` or an error -/
def propertyBraces (fuel : Nat) : M Bool := do
  setInt (-1)
  if ← (eat '{' <and> eatUnicodePropertyValueExpression fuel <and> eat '}') then pure true
  else fail "Invalid property name"

theorem consumeCharacterClassEscape_eq (fuel : Nat) : consumeCharacterClassEscape fuel = (do
    if ← (eat 'd' <or> eat 'D' <or> eat 's' <or> eat 'S' <or> eat 'w' <or> eat 'W') then
      setInt (-1)
      pure true
    else if ← ((do pure (← getSt).uFlag) <and> pure true <and> (eat 'p' <or> eat 'P')) then propertyBraces fuel
    else pure false) := rfl

/-- `consume_assertion`: the body of a lookaround, after `(?=`, `(?!`, `(?<=` or `(?<!` -/
def lookaroundBody (fuel : Nat) (lookbehind : Bool) : M Bool := do
  consumeDisjunction fuel
  if !(← eat ')') then fail "Unterminated group"
  else do
    modSt fun s => { s with lastAssertionIsQuantifiable := !lookbehind && !s.strict }
    pure true

/-- `consume_assertion`: what follows `(?`; `start` is where the assertion began -/
def lookaround (fuel : Nat) (start : Nat) : M Bool := do
  let lookbehind ← (/- ecma_version >= Es2018 -/ pure true <and> eat '<')
  let flag ← (eat '=' <or> eat '!')
  if flag then lookaroundBody fuel lookbehind
  else do
    rewind start
    pure false

theorem consumeAssertion_succ_eq (fuel : Nat) : consumeAssertion (fuel + 1) = (do
    let start ← index
    modSt fun s => { s with lastAssertionIsQuantifiable := false }
    if ← (eat '^' <or> eat '$' <or> eat2 '\\' 'B' <or> eat2 '\\' 'b') then pure true
    else if ← eat2 '(' '?' then lookaround fuel start
    else pure false) := rfl

/-- `eat_braced_quantifier`: the closing `}` and the check that the bounds are in order -/
def boundsClose (noError : Bool) : M Bool := do
  if ← eat '}' then
    let s ← getSt
    if !noError && s.lastMaxValue < s.lastMinValue then fail "numbers out of order in {} quantifier"
    else pure true
  else pure false

theorem bracedBounds_eq (fuel : Nat) (noError : Bool) : bracedBounds fuel noError = (do
    if ← eatDecimalDigits fuel then
      modSt fun s => { s with lastMinValue := s.lastIntValue, lastMaxValue := s.lastIntValue }
      if ← eat ',' then
        if ← eatDecimalDigits fuel then modSt fun s => { s with lastMaxValue := s.lastIntValue }
        else modSt fun s => { s with lastMaxValue := i64Max }
      boundsClose noError
    else pure false) := rfl

end DL.Rx
