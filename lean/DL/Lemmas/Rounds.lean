/-! Repairing in rounds: a round that leaves strictly fewer reports whenever one is left brings the reports to none
within as many rounds as there were reports.  Stated for any function `R` "`n` rounds" that obeys the equations of the
two ways the repair loops are written: by iterating a step, or by matching on the reports. -/
namespace DL.Rounds

/-- `R n` iterates `step`; `step` lowers `μ` while it is positive and `inv` holds, keeps `inv`, and rests at `μ = 0` -/
theorem iterate_reaches_zero {σ : Type} (step : σ → σ) (R : Nat → σ → σ) (h0 : ∀ s, R 0 s = s)
    (hR : ∀ n s, R (n + 1) s = R n (step s)) (inv : σ → Prop) (μ : σ → Nat) (hinv : ∀ s, inv s → inv (step s))
    (hlt : ∀ s, inv s → μ s ≠ 0 → μ (step s) < μ s) (hfix : ∀ s, μ s = 0 → step s = s) :
    ∀ n s, inv s → μ s ≤ n → μ (R n s) = 0 := by
  intro n
  induction n with
  | zero => intro s _ h; rw [h0]; exact Nat.le_zero.mp h
  | succ n ih =>
    intro s hs h
    rw [hR]
    refine ih _ (hinv s hs) ?_
    by_cases hz : μ s = 0
    · rw [hfix s hz, hz]; exact Nat.zero_le n
    · exact Nat.le_of_lt_succ (Nat.lt_of_lt_of_le (hlt s hs hz) h)

/-- `R (n + 1)` stops when nothing is reported and otherwise fixes the first report and goes on with `R n` -/
theorem repair_nil {σ δ : Type} (rep : σ → List δ) (fix : σ → δ → σ) (R : Nat → σ → σ) (h0 : ∀ s, R 0 s = s)
    (hnil : ∀ n s, rep s = [] → R (n + 1) s = s) (hcons : ∀ n s d r, rep s = d :: r → R (n + 1) s = R n (fix s d))
    (hlt : ∀ s d, d ∈ rep s → (rep (fix s d)).length < (rep s).length) :
    ∀ n s, (rep s).length ≤ n → rep (R n s) = [] := by
  intro n
  induction n with
  | zero => intro s h; rw [h0]; exact List.eq_nil_of_length_eq_zero (Nat.le_zero.mp h)
  | succ n ih =>
    intro s h
    cases hs : rep s with
    | nil => rw [hnil n s hs, hs]
    | cons d r =>
      rw [hcons n s d r hs]
      exact ih _ (Nat.le_of_lt_succ (Nat.lt_of_lt_of_le (hlt s d (hs ▸ List.mem_cons_self)) h))

end DL.Rounds
