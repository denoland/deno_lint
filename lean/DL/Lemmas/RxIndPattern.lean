import DL.Lemmas.RxIndLeaves

/-! # History independence: escapes, classes, quantifiers, atoms; the recursive productions; `consume_pattern` -/
namespace DL.Rx
attribute [local irreducible] isScalar
variable {c : Bool}
set_option linter.unusedSimpArgs false

theorem I.consumeKGroupName (W : RegSet) (n : Nat) : Ind c (ins .caps W) (consumeKGroupName n) (fun _ => ins .caps W) := by
  unfold DL.Rx.consumeKGroupName; rx2_auto

theorem I.consumeCharacterEscape (W : RegSet) (n : Nat) : Ind c W (consumeCharacterEscape n) (fun b => insIf b .int W) := by
  unfold DL.Rx.consumeCharacterEscape
  refine Ind.orM_sets (I.eatControlEscape W) <| Ind.orM_sets (I.eatCControlLetter W) <| Ind.orM_sets (I.eatZero W) <|
    Ind.orM_sets (I.eatHexEscapeSequence W) <| Ind.orM_sets (I.eatRegexpUnicodeEscapeSequence W n false) <|
    Ind.orM_sets ?_ (I.eatIdentityEscape W)
  refine Ind.andM_sets (Ind.test (fun s => !s.strict) fun _ _ h => by rw [h.strict]) ?_
  refine Ind.andM_sets (Ind.test (fun s => !s.uFlag) fun _ _ h => by rw [h.uFlag]) ?_
  exact (I.eatLegacyOctalEscapeSequence W).post fun b => Sub.insIf_left (b := b) rfl (Sub.ins_right _ (Sub.refl _))

theorem I.propertyBraces (W : RegSet) (n : Nat) : Ind c W (propertyBraces n) (fun b => insIf b .int W) := by
  unfold DL.Rx.propertyBraces; rx2_auto

theorem I.consumeCharacterClassEscape (W : RegSet) (n : Nat) : Ind c W (consumeCharacterClassEscape n) (fun b => insIf b .int W) := by
  rw [consumeCharacterClassEscape_eq]
  refine Ind.bind (Ind.orM_keep (I.eat W 'd') <| Ind.orM_keep (I.eat W 'D') <| Ind.orM_keep (I.eat W 's') <|
    Ind.orM_keep (I.eat W 'S') <| Ind.orM_keep (I.eat W 'w') (I.eat W 'W')) fun _ => Ind.ite (fun _ => ?_) fun _ => ?_
  · exact Ind.bind_setInt (Ind.pure (Sub.refl _))
  refine Ind.bind (Ind.andM_keep (Ind.test (fun s => s.uFlag) fun _ _ h => by rw [h.uFlag]) <|
    Ind.andM_keep (Ind.pure (Sub.refl _)) (Ind.orM_keep (I.eat W 'p') (I.eat W 'P'))) fun _ => ?_
  exact Ind.ite (fun _ => I.propertyBraces W n) fun _ => Ind.pure (Sub.insIf_false (Sub.refl _))

theorem I.consumeBackreference (W : RegSet) (n : Nat) : Ind c (ins .caps W) (consumeBackreference n) (fun _ => ins .caps W) := by
  unfold DL.Rx.consumeBackreference; rx2_auto

theorem I.consumeAtomEscape (W : RegSet) (n : Nat) : Ind c (ins .caps W) (consumeAtomEscape n) (fun _ => ins .caps W) := by
  unfold DL.Rx.consumeAtomEscape; rx2_auto

theorem I.consumeClassEscape (W : RegSet) (n : Nat) : Ind c W (consumeClassEscape n) (fun b => insIf b .int W) := by
  unfold DL.Rx.consumeClassEscape; rx2_auto

theorem I.consumeClassAtom (W : RegSet) (n : Nat) : Ind c W (consumeClassAtom n) (fun b => insIf b .int W) := by
  unfold DL.Rx.consumeClassAtom; rx2_auto

theorem I.consumeClassRanges (W : RegSet) : ∀ n, Ind c W (consumeClassRanges n) (fun _ => W)
  | 0 => by unfold DL.Rx.consumeClassRanges; rx2_auto
  | n + 1 => by
    have ih := I.consumeClassRanges W n
    unfold DL.Rx.consumeClassRanges; rx2_auto

theorem I.consumeCharacterClass (W : RegSet) (n : Nat) : Ind c W (consumeCharacterClass n) (fun _ => W) := by
  unfold DL.Rx.consumeCharacterClass; rx2_auto

theorem I.bracedBounds (W : RegSet) (n : Nat) (b : Bool) : Ind c W (bracedBounds n b) (fun _ => W) := by
  unfold DL.Rx.bracedBounds; rx2_auto

theorem I.eatBracedQuantifier (W : RegSet) (n : Nat) (b : Bool) : Ind c W (eatBracedQuantifier n b) (fun _ => W) := by
  rw [eatBracedQuantifier_eq]; rx2_auto

theorem I.consumeQuantifier (W : RegSet) (n : Nat) (b : Bool) : Ind c W (consumeQuantifier n b) (fun _ => W) := by
  unfold DL.Rx.consumeQuantifier; rx2_auto

theorem I.consumeOptionalQuantifier (W : RegSet) (n : Nat) : Ind c W (consumeOptionalQuantifier n) (fun _ => W) := by
  unfold DL.Rx.consumeOptionalQuantifier; rx2_auto

theorem I.consumeReverseSolidusAtomEscape (W : RegSet) (n : Nat) : Ind c (ins .caps W) (consumeReverseSolidusAtomEscape n) (fun _ => ins .caps W) := by
  unfold DL.Rx.consumeReverseSolidusAtomEscape; rx2_auto

theorem I.consumeReverseSolidusFollowedByC (W : RegSet) : Ind c W consumeReverseSolidusFollowedByC (fun _ => W) := by
  unfold DL.Rx.consumeReverseSolidusFollowedByC; rx2_auto

theorem I.consumeInvalidBracedQuantifier (W : RegSet) (n : Nat) : Ind c W (consumeInvalidBracedQuantifier n) (fun _ => W) := by
  unfold DL.Rx.consumeInvalidBracedQuantifier; rx2_auto

theorem I.consumePatternCharacter (W : RegSet) : Ind c W consumePatternCharacter (fun _ => W) := by
  unfold DL.Rx.consumePatternCharacter; rx2_auto

theorem I.consumeExtendedPatternCharacter (W : RegSet) : Ind c W consumeExtendedPatternCharacter (fun _ => W) := by
  unfold DL.Rx.consumeExtendedPatternCharacter; rx2_auto

theorem I.consumeGroupSpecifier (W : RegSet) (n : Nat) : Ind c (ins .caps W) (consumeGroupSpecifier n) (fun _ => ins .caps W) := by
  unfold DL.Rx.consumeGroupSpecifier; rx2_auto

structure AllInd (c : Bool) (W : RegSet) (n : Nat) : Prop where
  disjunction : Ind c (ins .caps W) (consumeDisjunction n) (fun _ => ins .caps W)
  disjunctionLoop : Ind c (ins .caps W) (consumeDisjunctionLoop n) (fun _ => ins .caps W)
  alternative : Ind c (ins .caps W) (consumeAlternative n) (fun _ => ins .caps W)
  term : Ind c (ins .caps W) (consumeTerm n) (fun _ => ins .caps W)
  assertion : Ind c (ins .caps W) (consumeAssertion n) (fun _ => ins .aiq (ins .caps W))
  atom : Ind c (ins .caps W) (consumeAtom n) (fun _ => ins .caps W)
  extendedAtom : Ind c (ins .caps W) (consumeExtendedAtom n) (fun _ => ins .caps W)
  uncapturingGroup : Ind c (ins .caps W) (consumeUncapturingGroup n) (fun _ => ins .caps W)
  capturingGroup : Ind c (ins .caps W) (consumeCapturingGroup n) (fun _ => ins .caps W)

theorem I.lookaround {W : RegSet} {n : Nat} (ih : AllInd c W n) (start : Nat) :
    Ind c (ins .aiq (ins .caps W)) (lookaround n start) (fun _ => ins .aiq (ins .caps W)) := by
  have h1 := ih.disjunction
  unfold DL.Rx.lookaround DL.Rx.lookaroundBody
  refine Ind.bind (Ind.andM_keep (Ind.pure (Sub.refl _)) (I.eat _ '<')) fun _ => ?_
  refine Ind.bind (Ind.orM_keep (I.eat _ '=') (I.eat _ '!')) fun _ => Ind.ite (fun _ => ?_) (fun _ => ?_)
  all_goals rx2_auto

theorem AllInd.succ {W : RegSet} {n : Nat} (ih : AllInd c W n) : AllInd c W (n + 1) where
  disjunction := by
    have h2 := ih.disjunctionLoop
    have h3 := ih.alternative
    unfold consumeDisjunction; rx2_auto
  disjunctionLoop := by
    have h2 := ih.disjunctionLoop
    have h3 := ih.alternative
    unfold consumeDisjunctionLoop; rx2_auto
  alternative := by
    have h3 := ih.alternative
    have h4 := ih.term
    unfold consumeAlternative; rx2_auto
  term := by
    have ha : Ind c (ins .caps W) (consumeAssertion n) (fun _ => ins .caps W) :=
      ih.assertion.post fun _ => Sub.ins_right _ (Sub.refl _)
    have hq := I.consumeOptionalQuantifier (c := c) (ins .caps W) n
    unfold consumeTerm
    refine Ind.bind_getSt (fun _ _ h => by rw [h.uFlag, h.strict]) fun s => Ind.ite (fun _ => ?_) (fun _ => ?_)
    · exact Ind.orM_keep ha (Ind.andM_keep ih.atom hq)
    · refine Ind.orM_keep (Ind.andM ih.assertion ?_ (Sub.ins_right _ (Sub.refl _))) (Ind.andM_keep ih.extendedAtom hq)
      exact Ind.orM (Ind.test (fun s => !s.lastAssertionIsQuantifiable) fun _ _ h => by rw [h.aiq rfl])
        (Sub.ins_right _ (Sub.refl _)) (hq.pre (Sub.ins_right _ (Sub.refl _)))
  assertion := by
    have hl := I.lookaround ih
    rw [consumeAssertion_succ_eq]
    refine Ind.bind (I.index _) fun start => Ind.bind_modAiq (fun _ _ _ => rfl) ?_
    refine Ind.bind (Ind.orM_keep (I.eat _ '^') <| Ind.orM_keep (I.eat _ '$') <|
      Ind.orM_keep (I.eat2 _ '\\' 'B') (I.eat2 _ '\\' 'b')) fun _ => Ind.ite (fun _ => Ind.pure (Sub.refl _)) fun _ => ?_
    exact Ind.bind (I.eat2 _ '(' '?') fun _ => Ind.ite (fun _ => hl start) fun _ => Ind.pure (Sub.refl _)
  atom := by
    unfold consumeAtom
    exact Ind.orM_keep (I.consumePatternCharacter _) <| Ind.orM_keep (I.eat _ '.') <|
      Ind.orM_keep (I.consumeReverseSolidusAtomEscape W n) <| Ind.orM_keep (I.consumeCharacterClass _ n) <|
      Ind.orM_keep ih.uncapturingGroup ih.capturingGroup
  extendedAtom := by
    unfold consumeExtendedAtom
    exact Ind.orM_keep (I.eat _ '.') <| Ind.orM_keep (I.consumeReverseSolidusAtomEscape W n) <|
      Ind.orM_keep (I.consumeReverseSolidusFollowedByC _) <| Ind.orM_keep (I.consumeCharacterClass _ n) <|
      Ind.orM_keep ih.uncapturingGroup <| Ind.orM_keep ih.capturingGroup <|
      Ind.orM_keep (I.consumeInvalidBracedQuantifier _ n) (I.consumeExtendedPatternCharacter _)
  uncapturingGroup := by
    have h1 := ih.disjunction
    unfold consumeUncapturingGroup; rx2_auto
  capturingGroup := by
    have h1 := ih.disjunction
    unfold consumeCapturingGroup; rx2_auto

theorem allInd (W : RegSet) : ∀ n, AllInd c W n
  | 0 => by
    constructor
    · unfold consumeDisjunction; exact Ind.outOfFuel
    · unfold consumeDisjunctionLoop; exact Ind.outOfFuel
    · unfold consumeAlternative; exact Ind.outOfFuel
    · unfold consumeTerm; exact Ind.outOfFuel
    · unfold consumeAssertion; exact Ind.outOfFuel
    · unfold consumeAtom; exact Ind.outOfFuel
    · unfold consumeExtendedAtom; exact Ind.outOfFuel
    · unfold consumeUncapturingGroup; exact Ind.outOfFuel
    · unfold consumeCapturingGroup; exact Ind.outOfFuel
  | n + 1 => (allInd W n).succ

theorem I.consumeDisjunction (W : RegSet) (n : Nat) :
    Ind c (ins .caps W) (consumeDisjunction n) (fun _ => ins .caps W) := (allInd W n).disjunction

theorem I.countCapturingParensLoop (W : RegSet) :
    ∀ n inClass escaped count, Ind c W (countCapturingParensLoop n inClass escaped count) (fun _ => W)
  | 0, _, _, _ => by unfold DL.Rx.countCapturingParensLoop; rx2_auto
  | n + 1, inClass, escaped, count => by
    have ih := I.countCapturingParensLoop W n
    unfold DL.Rx.countCapturingParensLoop; rx2_auto

theorem I.countCapturingParens (W : RegSet) (n : Nat) : Ind c W (countCapturingParens n) (fun _ => W) := by
  unfold DL.Rx.countCapturingParens; rx2_auto

theorem I.consumePattern (W : RegSet) (n : Nat) : Ind c W (consumePattern n) (fun _ => ins .caps W) := by
  unfold DL.Rx.consumePattern; rx2_auto

end DL.Rx
