import DL.Lemmas.RxBCompQuant
import DL.Lemmas.RxCompRec3
import DL.Lemmas.RxBScanG

/-! # Annex B (no `u` flag), completeness: follow sets, the list view of `Alternative`, and where the recursive
functions answer `false` -/
namespace DL.Rx
open DL.RxSpec DL.Gen.Unicode
variable {src : List Nat} {K : Bool × Nat}

theorem not_ibq_of_ne {x : Nat} {m : List Nat} (h : x ≠ ch '{') : ¬∃ r', RxSpecB.InvalidBracedQuantifier (x :: m) r' := by
  rintro ⟨r', m', e, _⟩
  exact h (List.cons.inj e).1

theorem NoQB.of_ne {x : Nat} {m : List Nat} (h : x ≠ ch '*' ∧ x ≠ ch '+' ∧ x ≠ ch '?' ∧ x ≠ ch '{') : NoQB (x :: m) :=
  ⟨head_ne_of_ne h.1 _, head_ne_of_ne h.2.1 _, head_ne_of_ne h.2.2.1 _, not_ibq_of_ne h.2.2.2⟩

theorem NoQB.nil : NoQB [] :=
  ⟨nil_head_ne _, nil_head_ne _, nil_head_ne _, by rintro ⟨r', m', e, _⟩; cases e⟩

theorem NoQB.of_head {r : List Nat} {x : Nat} (h : r.head? = some x)
    (hx : x ≠ ch '*' ∧ x ≠ ch '+' ∧ x ≠ ch '?' ∧ x ≠ ch '{') : NoQB r := by
  cases r with
  | nil => cases h
  | cons y m => cases h; exact NoQB.of_ne hx

theorem AltFollow.noQB {r : List Nat} (h : AltFollow r) : NoQB r := by
  rcases h with rfl | h | h
  · exact NoQB.nil
  · exact NoQB.of_head h (by decide)
  · exact NoQB.of_head h (by decide)

/-- a term, an assertion, an atom does not start with a quantifier; an alternative / a disjunction does
not, unless it is empty and what follows does -/
theorem derives_noQB {nf : Bool} {qok : Nat → Nat → Prop} {N : Nat} {sym : RxSpecB.Sym} {i r : List Nat} {a : Attr}
    (h : RxSpecB.Derives nf qok N sym i r a) : (NoQB r ∨ isTAAB sym = true) → NoQB i := by
  induction h with
  | disjOne i r a _ ih => exact fun h => ih (h.imp id (fun h => by cases h))
  | disjMore i m r a₁ a₂ _ _ ih1 _ => exact fun _ => ih1 (.inl (NoQB.of_ne (by decide)))
  | altEmpty r => exact fun h => h.elim id (fun h => by cases h)
  | altSnoc i m r a₁ a₂ _ _ ih1 ih2 => exact fun _ => ih1 (.inl (ih2 (.inr rfl)))
  | termQAssertionQuantified _ _ _ _ _ _ ih | termAssertion _ _ _ _ ih | termAtomQuantified _ _ _ _ _ _ _ ih
  | termAtom _ _ _ _ _ ih | quantifiable _ _ _ _ ih => exact fun _ => ih (.inr rfl)
  | caret | dollar | wordBoundary | notWordBoundary | dot | atomEscape | backslashC | group =>
    exact fun _ => NoQB.of_ne (by decide)
  | lookahead i _ _ _ hl | negativeLookahead i _ _ _ hl | lookbehind i _ _ _ hl | negativeLookbehind i _ _ _ hl
  | nonCapturing i _ _ _ hl => exact fun _ => by rw [show i = _ from hl]; exact NoQB.of_ne (by decide)
  | characterClass i r hc =>
    intro _
    cases hc <;> exact NoQB.of_ne (by decide)
  | extendedPatternCharacter x r hx hno =>
    intro _
    refine ⟨?_, ?_, ?_, hno⟩ <;> (refine head_ne_of_ne ?_ _; intro e; subst e; exact hx.2 (by decide))

/-- a term is not empty -/
theorem term_consB {nf : Bool} {qok : Nat → Nat → Prop} {N : Nat} {sym : RxSpecB.Sym} {i r : List Nat} {a : Attr}
    (h : RxSpecB.Derives nf qok N sym i r a) : isTAAB sym = true → ∃ x m, i = x :: m := by
  induction h with
  | disjOne | disjMore | altEmpty | altSnoc => exact fun h => by cases h
  | termQAssertionQuantified _ _ _ _ _ _ ih | termAssertion _ _ _ _ ih | termAtomQuantified _ _ _ _ _ _ _ ih
  | termAtom _ _ _ _ _ ih | quantifiable _ _ _ _ ih => exact fun _ => ih rfl
  | lookahead _ _ _ _ hl | negativeLookahead _ _ _ _ hl | lookbehind _ _ _ _ hl | negativeLookbehind _ _ _ _ hl
  | nonCapturing _ _ _ _ hl => exact fun _ => ⟨_, _, hl⟩
  | characterClass i r hc => intro _; cases hc <;> exact ⟨_, _, rfl⟩
  | _ => exact fun _ => ⟨_, _, rfl⟩

/-- an `Alternative` as the list of its terms, each with a property `P` (the induction hypothesis) -/
inductive TermsPB (K : Bool × Nat) (P : List Nat → List Nat → Attr → Prop) : List Nat → List Nat → Attr → Prop
  | nil (r : List Nat) : TermsPB K P r r Attr.nil
  | cons (i m r : List Nat) (a₁ a₂ : Attr) : RxSpecB.Derives K.1 qokSat K.2 .Term i m a₁ → P i m a₁ →
      TermsPB K P m r a₂ → TermsPB K P i r (a₁ ++ a₂)

theorem TermsPB.snoc {P : List Nat → List Nat → Attr → Prop} {i m r : List Nat} {a₁ a₂ : Attr}
    (h : TermsPB K P i m a₁) (ht : RxSpecB.Derives K.1 qokSat K.2 .Term m r a₂) (hp : P m r a₂) :
    TermsPB K P i r (a₁ ++ a₂) := by
  induction h with
  | nil r0 =>
    rw [Attr.nil_append, ← Attr.append_nil a₂]
    exact TermsPB.cons _ _ _ _ _ ht hp (TermsPB.nil _)
  | cons i0 m0 r0 b₁ b₂ ht0 hp0 _ ih =>
    rw [Attr.append_assoc]
    exact TermsPB.cons _ _ _ _ _ ht0 hp0 (ih ht hp)

theorem TermsPB.noQ {P : List Nat → List Nat → Attr → Prop} {i r : List Nat} {a : Attr}
    (h : TermsPB K P i r a) (hr : NoQB r) : NoQB i := by
  cases h with
  | nil => exact hr
  | cons _ m _ a₁ a₂ ht _ _ => exact derives_noQB ht (.inr rfl)

attribute [local irreducible] isScalar

/-- `consume_assertion` on a text that begins with none of `^`, `$`, `\b`, `\B`: after `(?` it is `lookaround`,
otherwise it answers `false` -/
theorem consumeAssertion_frame {n : Nat} {i : List Nat} {s : St} {Q : Bool → St → Prop} (h : BAt src K i s)
    (h1 : i.head? ≠ some (ch '^')) (h2 : i.head? ≠ some (ch '$')) (h3 : ¬∃ r', i = ch '\\' :: ch 'B' :: r')
    (h4 : ¬∃ r', i = ch '\\' :: ch 'b' :: r')
    (hl : ∀ m s', i = ch '(' :: ch '?' :: m → BAt src K m s' → KeepN s s' → Wc (lookaround n s.reader.index s') Q)
    (hn : (¬∃ m, i = ch '(' :: ch '?' :: m) → ∀ s', BAt src K i s' → KeepN s s' → Q false s') :
    Wc (consumeAssertion (n + 1) s) Q := by
  rw [consumeAssertion_succ_eq]
  rx7_auto
  · exact hn ‹_› _ (by rx6_at) ⟨rfl, rfl⟩
  · assumption

theorem lookaround_wdn (n start : Nat) (hs : start ≤ src.length) (m : List Nat) (s : St) (h : BAt src K m s)
    (hm : (m.head? ≠ some (ch '=') ∧ m.head? ≠ some (ch '!') ∧ m.head? ≠ some (ch '<')) ∨
      ∃ r', m = ch '<' :: r' ∧ r'.head? ≠ some (ch '=') ∧ r'.head? ≠ some (ch '!')) :
    Wc (lookaround n start s) (fun b s1 => b = false ∧ BAt src K (src.drop start) s1 ∧ KeepN s s1) := by
  rcases hm with ⟨h6, h7, h8⟩ | ⟨r', rfl, h6, h7⟩
  all_goals
    unfold lookaround lookaroundBody
    rx7_auto
    exact ⟨rfl, by rx6_at, by rx6_keep⟩

theorem consumeAssertion_wdn (n : Nat) (i : List Nat) (s : St) (h : BAt src K i s) (hn : NAS i) :
    Wc (consumeAssertion n s) (fun b s1 => b = false ∧ BAt src K i s1 ∧ KeepN s s1) := by
  obtain ⟨h1, h2, h3, h4, h5⟩ := hn
  cases n with
  | zero => exact Wc.outOfFuel
  | succ n =>
    refine consumeAssertion_frame h h1 h2 h3 h4 (fun m s' e h' k => ?_) (fun _ s' h' k => ⟨rfl, h', k⟩)
    subst e
    refine (lookaround_wdn n _ h.inv.le m s' h' ?_).mono fun b s1 ⟨hb, h1, k1⟩ => ⟨hb, h.rest ▸ h1, k.trans k1⟩
    rcases h5 with h5 | ⟨r', e, h6⟩ | ⟨r', e, h6⟩
    · exact absurd ⟨m, rfl⟩ h5
    · exact .inl ((List.cons.inj (List.cons.inj e).2).2 ▸ h6)
    · exact .inr ⟨r', (List.cons.inj (List.cons.inj e).2).2, h6⟩

theorem consumeUncapturingGroup_wdn (n : Nat) (i : List Nat) (s : St) (h : BAt src K i s)
    (hn : ¬∃ r', i = ch '(' :: ch '?' :: ch ':' :: r') :
    Wc (consumeUncapturingGroup n s) (fun b s1 => b = false ∧ s1 = s) := by
  cases n with
  | zero => exact Wc.outOfFuel
  | succ n =>
    unfold consumeUncapturingGroup
    rx7_autos
    exact ⟨rfl, rfl⟩

theorem consumeCapturingGroup_wdn (n : Nat) (i : List Nat) (s : St) (h : BAt src K i s)
    (hn : i.head? ≠ some (ch '(')) :
    Wc (consumeCapturingGroup n s) (fun b s1 => b = false ∧ s1 = s) := by
  cases n with
  | zero => exact Wc.outOfFuel
  | succ n =>
    unfold consumeCapturingGroup
    rx7_autos
    exact ⟨rfl, rfl⟩

/-- at the end of an alternative there is no `ExtendedAtom` -/
theorem consumeExtendedAtom_wdn (n : Nat) (i : List Nat) (s : St) (h : BAt src K i s) (hf : AltFollow i) :
    Wc (consumeExtendedAtom n s) (fun b s1 => b = false ∧ BAt src K i s1 ∧ KeepN s s1) := by
  have h1 : i.head? ≠ some (ch '.') := by rcases hf with rfl | h | h <;> simp_all <;> decide
  have h2 : i.head? ≠ some (ch '\\') := by rcases hf with rfl | h | h <;> simp_all <;> decide
  have h3 : i.head? ≠ some (ch '[') := by rcases hf with rfl | h | h <;> simp_all <;> decide
  have h4 : i.head? ≠ some (ch '(') := by rcases hf with rfl | h | h <;> simp_all <;> decide
  have h5 : ¬∃ m, i = ch '\\' :: ch 'c' :: m := by
    rintro ⟨m, rfl⟩; exact h2 rfl
  have h6 : ¬∃ r', i = ch '(' :: ch '?' :: ch ':' :: r' := no_eat3_head h4
  have h7 : ¬∃ r', RxSpecB.InvalidBracedQuantifier i r' := hf.noQB.2.2.2
  have h8 : ∀ x, i.head? = some x →
      x ∈ [c '^', c '$', c '\\', c '.', c '*', c '+', c '?', c '(', c ')', c '[', c '|'] := by
    intro x hx
    rcases hf with rfl | h | h
    · cases hx
    · rw [h] at hx; cases hx; decide
    · rw [h] at hx; cases hx; decide
  cases n with
  | zero => exact Wc.outOfFuel
  | succ n =>
    unfold consumeExtendedAtom
    rx7_autos
    exact ⟨by assumption, by assumption, by assumption⟩

theorem consumeTerm_wdn (n : Nat) (i : List Nat) (s : St) (h : BAt src K i s) (hf : AltFollow i) :
    Wc (consumeTerm n s) (fun b s1 => b = false ∧ BAt src K i s1 ∧ KeepN s s1) := by
  have ha := hf.nas
  cases n with
  | zero => exact Wc.outOfFuel
  | succ n =>
    unfold consumeTerm
    rx7_autos
    rename_i k1 _ _ _ _ k2
    exact ⟨rfl, by assumption, KeepN.trans k1 k2⟩

/-- an `AtomEscape`-free view: an `ExtendedAtom` that is no word boundary does not start like an `Assertion` -/
theorem atom_nasB {nf : Bool} {N : Nat} {i r : List Nat} {a : Attr} (h : RxSpecB.Derives nf qokSat N .ExtendedAtom i r a)
    (hw : ¬RxSpecB.StartsWordBoundary i) : NAS i := by
  cases h with
  | dot _ => exact NAS.of_ne (by decide)
  | atomEscape m _ _ hae =>
    refine ⟨head_ne_of_ne (by decide) _, head_ne_of_ne (by decide) _, ?_, ?_, .inl (no_eat2_ne1 (by decide))⟩
    · rintro ⟨r', e⟩
      exact hw ⟨r', .inr e⟩
    · rintro ⟨r', e⟩
      exact hw ⟨r', .inl e⟩
  | backslashC _ _ =>
    exact ⟨head_ne_of_ne (by decide) _, head_ne_of_ne (by decide) _, no_eat2_ne2 (by decide), no_eat2_ne2 (by decide),
      .inl (no_eat2_ne1 (by decide))⟩
  | characterClass _ _ hc => cases hc <;> exact NAS.of_ne (by decide)
  | group m₁ m₂ _ name a' hg hd =>
    refine ⟨head_ne_of_ne (by decide) _, head_ne_of_ne (by decide) _, no_eat2_ne1 (by decide), no_eat2_ne1 (by decide), ?_⟩
    cases hg with
    | empty _ =>
      refine .inl ?_
      rintro ⟨r', e⟩
      have hq : m₁.head? ≠ some (c '?') := derives_headB hd (.inl (head_cons_ne (by decide) _))
      exact hq (by rw [(List.cons.inj e).2]; rfl)
    | named m _ nm hgn =>
      obtain ⟨m', rfl, hname⟩ := hgn
      obtain ⟨e1, e2⟩ := idName_headB hname
      exact .inr (.inr ⟨m', rfl, e1, e2⟩)
  | nonCapturing _ m _ _ hl _ =>
    have e : i = ch '(' :: ch '?' :: ch ':' :: m := hl
    subst e
    refine ⟨head_ne_of_ne (by decide) _, head_ne_of_ne (by decide) _, no_eat2_ne1 (by decide), no_eat2_ne1 (by decide), ?_⟩
    exact .inr (.inl ⟨_, rfl, head_ne_of_ne (by decide) _, head_ne_of_ne (by decide) _, head_ne_of_ne (by decide) _⟩)
  | extendedPatternCharacter x _ hx _ =>
    refine NAS.of_ne ⟨?_, ?_, ?_, ?_⟩ <;> (intro e; subst e; exact hx.2 (by decide))

end DL.Rx
