import DL.Lemmas.RxCompAtomEsc

/-! # Completeness: character classes (u-mode) -/
namespace DL.Rx
open DL.RxSpec DL.Gen.Unicode

attribute [local irreducible] isScalar
variable {src : List Nat} {N : Nat}

theorem cce_head2 {i r : List Nat} (h : CharacterClassEscape i r) :
    i.head? ≠ some (ch 'b') ∧ i.head? ≠ some (ch '-') := by
  cases h with
  | simple x _ hx =>
    simp only [List.mem_cons, List.not_mem_nil, or_false] at hx
    rcases hx with rfl | rfl | rfl | rfl | rfl | rfl <;>
      exact ⟨head_ne_of_ne (by decide) _, head_ne_of_ne (by decide) _⟩
  | property x m _ hx _ =>
    rcases hx with rfl | rfl <;> exact ⟨head_ne_of_ne (by decide) _, head_ne_of_ne (by decide) _⟩

theorem ce_head2 {i r : List Nat} {v : Nat} (h : CharacterEscape i r v) :
    i.head? ≠ some (ch 'b') ∧ i.head? ≠ some (ch '-') := by
  have key : ∀ (x : Nat) (m : List Nat), (x ≠ ch 'b' ∧ x ≠ ch '-') →
      (x :: m).head? ≠ some (ch 'b') ∧ (x :: m).head? ≠ some (ch '-') :=
    fun x m hx => ⟨head_ne_of_ne hx.1 _, head_ne_of_ne hx.2 _⟩
  cases h with
  | unicode _ _ _ hu => obtain ⟨m, rfl⟩ := rues_head hu; exact key _ _ (by decide)
  | identity _ _ hx =>
    refine key _ _ ?_
    rcases hx with hx | hx
    · unfold SyntaxCharacter at hx
      simp only [List.mem_cons, List.not_mem_nil, or_false] at hx
      rcases hx with h | h | h | h | h | h | h | h | h | h | h | h | h | h <;> subst h <;> decide
    · subst hx; decide
  | _ => exact key _ _ (by decide)

theorem consumeClassEscape_wc (n : Nat) (r r1 : List Nat) (v : Option Nat) (s : St) (h : UAt src N r s)
    (hD : ClassEscape r r1 v) :
    Wc (consumeClassEscape n s) (fun b s1 => b = true ∧ UAt src N r1 s1 ∧ IntIs s1 v ∧ KeepN s s1) := by
  cases hD
  case' characterClass hc => obtain ⟨h1, h2⟩ := cce_head2 hc
  case' character hc =>
    obtain ⟨h1, h2⟩ := ce_head2 hc
    obtain ⟨_, hfree⟩ := ce_head hc
  all_goals (unfold consumeClassEscape; rx5_autos)
  all_goals (
    refine ⟨by first | rfl | assumption, by rx4_at, ?_, by first | rx4_keep | exact Keep.toN ‹_›⟩
    first | rfl | (show _ = _; assumption))

theorem consumeClassAtom_wc (n : Nat) (r r1 : List Nat) (v : Option Nat) (s : St) (h : UAt src N r s)
    (hD : ClassAtom r r1 v) :
    Wc (consumeClassAtom n s) (fun b s1 => b = true ∧ UAt src N r1 s1 ∧ IntIs s1 v ∧ KeepN s s1) := by
  cases hD with
  | dash _ =>
    unfold consumeClassAtom
    rx5_autos
    all_goals (
      refine ⟨by first | rfl | assumption, by rx4_at, ?_, by first | rx4_keep | exact Keep.toN ‹_›⟩
      first | rfl | (show _ = _; assumption))
  | noDash _ _ _ hnd =>
    cases hnd with
    | char x _ hsc h1 h2 h3 =>
      have hb : (x != ch '\\' && x != ch ']') = true := by
        have e1 : (x != ch '\\') = true := by simpa using h1
        have e2 : (x != ch ']') = true := by simpa using h2
        rw [e1, e2]; rfl
      unfold consumeClassAtom
      rx5_autos
      all_goals (
        refine ⟨by first | rfl | assumption, by rx4_at, ?_, by first | rx4_keep | exact Keep.toN ‹_›⟩
        first | rfl | (show _ = _; assumption))
    | escape m _ _ he =>
      unfold consumeClassAtom
      rx5_autos
      exact ⟨rfl, ‹UAt src N r1 _›, ‹IntIs _ v›, by rx4_keep⟩

/-- at `]` there is no `ClassAtom` -/
theorem consumeClassAtom_wcn (n : Nat) (r1 : List Nat) (s : St) (h : UAt src N (ch ']' :: r1) s) :
    Wc (consumeClassAtom n s) (fun b s1 => b = false ∧ s1 = s) := by
  unfold consumeClassAtom
  rx5_autos
  exact ⟨rfl, rfl⟩

theorem classAtomNoDash_head {i r : List Nat} {v : Option Nat} (h : ClassAtomNoDash i r v) : i.head? ≠ some (c '-') := by
  cases h with
  | char x _ _ _ _ h3 => exact head_ne_of_ne h3 _
  | escape m _ _ _ => exact head_ne_of_ne (by decide) _

/-- the flat view of a `ClassRanges` that ends at `]`: what one run of the loop sees -/
theorem cr_items {sym : CRSym} {i r : List Nat} (h : CR sym i r) (r1 : List Nat) (he : r = c ']' :: r1) :
    match sym with
    | .ClassRanges => ∃ b, Items b i r
    | .NonemptyClassRanges => Items true i r
    | .NonemptyClassRangesNoDash => ∀ i0 v0, ClassAtom i0 i v0 → Items true i0 r := by
  have hend : r.head? ≠ some (c '-') := by rw [he]; exact head_ne_of_ne (by decide) _
  induction h with
  | empty r => exact ⟨false, Items.nil r⟩
  | nonempty i r _ ih => exact ⟨true, ih he hend⟩
  | atom i r v ha => exact Items.atom false i r r v ha hend (Items.nil r)
  | atomMore i m r v ha _ ih => exact ih he hend i v ha
  | range i m₁ m₂ r a b ha hb hok _ ih =>
    obtain ⟨b', hit⟩ := ih he hend
    exact Items.range b' i m₁ m₂ r a b ha hb hok hit
  | ndAtom i r v ha =>
    intro i0 v0 ha0
    cases ha with
    | dash _ => exact Items.trailing i0 r v0 ha0
    | noDash _ _ _ hnd =>
      exact Items.atom true i0 i r v0 ha0 (classAtomNoDash_head hnd)
        (Items.atom false i r r v (ClassAtom.noDash _ _ _ hnd) hend (Items.nil r))
  | ndAtomMore i m r v hnd _ ih =>
    intro i0 v0 ha0
    exact Items.atom true i0 i r v0 ha0 (classAtomNoDash_head hnd) (ih he hend i v (ClassAtom.noDash _ _ _ hnd))
  | ndRange i m₁ m₂ r a b hnd hb hok _ ih =>
    intro i0 v0 ha0
    obtain ⟨b', hit⟩ := ih he hend
    exact Items.atom true i0 i r v0 ha0 (classAtomNoDash_head hnd)
      (Items.range b' i m₁ m₂ r a b (ClassAtom.noDash _ _ _ hnd) hb hok hit)

theorem rangeOk_int {sa sb : St} {x y : Option Nat} (hok : RangeOk x y) (hx : IntIs sa x) (hy : IntIs sb y) :
    ¬((sa.lastIntValue == -1 || sb.lastIntValue == -1) = true) ∧ ¬sa.lastIntValue > sb.lastIntValue := by
  obtain ⟨a, b, rfl, rfl, hab⟩ := hok
  have ha : sa.lastIntValue = (a : Nat) := hx
  have hb : sb.lastIntValue = (b : Nat) := hy
  rw [ha, hb]
  constructor
  · simp only [Bool.or_eq_true, beq_iff_eq, not_or]
    constructor <;> omega
  · omega

theorem consumeClassRanges_wc (r1 : List Nat) : ∀ (n : Nat) (b : Bool) (r : List Nat) (s : St), UAt src N r s →
    Items b r (ch ']' :: r1) →
    Wc (consumeClassRanges n s) (fun _ s1 => UAt src N (ch ']' :: r1) s1 ∧ KeepN s s1)
  | 0, _, _, _, _, _ => Wc.outOfFuel
  | n + 1, b, r, s, h, hit => by
    have ih := consumeClassRanges_wc r1 n
    unfold consumeClassRanges
    cases hit
    all_goals rx5_autos
    all_goals first
      | exact ⟨by rx4_at, by rx4_keep⟩
      | exact absurd ‹_› (rangeOk_int ‹RangeOk _ _› ‹IntIs _ _› ‹IntIs _ _›).1
      | exact absurd ‹_› (rangeOk_int ‹RangeOk _ _› ‹IntIs _ _› ‹IntIs _ _›).2

theorem consumeCharacterClass_wc (n : Nat) (r r1 : List Nat) (s : St) (h : UAt src N r s)
    (hD : CharacterClass r r1) :
    Wc (consumeCharacterClass n s) (fun b s1 => b = true ∧ UAt src N r1 s1 ∧ KeepN s s1) := by
  cases hD with
  | pos m _ hne hcr =>
    obtain ⟨b, hit⟩ := cr_items hcr r1 rfl
    have hloop := fun s (h : UAt src N m s) => consumeClassRanges_wc (src := src) (N := N) r1 n b m s h hit
    unfold consumeCharacterClass
    rx5_autos
    rx5_fin
  | neg m _ hcr =>
    obtain ⟨b, hit⟩ := cr_items hcr r1 rfl
    have hloop := fun s (h : UAt src N m s) => consumeClassRanges_wc (src := src) (N := N) r1 n b m s h hit
    unfold consumeCharacterClass
    rx5_autos
    rx5_fin

theorem consumeCharacterClass_wcn (n : Nat) (r : List Nat) (s : St) (h : UAt src N r s) (hn : r.head? ≠ some (ch '[')) :
    Wc (consumeCharacterClass n s) (fun b s1 => b = false ∧ s1 = s) := by
  unfold consumeCharacterClass
  rx5_autos
  exact ⟨rfl, rfl⟩

end DL.Rx
