import DL.Lemmas.RxSafe

/-! # The `Reader` never panics under the reader invariant; only `index` and the look-ahead buffer change -/
namespace DL.Rx

/-- `s` differs from `s0` at most in `reader.index` and `reader.cps` -/
def Frame (s0 s : St) : Prop :=
  s = { s0 with reader := { s0.reader with index := s.reader.index, cps := s.reader.cps } }

theorem Frame.refl (s : St) : Frame s s := rfl

theorem Frame.inv {s0 s : St} (h : Frame s0 s) (h0 : Inv s0) : Inv s := by
  rw [h]; exact h0

theorem Frame.int {s0 s : St} (h : Frame s0 s) : s.lastIntValue = s0.lastIntValue := by
  rw [h]

theorem Frame.reader {s0 s : St} (h : Frame s0 s) (i : Nat) (c : List Nat) :
    Frame s0 { s with reader := { s.reader with index := i, cps := c } } := by
  unfold Frame at *
  rw [h]

/-- the invariant used for the reader functions: `Inv`, and nothing but `index`/`cps` differs from `s0` -/
def FInv (s0 : St) (s : St) : Prop := Inv s ∧ Frame s0 s

theorem readerAt_ok (i : Nat) (s : St) (h : Inv s) : ∃ o, readerAt i s = .ok o s := by
  unfold Inv Reader.units at h
  show ∃ o, (if i ≥ s.reader.end_ then (pure none : M (Option Nat)) else _) s = _
  by_cases h1 : i ≥ s.reader.end_
  · rw [if_pos h1]; exact ⟨none, rfl⟩
  · rw [if_neg h1]
    by_cases hu : s.reader.unicode = true
    · rw [if_pos hu] at h; rw [if_pos hu]
      have hlt : i < s.reader.src.length := by omega
      rw [List.getElem?_eq_getElem hlt]; exact ⟨_, rfl⟩
    · rw [if_neg hu] at h; rw [if_neg hu]
      have hlt : i < (encodeUtf16 s.reader.src).length := by omega
      rw [List.getElem?_eq_getElem hlt]; exact ⟨_, rfl⟩

theorem Keeps.readerAt {I : St → Prop} (hI : ∀ s, I s → Inv s) (i : Nat) : Keeps I (readerAt i) := by
  intro s hs
  obtain ⟨o, ho⟩ := readerAt_ok i s (hI s hs)
  rw [ho]; exact hs

theorem FInv.pushBack (s0 : St) (c : Nat) : Keeps (FInv s0) (pushBack c) :=
  Keeps.modSt fun _ h => ⟨h.1, h.2.reader _ _⟩

theorem FInv.rewindLoop (s0 : St) (index : Nat) : ∀ k i, Keeps (FInv s0) (rewindLoop index k i)
  | 0, _ => Keeps.pure
  | k + 1, i => by
    unfold DL.Rx.rewindLoop
    refine Keeps.bind (Keeps.readerAt (fun _ h => h.1) _) fun o => ?_
    cases o with
    | none => exact Keeps.pure
    | some c => exact Keeps.bind (FInv.pushBack s0 c) fun _ => FInv.rewindLoop s0 index k (i + 1)

theorem FInv.rewind (s0 : St) (index : Nat) : Keeps (FInv s0) (rewind index) := by
  unfold DL.Rx.rewind
  exact Keeps.bind (Keeps.modSt fun _ h => ⟨h.1, h.2.reader _ _⟩) fun _ => FInv.rewindLoop s0 index 4 0

theorem FInv.advance (s0 : St) : Keeps (FInv s0) advance := by
  unfold DL.Rx.advance
  refine Keeps.bind Keeps.getSt fun s => ?_
  cases s.reader.cps with
  | nil => exact Keeps.pure
  | cons c rest =>
    refine Keeps.bind (Keeps.modSt fun _ h => ⟨h.1, h.2.reader _ _⟩) fun _ => ?_
    refine Keeps.bind Keeps.getSt fun s => ?_
    refine Keeps.bind (Keeps.readerAt (fun _ h => h.1) _) fun o => ?_
    cases o with
    | none => exact Keeps.pure
    | some c => exact FInv.pushBack s0 c

theorem Keeps.ofFInv {α : Type} {m : M α} (h : ∀ s0, Keeps (FInv s0) m) : OK m := by
  intro s hs
  have h1 := h s s ⟨hs, Frame.refl s⟩
  cases h2 : m s with
  | ok a s' => rw [h2] at h1; exact h1.1
  | err _ _ => trivial
  | panic _ _ => rw [h2] at h1; exact h1
  | outOfFuel _ => trivial

theorem advance_int (v : Int) :
    Safe (fun s => Inv s ∧ s.lastIntValue = v) advance (fun _ s => Inv s ∧ s.lastIntValue = v) := by
  intro s hs
  have h1 := FInv.advance s s ⟨hs.1, Frame.refl s⟩
  cases h2 : advance s with
  | ok a s' => rw [h2] at h1; exact ⟨h1.1, h1.2.int.trans hs.2⟩
  | err _ _ => trivial
  | panic _ _ => rw [h2] at h1; exact h1
  | outOfFuel _ => trivial

theorem OK.readerAt (i : Nat) : OK (readerAt i) := Keeps.readerAt (fun _ h => h) i
@[rx_ok] theorem OK.rewind (i : Nat) : OK (rewind i) := Keeps.ofFInv fun s0 => FInv.rewind s0 i
@[rx_ok] theorem OK.advance : OK advance := Keeps.ofFInv FInv.advance


@[rx_ok] theorem OK.codePointWithOffset (k : Nat) : OK (codePointWithOffset k) := by
  unfold DL.Rx.codePointWithOffset; rx_auto
@[rx_ok] theorem OK.index : OK index := by
  unfold DL.Rx.index; rx_auto

@[rx_ok] theorem OK.eat (c : Char) : OK (eat c) := by
  unfold DL.Rx.eat; rx_auto
@[rx_ok] theorem OK.eat2 (c1 c2 : Char) : OK (eat2 c1 c2) := by
  unfold DL.Rx.eat2; rx_auto
@[rx_ok] theorem OK.eat3 (c1 c2 c3 : Char) : OK (eat3 c1 c2 c3) := by
  unfold DL.Rx.eat3; rx_auto

/-- `reset` establishes the invariant from ANY state, provided `end ≤ number of units of the new source` -/
theorem reset_establishes (source : List Nat) (start end_ : Nat) (uFlag : Bool)
    (h : end_ ≤ (if uFlag then source else encodeUtf16 source).length) :
    Safe (fun _ => True) (reset source start end_ uFlag) (fun _ => Inv) := by
  unfold DL.Rx.reset
  refine Safe.bind (R := fun _ => Inv) (Safe.modSt fun s _ => ?_) fun _ => OK.rewind start
  show end_ ≤ (if uFlag = true then source else encodeUtf16 source).length
  exact h

end DL.Rx
