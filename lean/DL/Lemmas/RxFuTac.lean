import Lean
import DL.Lemmas.RxInd
import DL.Lemmas.RxFuReader

/-! # Fuel adequacy: the rules for the primitives, the notions `Stay` / `Adv` with their composition rules, the stepping tactic -/
namespace DL.Rx
variable {E : Nat} {α β : Type}

theorem Fu.tail {i : Nat} {ne : Bool} {Q : α → Nat} {m : M α} (h : Fu E i ne (m >>= Pure.pure) Q) : Fu E i ne m Q := by
  rw [bind_pure'] at h; exact h

theorem Fu.bind_pure {i : Nat} {ne : Bool} {Q : β → Nat} {a : α} {f : α → M β} (h : Fu E i ne (f a) Q) :
    Fu E i ne ((Pure.pure a : M α) >>= f) Q := h

theorem Fu.bind_getSt {i : Nat} {ne : Bool} {Q : β → Nat} {g : St → M β} (h : ∀ s0, Fu E i ne (g s0) Q) :
    Fu E i ne (getSt >>= g) Q := fun s hs => h s s hs

theorem Fu.bind_modSt {i : Nat} {ne : Bool} {Q : β → Nat} {f : St → St} {g : Unit → M β}
    (hf : ∀ s, (f s).reader = s.reader) (h : Fu E i ne (g ()) Q) : Fu E i ne (modSt f >>= g) Q := by
  intro s hs
  refine h (f s) ⟨?_, ?_, ?_, ?_⟩
  · rw [hf]; exact hs.end_
  · rw [hf]; exact hs.look
  · rw [hf]; exact hs.pos
  · rw [hf]; exact hs.nonempty

theorem Fu.bind_setInt {i : Nat} {ne : Bool} {Q : β → Nat} {v : Int} {g : Unit → M β} (h : Fu E i ne (g ()) Q) :
    Fu E i ne (setInt v >>= g) Q := Fu.bind_modSt (fun _ => rfl) h

theorem Fu.bind_setStr {i : Nat} {ne : Bool} {Q : β → Nat} {v : List Nat} {g : Unit → M β} (h : Fu E i ne (g ()) Q) :
    Fu E i ne (setStr v >>= g) Q := Fu.bind_modSt (fun _ => rfl) h

/-- a look-ahead that yields `Some` proves the buffer non-empty -/
theorem Fu.bind_cpo {i : Nat} {ne : Bool} {Q : β → Nat} {k : Nat} {g : Option Nat → M β}
    (h : ∀ o, Fu E i (ne || o.isSome) (g o) Q) : Fu E i ne (codePointWithOffset k >>= g) Q := by
  intro s hs
  refine h (s.reader.cps[k]?) s ⟨hs.end_, hs.look, hs.pos, fun hne => ?_⟩
  rcases Bool.or_eq_true _ _ |>.mp hne with h1 | h1
  · exact hs.nonempty h1
  · intro hnil; rw [hnil] at h1; cases h1

theorem Fu.bind_index {i : Nat} {ne : Bool} {Q : β → Nat} {g : Nat → M β}
    (h : ∀ a, i ≤ a → a ≤ E → Fu E i ne (g a) Q) : Fu E i ne (index >>= g) Q := by
  intro s hs
  exact h s.reader.index hs.pos (Nat.le_trans (Nat.le_add_right _ _) hs.look) s hs

theorem Fu.bind_unwrap {i : Nat} {ne : Bool} {Q : β → Nat} {o : Option α} {why : String} {g : α → M β}
    (h : ∀ a, Fu E i ne (g a) Q) : Fu E i ne (unwrap o why >>= g) Q := by
  cases o with
  | none => exact fun _ _ => trivial
  | some a => exact h a

theorem Fu.bind_fail {i : Nat} {ne : Bool} {Q : β → Nat} {msg : String} {g : α → M β} :
    Fu E i ne ((DL.Rx.fail msg : M α) >>= g) Q := fun _ _ => trivial

theorem Fu.bind_rustPanic {i : Nat} {ne : Bool} {Q : β → Nat} {why : String} {g : α → M β} :
    Fu E i ne ((DL.Rx.rustPanic why : M α) >>= g) Q := fun _ _ => trivial

theorem Fu.bind_checkedI64 {i : Nat} {ne : Bool} {Q : β → Nat} {v : Int} {site : String} {g : Int → M β}
    (h : ∀ a, Fu E i ne (g a) Q) : Fu E i ne (checkedI64 v site >>= g) Q := by
  intro s hs
  show Post E Q (M.bind (checkedI64 v site) g s)
  unfold M.bind
  have key : checkedI64 v site s = .ok v s ∨ checkedI64 v site s = .ok (wrapI64 v) s ∨
      ∃ w, checkedI64 v site s = .panic w s := by
    show (if i64Min ≤ v ∧ v ≤ i64Max then (Pure.pure v : M Int) else _) s = _ ∨
      (if i64Min ≤ v ∧ v ≤ i64Max then (Pure.pure v : M Int) else _) s = _ ∨
      ∃ w, (if i64Min ≤ v ∧ v ≤ i64Max then (Pure.pure v : M Int) else _) s = _
    by_cases hr : i64Min ≤ v ∧ v ≤ i64Max
    · rw [if_pos hr]; exact .inl rfl
    · rw [if_neg hr]
      show (if s.overflowChecks = true then (DL.Rx.rustPanic _ : M Int) else Pure.pure (wrapI64 v)) s = _ ∨
        (if s.overflowChecks = true then (DL.Rx.rustPanic _ : M Int) else Pure.pure (wrapI64 v)) s = _ ∨
        ∃ w, (if s.overflowChecks = true then (DL.Rx.rustPanic _ : M Int) else Pure.pure (wrapI64 v)) s = _
      by_cases ho : s.overflowChecks = true
      · rw [if_pos ho]; exact .inr (.inr ⟨_, rfl⟩)
      · rw [if_neg ho]; exact .inr (.inl rfl)
  rcases key with h1 | h1 | ⟨w, h1⟩ <;> rw [h1]
  · exact h v s hs
  · exact h _ s hs
  · trivial

theorem Fu.bind_advance {i : Nat} {ne : Bool} {Q : β → Nat} {g : Unit → M β} (hne : ne = true)
    (h : Fu E (i + 1) false (g ()) Q) : Fu E i ne (advance >>= g) Q := by
  subst hne
  exact Fu.bind (F.advance_ne i) fun _ => h

/-- `t ≤ t + a + b + …` -/
syntax "rx3_le" : tactic
macro_rules | `(tactic| rx3_le) => `(tactic| first | exact Nat.le_refl _ | (refine Nat.le_add_right_of_le ?_; rx3_le))

/-- linear arithmetic side conditions (fuel, positions).  Most of them say that the position has not decreased or
repeat a hypothesis, which the first two alternatives see without calling `omega`; for `omega` the positions mention
`b.toNat` for the Boolean results that have been decided on the path. -/
macro "rx3_arith" : tactic => `(tactic| first
  | with_reducible rx3_le
  | with_reducible assumption
  | (have := Bool.toNat_true; have := Bool.toNat_false; omega))

open Lean Elab Tactic Meta in
/-- explicit arguments of a lemma as holes: `?_` for hypotheses (become goals), `_` for data (by unification) -/
def mkHoles (ty : Expr) : MetaM (Array (TSyntax `term) × Nat) :=
  forallTelescope ty fun xs _ => do
    let mut args : Array (TSyntax `term) := #[]
    let mut props := 0
    for x in xs do
      let d ← x.fvarId!.getDecl
      if d.binderInfo.isExplicit then
        if (← isProp d.type) then
          args := args.push (← `(?_))
          props := props + 1
        else args := args.push (← `(_))
    return (args, props)

open Lean Elab Tactic Meta in
/-- `f args >>= g` for an `f` with a lemma `DL.Rx.F.f`, or an induction hypothesis about `f` in the context;
hypotheses of the lemma (fuel, positions) go to `rx3_arith` -/
elab "rx3_known" : tactic => do
  let g ← getMainGoal
  g.withContext do
    let t ← instantiateMVars (← g.getType)
    unless t.isAppOfArity ``DL.Rx.Fu 6 do throwError "rx3_known: not a Fu goal"
    let comp := t.getAppArgs[4]!
    unless comp.isAppOfArity ``Bind.bind 6 do throwError "rx3_known: not a bind"
    let m := comp.getAppArgs[4]!
    let .const n _ := m.getAppFn | throwError "rx3_known: no head constant"
    let mut fn : Option (TSyntax `term × Expr) := none
    for decl in (← getLCtx) do
      if decl.isImplementationDetail then continue
      let ty ← instantiateMVars decl.type
      let hit ← withNewMCtxDepth do
        let (_, _, concl) ← forallMetaTelescope ty
        if concl.isAppOfArity ``DL.Rx.Fu 6 then
          match concl.getAppArgs[4]!.getAppFn with
          | .const n' _ => pure (n' == n)
          | _ => pure false
        else pure false
      if hit then
        fn := some (← Term.exprToSyntax (mkFVar decl.fvarId), ty)
        break
    if fn.isNone then
      let .str _ last := n | throwError "rx3_known: anonymous"
      let lem := Name.str (Name.str `DL.Rx "F") last
      let some ci := (← getEnv).find? lem | throwError "rx3_known: no lemma {lem}"
      fn := some (mkIdent lem, ci.type)
    let some (f, ty) := fn | throwError "rx3_known: unreachable"
    let (args, props) ← mkHoles ty
    evalTactic (← `(tactic| with_reducible refine Fu.le (fun _ => ?_)))
    evalTactic (← `(tactic| with_reducible refine Fu.bind ($f $args*) (fun _ => ?_)))
    let gs ← getGoals
    let side := gs.take props
    let rest := gs.drop props
    for sg in side do
      setGoals [sg]
      evalTactic (← `(tactic| rx3_arith))
    setGoals rest

/-! ### The invariant form: a computation that never leaves the reader before `i`

Most functions only have to *stay*: their lemma says `Fu E i ne m (fun _ => i)`.  Such a statement is proved node by node
(`Stay.bind`, `Stay.orM`, …) instead of path by path, with the position of every callee weakened back to `i` at once, so that
the fuel hypothesis of the lemma is the side condition of every call as it stands. -/

/-- `m` leaves the reader at or after `i` -/
abbrev Stay (E i : Nat) (ne : Bool) (m : M α) : Prop := Fu E i ne m (fun _ => i)
/-- … and has consumed a unit when it answers `true` -/
abbrev Adv (E i : Nat) (ne : Bool) (m : M Bool) : Prop := Fu E i ne m (fun b => i + b.toNat)

theorem Stay.pure {i : Nat} {ne : Bool} {a : α} : Stay E i ne (pure a : M α) := Fu.pure (Nat.le_refl _)

theorem Stay.bind {i : Nat} {ne : Bool} {m : M α} {f : α → M β} (hm : Stay E i ne m) (hf : ∀ a, Stay E i false (f a)) :
    Stay E i ne (m >>= f) := Fu.bind hm hf

theorem Stay.ite {i : Nat} {ne : Bool} {p : Prop} {_ : Decidable p} {a b : M α}
    (ha : Stay E i ne a) (hb : Stay E i ne b) : Stay E i ne (if p then a else b) := Fu.ite (fun _ => ha) (fun _ => hb)

theorem Stay.orM {i : Nat} {ne : Bool} {a b : M Bool} (ha : Stay E i ne a) (hb : Stay E i false b) :
    Stay E i ne (a <or> b) :=
  Fu.bind ha fun _ => Fu.ite (fun _ => Stay.pure) (fun _ => hb)

theorem Stay.andM {i : Nat} {ne : Bool} {a b : M Bool} (ha : Stay E i ne a) (hb : Stay E i false b) :
    Stay E i ne (a <and> b) :=
  Fu.bind ha fun _ => Fu.ite (fun _ => hb) (fun _ => Stay.pure)

/-- a computation that stays at `i` does so from any later position -/
theorem Stay.from {i j : Nat} {ne : Bool} {m : M α} (h : Stay E i false m) (hj : i ≤ j) : Fu E j ne m (fun _ => i) :=
  Fu.pre h hj

/-- one step, node by node.  A callee has its lemma (`rx3_known`), after which the position is weakened back to the `i` of a
goal `Fu E j ne m (fun _ => i)`, so that the fuel hypothesis serves every call as it stands; a choice, a conjunction or a bound
block stays as a whole. -/
macro "stay_step" : tactic => `(tactic| (show Fu _ _ _ _ _; first
  | ((with_reducible refine Fu.pure ?_); focus rx3_arith)
  | ((with_reducible refine Fu.bind_advance ?hne ?_); (case hne => first | rfl | (simp; done)))
  | ((first | rx3_known | ((with_reducible refine Fu.tail ?_); rx3_known));
     (with_reducible refine Stay.from ?_ ?hj); (case hj => rx3_arith))
  | with_reducible refine Fu.bind_pure ?_
  | with_reducible refine Fu.bind_getSt (fun _ => ?_)
  | with_reducible refine Fu.bind_cpo (fun _ => ?_)
  | with_reducible refine Fu.bind_index (fun _ _ _ => ?_)
  | with_reducible exact Fu.bind_fail
  | with_reducible exact Fu.fail
  | with_reducible refine Fu.bind_setInt ?_
  | with_reducible refine Fu.bind_setStr ?_
  | with_reducible refine Fu.bind_modSt (fun _ => rfl) ?_
  | with_reducible refine Fu.bind_unwrap (fun _ => ?_)
  | with_reducible refine Fu.bind_checkedI64 (fun _ => ?_)
  | with_reducible exact Fu.bind_rustPanic
  | with_reducible refine Stay.orM ?_ ?_
  | with_reducible refine Stay.andM ?_ ?_
  | with_reducible refine Fu.ite (fun _ => ?_) (fun _ => ?_)
  | with_reducible refine Stay.bind ?_ (fun _ => ?_)
  | split
  | dsimp only))

macro "stay_auto" : tactic => `(tactic| repeat' stay_step)

/-! ### Progress: where a loop or a recursive call needs the unit that a guard has consumed

`Fu.bind_adv` splits on the answer of an advancing guard; everything behind it only has to stay (at `i + 1` after `true`). -/

theorem Fu.stay {i : Nat} {ne : Bool} {m : M Bool} (h : Adv E i ne m) : Stay E i ne m :=
  h.post fun _ => Nat.le_add_right _ _

/-- behind a consumed unit, staying is all that `Adv` still asks for -/
theorem Fu.adv {i : Nat} {ne : Bool} {m : M Bool} (h : Stay E (i + 1) ne m) : Fu E (i + 1) ne m (fun b => i + b.toNat) :=
  h.post fun b => by cases b <;> simp

theorem Fu.back {i : Nat} {ne : Bool} {m : M α} (h : Stay E (i + 1) ne m) : Fu E (i + 1) ne m (fun _ => i) :=
  h.post fun _ => Nat.le_succ i

theorem Fu.bind_adv {i : Nat} {ne : Bool} {Q : β → Nat} {g : M Bool} {f : Bool → M β} (hg : Adv E i ne g)
    (ht : i + 1 ≤ E → Fu E (i + 1) false (f true) Q) (hf : Fu E i false (f false) Q) : Fu E i ne (g >>= f) Q :=
  Fu.bind hg fun b => by
    cases b
    · exact hf
    · exact Fu.le ht

/-- an ordered choice advances on `true` if each alternative does -/
theorem Adv.orM {i : Nat} {ne : Bool} {a b : M Bool} (ha : Adv E i ne a) (hb : Adv E i false b) : Adv E i ne (a <or> b) :=
  Fu.bind_adv ha (fun _ => Fu.pure (Nat.le_refl _)) hb

/-- `a && b` where `a` consumes: `b` only has to stay behind it -/
theorem Adv.andM {i : Nat} {ne : Bool} {a b : M Bool} (ha : Adv E i ne a) (hb : Stay E (i + 1) false b) :
    Adv E i ne (a <and> b) :=
  Fu.bind_adv ha (fun _ => hb.adv) (Fu.pure (Nat.le_refl _))

/-- `a && b` where `a` is a test -/
theorem Adv.andM_test {i : Nat} {ne : Bool} {a b : M Bool} (ha : Stay E i ne a) (hb : Adv E i false b) :
    Adv E i ne (a <and> b) :=
  Fu.bind ha fun _ => Fu.ite (fun _ => hb) (fun _ => Fu.pure (Nat.le_refl _))

/-- how an attempt that began at `start` gives up: back to `start` (which is not before `i`), answer `false` -/
theorem F.giveUp {i j start : Nat} {ne : Bool} (h1 : i ≤ start) (h2 : start ≤ E) : Fu E j ne (do DL.Rx.rewind start; Pure.pure false : M Bool) (fun b => i + b.toNat) :=
  Fu.bind (F.rewind j start h2) fun _ => Fu.pure h1

/-- the same where the reader is only rewound if it has moved -/
theorem F.giveUp' {i j start : Nat} {ne : Bool} (h1 : i ≤ start) (h2 : start ≤ E) (hj : i ≤ j) :
    Fu E j ne (do
      if (← DL.Rx.index) != start then DL.Rx.rewind start
      Pure.pure false : M Bool) (fun b => i + b.toNat) :=
  Fu.bind_index fun _ _ _ => Fu.ite (fun _ => F.giveUp h1 h2) (fun _ => Fu.pure hj)

end DL.Rx
