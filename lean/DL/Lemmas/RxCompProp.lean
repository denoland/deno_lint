import DL.Lemmas.RxCompEsc

/-! # Completeness: `CharacterClassEscape` (u-mode) -/
namespace DL.Rx
open DL.RxSpec

attribute [local irreducible] isScalar
variable {src : List Nat} {N : Nat}

/-- the maximal prefix with a property -/
theorem exists_run (p : Nat → Prop) : ∀ l : List Nat, ∃ ds r1, l = ds ++ r1 ∧ (∀ d ∈ ds, p d) ∧
    (∀ d, r1.head? = some d → ¬p d)
  | [] => ⟨[], [], rfl, by simp, by simp⟩
  | x :: l => by
    by_cases hx : p x
    · obtain ⟨ds, r1, e, h1, h2⟩ := exists_run p l
      refine ⟨x :: ds, r1, by rw [e]; rfl, ?_, h2⟩
      intro d hd
      rcases List.mem_cons.mp hd with rfl | hd
      · exact hx
      · exact h1 d hd
    · exact ⟨[], x :: l, rfl, by simp, by intro d hd; cases hd; exact hx⟩

theorem eatUnicodePropertyName_wc (n : Nat) (ds r1 : List Nat) (s : St) (h : UAt src N (ds ++ r1) s)
    (hds : ∀ d ∈ ds, UnicodePropertyNameCharacter d) (hstop : ∀ d, r1.head? = some d → ¬UnicodePropertyNameCharacter d) :
    Wc (eatUnicodePropertyName n s) (fun b s1 => (b = true ↔ ds ≠ []) ∧ UAt src N r1 s1 ∧ KeepN s s1 ∧
      s1.lastIntValue = s.lastIntValue ∧ s1.lastKeyValue = s.lastKeyValue ∧ s1.lastStrValue = ds) := by
  refine (Wc.of_wp (eatUnicodePropertyName_wp n _ s h) (NE.eatUnicodePropertyName n)).mono ?_
  rintro b s1 ⟨ds', r1', he, hds', hstop', hat, hk, hint, hkey, hstr, hb⟩
  obtain ⟨e1, e2⟩ := run_unique he hds hds' hstop hstop'
  subst e1 e2
  exact ⟨hb, hat, hk, hint, hkey, hstr⟩

theorem eatUnicodePropertyValue_wc (n : Nat) (ds r1 : List Nat) (s : St) (h : UAt src N (ds ++ r1) s)
    (hds : ∀ d ∈ ds, UnicodePropertyValueCharacter d) (hstop : ∀ d, r1.head? = some d → ¬UnicodePropertyValueCharacter d) :
    Wc (eatUnicodePropertyValue n s) (fun b s1 => (b = true ↔ ds ≠ []) ∧ UAt src N r1 s1 ∧ KeepN s s1 ∧
      s1.lastIntValue = s.lastIntValue ∧ s1.lastKeyValue = s.lastKeyValue ∧ s1.lastStrValue = ds) := by
  refine (Wc.of_wp (eatUnicodePropertyValue_wp n _ s h) (NE.eatUnicodePropertyValue n)).mono ?_
  rintro b s1 ⟨ds', r1', he, hds', hstop', hat, hk, hint, hkey, hstr, hb⟩
  obtain ⟨e1, e2⟩ := run_unique he hds hds' hstop hstop'
  subst e1 e2
  exact ⟨hb, hat, hk, hint, hkey, hstr⟩

theorem not_nameChar_eq : ¬UnicodePropertyNameCharacter (ch '=') := by
  rintro (h | h)
  · have h' : (0x61 ≤ ch '=' ∧ ch '=' ≤ 0x7a) ∨ (0x41 ≤ ch '=' ∧ ch '=' ≤ 0x5a) := h
    revert h'; decide
  · revert h; decide

theorem not_valueChar_eq : ¬UnicodePropertyValueCharacter (ch '=') := by
  rintro (h | h)
  · exact not_nameChar_eq h
  · have h' : 0x30 ≤ ch '=' ∧ ch '=' ≤ 0x39 := h
    revert h'; decide

/-- `Name=Value` is recognised as such -/
theorem propNameValue_wc (n : Nat) (name value r1 : List Nat) (s : St)
    (h : UAt src N (name ++ ch '=' :: (value ++ ch '}' :: r1)) s) (hn1 : name ≠ [])
    (hn2 : ∀ d ∈ name, UnicodePropertyNameCharacter d) (hv1 : value ≠ [])
    (hv2 : ∀ d ∈ value, UnicodePropertyValueCharacter d)
    (hstop : ∀ x, (ch '}' :: r1).head? = some x → ¬UnicodePropertyValueCharacter x)
    (hvalid : isValidUnicodeProperty name value = true) :
    Wc (propNameValue n s) (fun o s1 => o = some true ∧ UAt src N (ch '}' :: r1) s1 ∧
      s1.lastIntValue = s.lastIntValue ∧ KeepN s s1) := by
  have hnm := fun s h => (eatUnicodePropertyName_wc (src := src) (N := N) n name (ch '=' :: (value ++ ch '}' :: r1)) s h hn2
    (by intro d hd; cases hd; exact not_nameChar_eq)).mono (fun b s1 hp => (⟨hp.1.mpr hn1, hp.2⟩ : b = true ∧ _))
  have hvl := fun s h => (eatUnicodePropertyValue_wc (src := src) (N := N) n value (ch '}' :: r1) s h hv2
    hstop).mono (fun b s1 hp => (⟨hp.1.mpr hv1, hp.2⟩ : b = true ∧ _))
  unfold propNameValue
  rx5_auto
  all_goals rename_i hint1 _ hstr1 _ _ s2 _ _ _ hint2 hkey2 hstr2 hv
  · apply hv
    show isValidUnicodeProperty s2.lastKeyValue s2.lastStrValue = true
    rw [hkey2.trans hstr1, hstr2]
    exact hvalid
  · rx5_fin
    exact hint2.trans hint1

/-- without `=` after the name characters it is no `Name=Value` -/
theorem propNameValue_wcn (n : Nat) (nm m : List Nat) (s : St) (h : UAt src N (nm ++ m) s)
    (hnm : ∀ d ∈ nm, UnicodePropertyNameCharacter d) (hstop : ∀ d, m.head? = some d → ¬UnicodePropertyNameCharacter d)
    (hne : m.head? ≠ some (ch '=')) :
    Wc (propNameValue n s) (fun o s1 => o = none ∧ UAt src N m s1 ∧ s1.lastIntValue = s.lastIntValue ∧ KeepN s s1) := by
  have hnmc := fun s h => eatUnicodePropertyName_wc (src := src) (N := N) n nm m s h hnm hstop
  unfold propNameValue
  rx5_auto
  all_goals rx5_fin

theorem propLone_wc (n : Nat) (v r1 : List Nat) (s : St) (h : UAt src N (v ++ ch '}' :: r1) s) (hv1 : v ≠ [])
    (hv2 : ∀ d ∈ v, UnicodePropertyValueCharacter d)
    (hstop : ∀ x, (ch '}' :: r1).head? = some x → ¬UnicodePropertyValueCharacter x)
    (hvalid : isValidUnicodeProperty generalCategory v = true ∨ isValidLoneUnicodeProperty v = true) :
    Wc (propLone n s) (fun b s1 => b = true ∧ UAt src N (ch '}' :: r1) s1 ∧ s1.lastIntValue = s.lastIntValue ∧
      KeepN s s1) := by
  have hlone := fun s h => (eatUnicodePropertyValue_wc (src := src) (N := N) n v (ch '}' :: r1) s h hv2 hstop).mono
    (fun b s1 hp => (⟨hp.1.mpr hv1, hp.2⟩ : b = true ∧ _))
  unfold propLone eatLoneUnicodePropertyNameOrValue
  rx5_auto
  case neg =>
    rename_i hstr hn1 hn2
    rw [hstr] at hn1 hn2
    exact hvalid.elim hn1 hn2
  all_goals rx5_fin

theorem eatUnicodePropertyValueExpression_wc (n : Nat) (r r1 : List Nat) (s : St) (h : UAt src N r s)
    (hD : UnicodePropertyValueExpression r (ch '}' :: r1)) :
    Wc (eatUnicodePropertyValueExpression n s) (fun b s1 => b = true ∧ UAt src N (ch '}' :: r1) s1 ∧
      s1.lastIntValue = s.lastIntValue ∧ KeepN s s1) := by
  rw [eatUnicodePropertyValueExpression_eq]
  cases hD with
  | nameValue _ m name value hname hvalue hstop hvalid =>
    obtain ⟨e1, hn1, hn2⟩ := hname
    obtain ⟨e2, hv1, hv2⟩ := hvalue
    subst e1 e2
    have hb := fun s h => propNameValue_wc (src := src) (N := N) n name value r1 s h hn1 hn2 hv1 hv2 hstop hvalid
    rx5_auto
    · cases ‹some _ = some true›
      rx5_fin
    · contradiction
  | lone _ v hrun hstop hvalid =>
    obtain ⟨e, hv1, hv2⟩ := hrun
    subst e
    obtain ⟨nm, rest, e, hnm, hnstop⟩ := exists_run UnicodePropertyNameCharacter v
    subst e
    have hne : (rest ++ ch '}' :: r1).head? ≠ some (ch '=') := by
      cases rest with
      | nil => exact head_ne_of_ne (by decide) _
      | cons y rest' =>
        have hy := hv2 y (by simp)
        intro he
        have : y = ch '=' := by simpa using he
        exact not_valueChar_eq (this ▸ hy)
    have hnstop' : ∀ d, (rest ++ ch '}' :: r1).head? = some d → ¬UnicodePropertyNameCharacter d := by
      cases rest with
      | nil => intro d hd hc; exact hstop d hd (.inl hc)
      | cons y rest' => exact hnstop
    have h' : UAt src N (nm ++ (rest ++ ch '}' :: r1)) s := by rw [← List.append_assoc]; exact h
    clear h
    have hb := fun s h => propNameValue_wcn (src := src) (N := N) n nm (rest ++ ch '}' :: r1) s h hnm hnstop' hne
    have hl := fun s (h : UAt src N (nm ++ (rest ++ ch '}' :: r1)) s) => propLone_wc (src := src) (N := N) n (nm ++ rest) r1 s
      (by rw [List.append_assoc]; exact h) hv1 hv2 hstop hvalid
    rx5_auto
    · contradiction
    · rename_i hint1 _ _ _ _ _ _ _ _ hint2 _
      rx5_fin
      exact hint2.trans hint1

theorem propertyBraces_wc (n : Nat) (m r1 : List Nat) (s : St) (h : UAt src N (ch '{' :: m) s)
    (hD : UnicodePropertyValueExpression m (ch '}' :: r1)) :
    Wc (propertyBraces n s) (fun b s1 => b = true ∧ UAt src N r1 s1 ∧ s1.lastIntValue = -1 ∧ KeepN s s1) := by
  unfold propertyBraces
  rx5_auto
  rename_i hint _ _
  rx5_fin
  st_norm
  exact hint

/-- the six letters of the simple class escapes -/
theorem classLetter_wc (x : Nat) (r1 : List Nat) (s : St) (h : UAt src N (x :: r1) s)
    (hx : x ∈ [c 'd', c 'D', c 's', c 'S', c 'w', c 'W']) :
    Wc ((eat 'd' <or> eat 'D' <or> eat 's' <or> eat 'S' <or> eat 'w' <or> eat 'W') s)
      (fun b s1 => b = true ∧ s1 = s.setPos src (s.reader.index + 1)) := by
  simp only [List.mem_cons, List.not_mem_nil, or_false] at hx
  have no : ∀ {y : Char}, x ≠ ch y → Wc (eat y s) (fun b s1 => b = false ∧ s1 = s) :=
    fun hy => Wc.eat_miss h (head_ne_of_ne hy _)
  rcases hx with rfl | rfl | rfl | rfl | rfl | rfl
  · exact .orM_hit (Wc.eat_hit h)
  · exact .orM_skip (no (by decide)) <| .orM_hit (Wc.eat_hit h)
  · exact .orM_skip (no (by decide)) <| .orM_skip (no (by decide)) <| .orM_hit (Wc.eat_hit h)
  · exact .orM_skip (no (by decide)) <| .orM_skip (no (by decide)) <| .orM_skip (no (by decide)) <| .orM_hit (Wc.eat_hit h)
  · exact .orM_skip (no (by decide)) <| .orM_skip (no (by decide)) <| .orM_skip (no (by decide)) <|
      .orM_skip (no (by decide)) <| .orM_hit (Wc.eat_hit h)
  · exact .orM_skip (no (by decide)) <| .orM_skip (no (by decide)) <| .orM_skip (no (by decide)) <|
      .orM_skip (no (by decide)) <| .orM_skip (no (by decide)) <| Wc.eat_hit h

theorem classLetter_wcn (r : List Nat) (s : St) (h : UAt src N r s) (h1 : r.head? ≠ some (ch 'd'))
    (h2 : r.head? ≠ some (ch 'D')) (h3 : r.head? ≠ some (ch 's')) (h4 : r.head? ≠ some (ch 'S'))
    (h5 : r.head? ≠ some (ch 'w')) (h6 : r.head? ≠ some (ch 'W')) :
    Wc ((eat 'd' <or> eat 'D' <or> eat 's' <or> eat 'S' <or> eat 'w' <or> eat 'W') s)
      (fun b s1 => b = false ∧ s1 = s) :=
  .orM_skip (Wc.eat_miss h h1) <| .orM_skip (Wc.eat_miss h h2) <| .orM_skip (Wc.eat_miss h h3) <| .orM_skip (Wc.eat_miss h h4) <|
    .orM_skip (Wc.eat_miss h h5) (Wc.eat_miss h h6)

theorem consumeCharacterClassEscape_wc (n : Nat) (r r1 : List Nat) (s : St) (h : UAt src N r s)
    (hD : CharacterClassEscape r r1) :
    Wc (consumeCharacterClassEscape n s) (fun b s1 => b = true ∧ UAt src N r1 s1 ∧ s1.lastIntValue = -1 ∧ KeepN s s1) := by
  rw [consumeCharacterClassEscape_eq]
  cases hD with
  | simple x _ hx =>
    refine Wc.call (classLetter_wc x r1 s h hx) fun b s1 hq => ?_
    obtain ⟨rfl, rfl⟩ := hq
    exact ⟨rfl, UAt.of_eq h.step rfl rfl rfl rfl rfl, rfl, rfl, rfl⟩
  | property x m _ hx hD =>
    have hx' : x ≠ ch 'd' ∧ x ≠ ch 'D' ∧ x ≠ ch 's' ∧ x ≠ ch 'S' ∧ x ≠ ch 'w' ∧ x ≠ ch 'W' := by
      rcases hx with rfl | rfl <;> decide
    refine Wc.call (classLetter_wcn _ s h (head_ne_of_ne hx'.1 _) (head_ne_of_ne hx'.2.1 _) (head_ne_of_ne hx'.2.2.1 _)
      (head_ne_of_ne hx'.2.2.2.1 _) (head_ne_of_ne hx'.2.2.2.2.1 _) (head_ne_of_ne hx'.2.2.2.2.2 _)) fun b s1 hq => ?_
    obtain ⟨rfl, rfl⟩ := hq
    rcases hx with rfl | rfl
    all_goals rx5_auto
    all_goals rx5_fin

/-- not the first character of a `CharacterClassEscape` -/
def CceFree (r : List Nat) : Prop :=
  r.head? ≠ some (ch 'd') ∧ r.head? ≠ some (ch 'D') ∧ r.head? ≠ some (ch 's') ∧ r.head? ≠ some (ch 'S') ∧
  r.head? ≠ some (ch 'w') ∧ r.head? ≠ some (ch 'W') ∧ r.head? ≠ some (ch 'p') ∧ r.head? ≠ some (ch 'P')

theorem consumeCharacterClassEscape_wcn (n : Nat) (r : List Nat) (s : St) (h : UAt src N r s) (hn : CceFree r) :
    Wc (consumeCharacterClassEscape n s) (fun b s1 => b = false ∧ s1 = s) := by
  obtain ⟨h1, h2, h3, h4, h5, h6, h7, h8⟩ := hn
  rw [consumeCharacterClassEscape_eq]
  refine Wc.call (classLetter_wcn r s h h1 h2 h3 h4 h5 h6) fun b s1 hq => ?_
  obtain ⟨rfl, rfl⟩ := hq
  rx5_auto
  exact ⟨rfl, rfl⟩

end DL.Rx
