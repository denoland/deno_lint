import DL.Model.Regex

/-!
# History independence of the validator: the relational logic

(Also the monad laws of `M` and `rx_split`, which the fuel pass and the grammar passes use as well.)

Two runs of the same computation from states `s`, `s'` that agree on everything except (some of) the scratch
registers.  `W : RegSet` is the set of registers already known to be equal ("definitely written since the start with
equal values"); `Ind c W m Q`: from `W`-related states the two runs of `m` have the same outcome (same constructor,
same value, same message) and, on `ok a`, end in `Q a`-related states.  `c` is the common value of the build-profile
constant `overflowChecks` (kept by every outcome).
-/
namespace DL.Rx

/-- the registers `validate_pattern` does not reset up front (`caps` = `num_capturing_parens`, `group_names`,
`backreference_names`, reset by `consume_pattern` only after `count_capturing_parens`) -/
inductive Reg where
  | int | min | max | str | key | val | aiq | caps
  deriving DecidableEq, Repr

abbrev RegSet := Reg → Bool

def RegSet.none : RegSet := fun _ => false
def ins (r : Reg) (W : RegSet) : RegSet := fun x => decide (x = r) || W x
def insIf (b : Bool) (r : Reg) (W : RegSet) : RegSet := fun x => (b && decide (x = r)) || W x

/-- `s'` (second run) agrees with `s` (first run) on the reader, the mode flags, and the registers in `W` -/
structure Eqv (c : Bool) (W : RegSet) (s s' : St) : Prop where
  oc : s.overflowChecks = c
  oc' : s'.overflowChecks = c
  reader : s'.reader = s.reader
  strict : s'.strict = s.strict
  uFlag : s'.uFlag = s.uFlag
  nFlag : s'.nFlag = s.nFlag
  int : W .int = true → s'.lastIntValue = s.lastIntValue
  min : W .min = true → s'.lastMinValue = s.lastMinValue
  max : W .max = true → s'.lastMaxValue = s.lastMaxValue
  str : W .str = true → s'.lastStrValue = s.lastStrValue
  key : W .key = true → s'.lastKeyValue = s.lastKeyValue
  val : W .val = true → s'.lastValValue = s.lastValValue
  aiq : W .aiq = true → s'.lastAssertionIsQuantifiable = s.lastAssertionIsQuantifiable
  ncp : W .caps = true → s'.numCapturingParens = s.numCapturingParens
  gn : W .caps = true → s'.groupNames = s.groupNames
  bn : W .caps = true → s'.backreferenceNames = s.backreferenceNames

abbrev Sub (Q W : RegSet) : Prop := ∀ x, Q x = true → W x = true

theorem Sub.refl (W : RegSet) : Sub W W := fun _ h => h

theorem Sub.ins_right {Q W : RegSet} (r : Reg) (h : Sub Q W) : Sub Q (ins r W) := fun x hx => by
  show (decide (x = r) || W x) = true
  rw [h x hx, Bool.or_true]

theorem Sub.insIf_right {Q W : RegSet} (b : Bool) (r : Reg) (h : Sub Q W) : Sub Q (insIf b r W) := fun x hx => by
  show (b && decide (x = r) || W x) = true
  rw [h x hx, Bool.or_true]

theorem Sub.insIf_left {Q W : RegSet} {b : Bool} {r : Reg} (hr : W r = true) (h : Sub Q W) : Sub (insIf b r Q) W :=
  fun x hx => by
    rcases (Bool.or_eq_true _ _).mp hx with hx | hx
    · rw [of_decide_eq_true ((Bool.and_eq_true _ _).mp hx).2]; exact hr
    · exact h x hx

theorem Sub.ins_left {Q W : RegSet} {r : Reg} (hr : W r = true) (h : Sub Q W) : Sub (ins r Q) W :=
  Sub.insIf_left (b := true) hr h

theorem Sub.insIf_false {Q W : RegSet} {r : Reg} (h : Sub Q W) : Sub (insIf false r Q) W := h

theorem Sub.insIf_mono {Q W : RegSet} {b : Bool} {r : Reg} (h : Sub Q W) : Sub (insIf b r Q) (insIf b r W) := by
  cases b
  · exact h
  · exact Sub.ins_left (Bool.or_eq_true _ _ |>.mpr (.inl (decide_eq_true rfl))) (Sub.ins_right r h)

theorem Eqv.weaken {c : Bool} {W Q : RegSet} {s s' : St} (h : Eqv c W s s') (hs : Sub Q W) : Eqv c Q s s' :=
  ⟨h.oc, h.oc', h.reader, h.strict, h.uFlag, h.nFlag, fun m => h.int (hs _ m), fun m => h.min (hs _ m),
    fun m => h.max (hs _ m), fun m => h.str (hs _ m), fun m => h.key (hs _ m), fun m => h.val (hs _ m),
    fun m => h.aiq (hs _ m), fun m => h.ncp (hs _ m), fun m => h.gn (hs _ m), fun m => h.bn (hs _ m)⟩

theorem Eqv.refl {c : Bool} (W : RegSet) (s : St) (h : s.overflowChecks = c) : Eqv c W s s :=
  ⟨h, h, rfl, rfl, rfl, rfl, fun _ => rfl, fun _ => rfl, fun _ => rfl, fun _ => rfl, fun _ => rfl, fun _ => rfl,
    fun _ => rfl, fun _ => rfl, fun _ => rfl, fun _ => rfl⟩

def Exit (c : Bool) (s s' : St) : Prop := s.overflowChecks = c ∧ s'.overflowChecks = c

def RelRes (c : Bool) {α : Type} (Q : α → RegSet) : Res α → Res α → Prop
  | .ok a s, .ok a' s' => a = a' ∧ Eqv c (Q a) s s'
  | .err m s, .err m' s' => m = m' ∧ Exit c s s'
  | .panic m s, .panic m' s' => m = m' ∧ Exit c s s'
  | .outOfFuel s, .outOfFuel s' => Exit c s s'
  | _, _ => False

def Ind (c : Bool) {α : Type} (W : RegSet) (m : M α) (Q : α → RegSet) : Prop :=
  ∀ s s', Eqv c W s s' → RelRes c Q (m s) (m s')

variable {c : Bool} {α β : Type}

/-! monad laws (to move a continuation into the branches) -/

theorem bind_assoc' (a : M α) (f : α → M β) {γ : Type} (g : β → M γ) :
    ((a >>= f) >>= g) = (a >>= fun x => f x >>= g) := by
  funext s
  show M.bind (M.bind a f) g s = M.bind a (fun x => M.bind (f x) g) s
  unfold M.bind
  cases a s <;> rfl

theorem pure_bind'' (a : α) (f : α → M β) : ((pure a : M α) >>= f) = f a := rfl

theorem bind_pure' (m : M α) : (m >>= pure) = m := by
  funext s
  show M.bind m M.pure s = m s
  unfold M.bind
  cases m s <;> rfl

theorem ite_bind (p : Prop) [Decidable p] (a b : M α) (g : α → M β) :
    ((if p then a else b) >>= g) = if p then a >>= g else b >>= g := by
  by_cases h : p
  · rw [if_pos h, if_pos h]
  · rw [if_neg h, if_neg h]

theorem orM_bind (a b : M Bool) (g : Bool → M β) :
    ((a <or> b) >>= g) = (a >>= fun x => if x = true then g true else b >>= g) := by
  unfold orM
  rw [bind_assoc']
  congr 1; funext x
  rw [ite_bind]; rfl

theorem andM_bind (a b : M Bool) (g : Bool → M β) :
    ((a <and> b) >>= g) = (a >>= fun x => if x = true then b >>= g else g false) := by
  unfold andM
  rw [bind_assoc']
  congr 1; funext x
  rw [ite_bind]; rfl

/-- both branches of a conditional, by the rule `t` (of `rx2_step` or `rx3_step`); a test on a Boolean variable is
substituted.  Branches with a contradictory hypothesis are not looked for (`contradiction` looks into every `≤` of
the context, at every split); a proof that has a dead branch closes it by hand. -/
macro "rx_split " t:term : tactic => `(tactic| (
  (with_reducible refine $t ?pos ?neg);
  (case' pos => intro hc; first | subst hc | (simp only [Bool.not_eq_true'] at hc; subst hc) | skip);
  (case' neg => intro hn; first
    | (simp only [Bool.not_eq_true, Bool.not_eq_true', Bool.not_eq_false] at hn; subst hn) | skip)))

theorem Ind.pure {W : RegSet} {Q : α → RegSet} {a : α} (h : Sub (Q a) W) : Ind c W (pure a : M α) Q :=
  fun _ _ hs => ⟨rfl, hs.weaken h⟩

theorem Ind.bind {W : RegSet} {W1 : α → RegSet} {Q : β → RegSet} {m : M α} {f : α → M β}
    (hm : Ind c W m W1) (hf : ∀ a, Ind c (W1 a) (f a) Q) : Ind c W (m >>= f) Q := by
  intro s s' hs
  have h1 := hm s s' hs
  show RelRes c Q (M.bind m f s) (M.bind m f s')
  unfold M.bind
  cases h : m s <;> cases h' : m s' <;> rw [h, h'] at h1 <;> try exact h1.elim
  · obtain ⟨rfl, h2⟩ := h1; exact hf _ _ _ h2
  · exact h1
  · exact h1
  · exact h1

theorem Ind.tail {W : RegSet} {Q : α → RegSet} {m : M α} (h : Ind c W (m >>= Pure.pure) Q) : Ind c W m Q := by
  rw [bind_pure'] at h; exact h

theorem Ind.bind_pure {W : RegSet} {Q : β → RegSet} {a : α} {f : α → M β} (h : Ind c W (f a) Q) :
    Ind c W ((Pure.pure a : M α) >>= f) Q := h

theorem Ind.bind_assoc {W : RegSet} {γ : Type} {Q : γ → RegSet} {a : M α} {f : α → M β} {g : β → M γ}
    (h : Ind c W (a >>= fun x => f x >>= g) Q) : Ind c W ((a >>= f) >>= g) Q := by
  rw [bind_assoc']; exact h

theorem Ind.ite {W : RegSet} {Q : α → RegSet} {p : Prop} {_ : Decidable p} {a b : M α}
    (ha : p → Ind c W a Q) (hb : ¬p → Ind c W b Q) : Ind c W (if p then a else b) Q := by
  by_cases h : p
  · rw [if_pos h]; exact ha h
  · rw [if_neg h]; exact hb h

theorem Ind.bind_ite {W : RegSet} {Q : β → RegSet} {p : Prop} {_ : Decidable p} {a b : M α} {g : α → M β}
    (ha : p → Ind c W (a >>= g) Q) (hb : ¬p → Ind c W (b >>= g) Q) : Ind c W ((if p then a else b) >>= g) Q := by
  rw [ite_bind]; exact Ind.ite ha hb

theorem Ind.ite_true {W : RegSet} {Q : α → RegSet} {a b : M α} (h : Ind c W a Q) :
    Ind c W (if true = true then a else b) Q := h

theorem Ind.ite_false {W : RegSet} {Q : α → RegSet} {a b : M α} (h : Ind c W b Q) :
    Ind c W (if false = true then a else b) Q := h

theorem Ind.bind_ite_true {W : RegSet} {Q : β → RegSet} {a b : M α} {g : α → M β} (h : Ind c W (a >>= g) Q) :
    Ind c W ((if true = true then a else b) >>= g) Q := h

theorem Ind.bind_ite_false {W : RegSet} {Q : β → RegSet} {a b : M α} {g : α → M β} (h : Ind c W (b >>= g) Q) :
    Ind c W ((if false = true then a else b) >>= g) Q := h

theorem Ind.bind_orM {W : RegSet} {Q : β → RegSet} {a b : M Bool} {g : Bool → M β}
    (h : Ind c W (a >>= fun x => if x = true then g true else b >>= g) Q) : Ind c W ((a <or> b) >>= g) Q := by
  rw [orM_bind]; exact h

theorem Ind.bind_andM {W : RegSet} {Q : β → RegSet} {a b : M Bool} {g : Bool → M β}
    (h : Ind c W (a >>= fun x => if x = true then b >>= g else g false) Q) : Ind c W ((a <and> b) >>= g) Q := by
  rw [andM_bind]; exact h

/-- reading the state: the continuation may depend on the state only through fields on which the two runs agree -/
theorem Ind.bind_getSt {W : RegSet} {Q : β → RegSet} {g : St → M β}
    (h1 : ∀ s0 s0', Eqv c W s0 s0' → g s0' = g s0) (h2 : ∀ s0, Ind c W (g s0) Q) : Ind c W (getSt >>= g) Q := by
  intro s s' hs
  show RelRes c Q (g s s) (g s' s')
  rw [h1 s s' hs]
  exact h2 s s s' hs

theorem Ind.bind_modSt {W W' : RegSet} {Q : β → RegSet} {f : St → St} {g : Unit → M β}
    (h : ∀ s s', Eqv c W s s' → Eqv c W' (f s) (f s')) (hg : Ind c W' (g ()) Q) : Ind c W (modSt f >>= g) Q := by
  intro s s' hs
  exact hg _ _ (h s s' hs)

/-! assignments: a register written with a value on which the two runs agree is known equal afterwards -/

theorem Ind.bind_setInt {W : RegSet} {Q : β → RegSet} {v : Int} {g : Unit → M β}
    (hg : Ind c (ins .int W) (g ()) Q) : Ind c W (setInt v >>= g) Q :=
  Ind.bind_modSt (W' := ins .int W) (fun _ _ h =>
    ⟨h.oc, h.oc', h.reader, h.strict, h.uFlag, h.nFlag, fun _ => rfl, h.min, h.max, h.str, h.key, h.val, h.aiq,
      h.ncp, h.gn, h.bn⟩) hg

theorem Ind.bind_modStr {W : RegSet} {Q : β → RegSet} {v : St → List Nat} {g : Unit → M β}
    (hv : ∀ s s', Eqv c W s s' → v s' = v s) (hg : Ind c (ins .str W) (g ()) Q) :
    Ind c W (modSt (fun s => { s with lastStrValue := v s }) >>= g) Q :=
  Ind.bind_modSt (W' := ins .str W) (fun _ _ h =>
    ⟨h.oc, h.oc', h.reader, h.strict, h.uFlag, h.nFlag, h.int, h.min, h.max, fun _ => hv _ _ h, h.key, h.val, h.aiq,
      h.ncp, h.gn, h.bn⟩) hg

theorem Ind.bind_setStr {W : RegSet} {Q : β → RegSet} {v : List Nat} {g : Unit → M β}
    (hg : Ind c (ins .str W) (g ()) Q) : Ind c W (setStr v >>= g) Q :=
  Ind.bind_modStr (v := fun _ => v) (fun _ _ _ => rfl) hg

theorem Ind.bind_modMinMax {W : RegSet} {Q : β → RegSet} {a b : St → Int} {g : Unit → M β}
    (ha : ∀ s s', Eqv c W s s' → a s' = a s) (hb : ∀ s s', Eqv c W s s' → b s' = b s)
    (hg : Ind c (ins .min (ins .max W)) (g ()) Q) :
    Ind c W (modSt (fun s => { s with lastMinValue := a s, lastMaxValue := b s }) >>= g) Q :=
  Ind.bind_modSt (W' := ins .min (ins .max W)) (fun _ _ h =>
    ⟨h.oc, h.oc', h.reader, h.strict, h.uFlag, h.nFlag, h.int, fun _ => ha _ _ h, fun _ => hb _ _ h, h.str, h.key,
      h.val, h.aiq, h.ncp, h.gn, h.bn⟩) hg

theorem Ind.bind_modKey {W : RegSet} {Q : β → RegSet} {v : St → List Nat} {g : Unit → M β}
    (hv : ∀ s s', Eqv c W s s' → v s' = v s) (hg : Ind c (ins .key W) (g ()) Q) :
    Ind c W (modSt (fun s => { s with lastKeyValue := v s }) >>= g) Q :=
  Ind.bind_modSt (W' := ins .key W) (fun _ _ h =>
    ⟨h.oc, h.oc', h.reader, h.strict, h.uFlag, h.nFlag, h.int, h.min, h.max, h.str, fun _ => hv _ _ h, h.val, h.aiq,
      h.ncp, h.gn, h.bn⟩) hg

theorem Ind.bind_modVal {W : RegSet} {Q : β → RegSet} {v : St → List Nat} {g : Unit → M β}
    (hv : ∀ s s', Eqv c W s s' → v s' = v s) (hg : Ind c (ins .val W) (g ()) Q) :
    Ind c W (modSt (fun s => { s with lastValValue := v s }) >>= g) Q :=
  Ind.bind_modSt (W' := ins .val W) (fun _ _ h =>
    ⟨h.oc, h.oc', h.reader, h.strict, h.uFlag, h.nFlag, h.int, h.min, h.max, h.str, h.key, fun _ => hv _ _ h, h.aiq,
      h.ncp, h.gn, h.bn⟩) hg

theorem Ind.bind_modKeyVal {W : RegSet} {Q : β → RegSet} {k v : St → List Nat} {g : Unit → M β}
    (hk : ∀ s s', Eqv c W s s' → k s' = k s) (hv : ∀ s s', Eqv c W s s' → v s' = v s)
    (hg : Ind c (ins .key (ins .val W)) (g ()) Q) :
    Ind c W (modSt (fun s => { s with lastKeyValue := k s, lastValValue := v s }) >>= g) Q :=
  Ind.bind_modSt (W' := ins .key (ins .val W)) (fun _ _ h =>
    ⟨h.oc, h.oc', h.reader, h.strict, h.uFlag, h.nFlag, h.int, h.min, h.max, h.str, fun _ => hk _ _ h,
      fun _ => hv _ _ h, h.aiq, h.ncp, h.gn, h.bn⟩) hg

theorem Ind.bind_modAiq {W : RegSet} {Q : β → RegSet} {v : St → Bool} {g : Unit → M β}
    (hv : ∀ s s', Eqv c W s s' → v s' = v s) (hg : Ind c (ins .aiq W) (g ()) Q) :
    Ind c W (modSt (fun s => { s with lastAssertionIsQuantifiable := v s }) >>= g) Q :=
  Ind.bind_modSt (W' := ins .aiq W) (fun _ _ h =>
    ⟨h.oc, h.oc', h.reader, h.strict, h.uFlag, h.nFlag, h.int, h.min, h.max, h.str, h.key, h.val, fun _ => hv _ _ h,
      h.ncp, h.gn, h.bn⟩) hg

/-- the three registers `consume_pattern` resets together; also an update of one of them when `caps` is known -/
theorem Ind.bind_modCaps {W : RegSet} {Q : β → RegSet} {n : St → Nat} {gn bn : St → List (List Nat)}
    {g : Unit → M β}
    (hn : ∀ s s', Eqv c W s s' → n s' = n s) (hgn : ∀ s s', Eqv c W s s' → gn s' = gn s)
    (hbn : ∀ s s', Eqv c W s s' → bn s' = bn s) (hg : Ind c (ins .caps W) (g ()) Q) :
    Ind c W
      (modSt (fun s => { s with numCapturingParens := n s, groupNames := gn s, backreferenceNames := bn s }) >>= g) Q :=
  Ind.bind_modSt (W' := ins .caps W) (fun _ _ h =>
    ⟨h.oc, h.oc', h.reader, h.strict, h.uFlag, h.nFlag, h.int, h.min, h.max, h.str, h.key, h.val, h.aiq,
      fun _ => hn _ _ h, fun _ => hgn _ _ h, fun _ => hbn _ _ h⟩) hg

theorem Ind.bind_modNFlag {W : RegSet} {Q : β → RegSet} {v : St → Bool} {g : Unit → M β}
    (hv : ∀ s s', Eqv c W s s' → v s' = v s) (hg : Ind c W (g ()) Q) :
    Ind c W (modSt (fun s => { s with nFlag := v s }) >>= g) Q :=
  Ind.bind_modSt (W' := W) (fun _ _ h =>
    ⟨h.oc, h.oc', h.reader, h.strict, h.uFlag, hv _ _ h, h.int, h.min, h.max, h.str, h.key, h.val, h.aiq, h.ncp, h.gn,
      h.bn⟩) hg

theorem Ind.bind_modReader {W : RegSet} {Q : β → RegSet} {v : St → Reader} {g : Unit → M β}
    (hv : ∀ s s', Eqv c W s s' → v s' = v s) (hg : Ind c W (g ()) Q) :
    Ind c W (modSt (fun s => { s with reader := v s }) >>= g) Q :=
  Ind.bind_modSt (W' := W) (fun _ _ h =>
    ⟨h.oc, h.oc', hv _ _ h, h.strict, h.uFlag, h.nFlag, h.int, h.min, h.max, h.str, h.key, h.val, h.aiq, h.ncp, h.gn,
      h.bn⟩) hg

theorem Ind.bind_fail {W : RegSet} {Q : β → RegSet} {msg : String} {g : α → M β} :
    Ind c W ((fail msg : M α) >>= g) Q := fun _ _ hs => ⟨rfl, hs.oc, hs.oc'⟩

theorem Ind.bind_outOfFuel {W : RegSet} {Q : β → RegSet} {g : α → M β} :
    Ind c W ((outOfFuel : M α) >>= g) Q := fun _ _ hs => ⟨hs.oc, hs.oc'⟩

theorem Ind.outOfFuel {W : RegSet} {Q : α → RegSet} : Ind c W (outOfFuel : M α) Q := fun _ _ hs => ⟨hs.oc, hs.oc'⟩

theorem Ind.bind_rustPanic {W : RegSet} {Q : β → RegSet} {why : String} {g : α → M β} :
    Ind c W ((rustPanic why : M α) >>= g) Q := fun _ _ hs => ⟨rfl, hs.oc, hs.oc'⟩

theorem Ind.bind_unwrap {W : RegSet} {Q : β → RegSet} {o : Option α} {why : String} {g : α → M β}
    (h : ∀ a, o = some a → Ind c W (g a) Q) : Ind c W (unwrap o why >>= g) Q := by
  cases o with
  | none => exact Ind.bind_rustPanic
  | some a => exact h a rfl

/-- fewer registers known equal at entry is a stronger statement -/
theorem Ind.pre {W W0 : RegSet} {Q : α → RegSet} {m : M α} (h : Ind c W0 m Q) (hs : Sub W0 W) : Ind c W m Q :=
  fun s s' hss => h s s' (hss.weaken hs)

theorem Ind.post {W : RegSet} {Q Q' : α → RegSet} {m : M α} (h : Ind c W m Q) (hs : ∀ a, Sub (Q' a) (Q a)) :
    Ind c W m Q' := by
  intro s s' hss
  have h1 := h s s' hss
  cases h2 : m s <;> cases h2' : m s' <;> rw [h2, h2'] at h1 <;> try exact h1.elim
  · exact ⟨h1.1, h1.2.weaken (hs _)⟩
  · exact h1
  · exact h1
  · exact h1

theorem Ind.fail {W : RegSet} {Q : α → RegSet} {msg : String} : Ind c W (fail msg : M α) Q :=
  fun _ _ hs => ⟨rfl, hs.oc, hs.oc'⟩

/-! composition of an ordered choice and of a conjunction from their parts (the stepping tactic instead executes the
continuation once in every branch) -/

/-- what `a` guarantees on `true` must do for the whole; `b` runs from what `a` leaves on `false` -/
theorem Ind.orM {W : RegSet} {Qa Q : Bool → RegSet} {a b : M Bool} (ha : Ind c W a Qa) (ht : Sub (Q true) (Qa true))
    (hb : Ind c (Qa false) b Q) : Ind c W (a <or> b) Q :=
  Ind.bind ha fun x => by
    cases x
    · exact hb
    · exact Ind.pure ht

theorem Ind.andM {W : RegSet} {Qa Q : Bool → RegSet} {a b : M Bool} (ha : Ind c W a Qa) (hb : Ind c (Qa true) b Q)
    (hf : Sub (Q false) (Qa false)) : Ind c W (a <and> b) Q :=
  Ind.bind ha fun x => by
    cases x
    · exact Ind.pure hf
    · exact hb

/-- each alternative defines `r` when it answers `true` -/
theorem Ind.orM_sets {W : RegSet} {r : Reg} {a b : M Bool} (ha : Ind c W a (fun x => insIf x r W))
    (hb : Ind c W b (fun x => insIf x r W)) : Ind c W (a <or> b) (fun x => insIf x r W) :=
  Ind.orM ha (Sub.refl _) hb

/-- a test in front of a computation that defines `r` when it answers `true` -/
theorem Ind.andM_sets {W : RegSet} {r : Reg} {a b : M Bool} (ha : Ind c W a (fun _ => W))
    (hb : Ind c W b (fun x => insIf x r W)) : Ind c W (a <and> b) (fun x => insIf x r W) :=
  Ind.andM ha hb (Sub.insIf_false (Sub.refl _))

theorem Ind.orM_keep {W : RegSet} {a b : M Bool} (ha : Ind c W a (fun _ => W)) (hb : Ind c W b (fun _ => W)) :
    Ind c W (a <or> b) (fun _ => W) :=
  Ind.orM ha (Sub.refl _) hb

theorem Ind.andM_keep {W : RegSet} {a b : M Bool} (ha : Ind c W a (fun _ => W)) (hb : Ind c W b (fun _ => W)) :
    Ind c W (a <and> b) (fun _ => W) :=
  Ind.andM ha hb (Sub.refl _)

/-- a test of fields on which the two runs agree -/
theorem Ind.test {W : RegSet} (f : St → Bool) (hf : ∀ s s', Eqv c W s s' → f s' = f s) :
    Ind c W (do Pure.pure (f (← getSt)) : M Bool) (fun _ => W) :=
  Ind.bind_getSt (fun s s' h => by rw [hf s s' h]) fun _ => Ind.pure (Sub.refl _)

end DL.Rx
