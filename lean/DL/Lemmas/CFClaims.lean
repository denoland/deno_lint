import DL.Lemmas.CFViol

/-! The claims of the rule layers, construct by construct.  What a visit records under the keys of a piece of syntax is
not touched again, so the claims established when the piece was visited hold in the final metadata: `Part` states this
for one piece, `Part.seq` for pieces visited one after the other, `SClaims.of_parts` for a statement made of pieces. -/
namespace DL.CF

attribute [local simp] Stmt.stopViol Stmts.stopViol Kid.stopViol Kids.stopViol Cases.stopViol Stmt.swCases Stmts.swCases
  Kid.swCases Kids.swCases Cases.swCasesAt Stmt.getters Stmts.getters Kid.getters Kids.getters Cases.getters

theorem Claims.mono {sv sv' : List Nat} {cs cs' : List (Nat × Stmts)} {gs gs' : List Getter} {F : Info}
    (h : Claims sv cs gs F) (h1 : ∀ q, q ∈ sv' → q ∈ sv) (h2 : ∀ c, c ∈ cs' → c ∈ cs) (h3 : ∀ g, g ∈ gs' → g ∈ gs) :
    Claims sv' cs' gs' F :=
  ⟨fun q hq => h.sv q (h1 q hq), fun c hc => h.cv c (h2 c hc), fun g hg => h.gv g (h3 g hg)⟩

/-- the claims for lists that are the same up to the equations of `stopViol`, `swCases`, `getters` and the association
of `++`; the default `by simp` proves that with the equations made `local simp` above -/
theorem Claims.of_eq {sv sv' : List Nat} {cs cs' : List (Nat × Stmts)} {gs gs' : List Getter} {F : Info}
    (h : Claims sv cs gs F) (h1 : sv' = sv := by simp) (h2 : cs' = cs := by simp) (h3 : gs' = gs := by simp) :
    Claims sv' cs' gs' F := by
  subst h1 h2 h3; exact h

def SClaims (s : Stmt) (ls : List Id) (F : Info) : Prop := Claims (s.stopViol F ls) s.swCases s.getters F
def LClaims (l : Stmts) (F : Info) : Prop := Claims (l.stopViol F) l.swCases l.getters F
def KClaims (ks : Kids) (F : Info) : Prop := Claims (ks.stopViol F) ks.swCases ks.getters F
def KdClaims (k : Kid) (F : Info) : Prop := Claims (k.stopViol F) k.swCases k.getters F
def CClaims (cs : Cases) (sp : Nat) (F : Info) : Prop := Claims (cs.stopViol F) (cs.swCasesAt sp) cs.getters F
/-- the body of a loop: its own key is re-used for the end of the loop -/
def BodyClaims (s : Stmt) (F : Info) : Prop := Claims ((s.stopViol F []).filter (· != s.pos)) s.swCases s.getters F

/-- the claims hold in the metadata left by a visit from any state in which the keys are fresh -/
def Stmt.ClaimsOK (s : Stmt) (ls : List Id) : Prop := ∀ x, PreK s.positions x → SClaims s ls (visitStmt s x).info
def Stmts.ClaimsOK (l : Stmts) : Prop := ∀ x, PreK l.positions x → LClaims l (visitStmts l x).info
def Kid.ClaimsOK (k : Kid) : Prop := ∀ x, PreK k.positions x → KdClaims k (visitKid k x).info
def Kids.ClaimsOK (ks : Kids) : Prop := ∀ x, PreK ks.positions x → KClaims ks (visitKids ks x).info

theorem SClaims.transport {s : Stmt} {ls : List Id} {F G : Info} (h : SClaims s ls G) (hag : ∀ q ∈ s.positions, F q = G q) :
    SClaims s ls F :=
  Claims.transport_on (f := fun i => s.stopViol i ls) h (Stmt.sv_local s ls) ((Stmt.sw_keys s).close []) (Stmt.getters_mem s)
    (Stmt.upos_sub s) hag (fun _ h => nomatch h)

theorem LClaims.transport {l : Stmts} {F G : Info} (h : LClaims l G) (hag : ∀ q ∈ l.positions, F q = G q) : LClaims l F :=
  Claims.transport_on (f := fun i => l.stopViol i) h (Stmts.sv_local l) (Stmts.sw_keys l []) (Stmts.getters_mem l)
    (Stmts.upos_sub l) hag (fun _ h => nomatch h)

theorem KClaims.transport {ks : Kids} {F G : Info} (h : KClaims ks G) (hag : ∀ q ∈ ks.positions, F q = G q) : KClaims ks F :=
  Claims.transport_on (f := fun i => ks.stopViol i) h (Kids.sv_local ks) (Kids.sw_keys ks []) (Kids.getters_mem ks)
    (Kids.upos_sub ks) hag (fun _ h => nomatch h)

theorem KdClaims.transport {k : Kid} {F G : Info} (h : KdClaims k G) (hag : ∀ q ∈ k.positions, F q = G q) : KdClaims k F :=
  Claims.transport_on (f := fun i => k.stopViol i) h (Kid.sv_local k) (Kid.sw_keys k []) (Kid.getters_mem k)
    (Kid.upos_sub k) hag (fun _ h => nomatch h)

theorem CClaims.transport {cs : Cases} {sp : Nat} {F G : Info} (h : CClaims cs sp G) (hag : ∀ q ∈ cs.positions, F q = G q)
    (hsp : F.ur sp = G.ur sp) : CClaims cs sp F :=
  Claims.transport_on (f := fun i => cs.stopViol i) h (Cases.sv_local cs) (Cases.sw_keys cs sp) (Cases.getters_mem cs)
    (Cases.upos_sub cs) hag (fun q hq => by rw [List.mem_singleton.mp hq]; exact hsp)

theorem SClaims.body {s : Stmt} {F : Info} (h : SClaims s [] F) : BodyClaims s F :=
  h.mono (fun _ hq => (List.mem_filter.mp hq).1) (fun _ h => h) (fun _ h => h)

/-- everything inside a loop body except its own key is as the body's visit left it -/
theorem BodyClaims.transport {s : Stmt} {F G : Info} (h : BodyClaims s G) (hnd : s.positions.Nodup)
    (hag : ∀ q ∈ s.positions, q ≠ s.pos → F q = G q) (hur : F.ur s.pos = G.ur s.pos) : BodyClaims s F := by
  have hsub : ∀ r, r ∈ s.upos.tail → F r = G r := fun r hr =>
    hag r (Stmt.upos_sub s r (by rw [Stmt.upos_eq]; exact List.mem_cons_of_mem _ hr)) (fun e => s.pos_not_sub hnd (e ▸ hr))
  refine Claims.transport h ?_ ?_ ?_
  · intro q hq
    rw [List.mem_filter] at hq
    have := Stmt.sv_local s [] G F q hq.1
    have hq' := hag q (Stmt.upos_sub s q this.1) (by simpa using hq.2)
    exact ⟨List.mem_filter.mpr ⟨this.2 hq', hq.2⟩, ur_eq_of_info_eq hq'⟩
  · intro c hc
    have := Stmt.sw_keys s c hc
    refine ⟨fun r hr => hsub r (this.2 r hr), ?_⟩
    rcases this.1 with h' | h'
    · rw [List.mem_singleton.mp h']; exact hur
    · exact ur_eq_of_info_eq (hsub _ h')
  · intro g hg
    exact hag _ (Stmt.getters_mem s g hg) (Stmt.getters_ne s hnd g hg)

/-- the claim at the statement's own position -/
theorem own_claim (s : Stmt) (ls : List Id) (a : A) (hf : s.inF = true) (hpre : PreK s.positions a) :
    Claims (stopHere (visitStmt s a).info ls s) [] [] (visitStmt s a).info := by
  refine ⟨?_, nofun, nofun⟩
  intro q hq
  obtain ⟨h0, h1, h2, h3⟩ := mem_stopHere hq
  subst h0
  rw [metaStops_eq] at h2
  exact Stmt.own_stops s ls a hf hpre h1 h2 h3

theorem PreK.sub {ps qs : List Nat} {a : A} (h : PreK ps a) (hsub : ∀ p ∈ qs, p ∈ ps) (hn : qs.Nodup) : PreK qs a :=
  ⟨fun p hp => h.fresh p (hsub p hp), hn⟩

/-- a later state whose metadata agree with `a` on `qs` -/
theorem PreK.move {ps qs : List Nat} {a b : A} (h : PreK ps a) (hsub : ∀ p ∈ qs, p ∈ ps) (hn : qs.Nodup)
    (hag : ∀ q ∈ qs, b.info q = a.info q) : PreK qs b :=
  ⟨fun p hp => by rw [endAt_eq_of_info_eq (hag p hp)]; exact h.fresh p (hsub p hp), hn⟩

theorem flagA_info_endAt (a : A) (p : Nat) (t : Tag) (q : Nat) : (flagA a p t).info.endAt q = a.info.endAt q := flagA_endAt a p t q

theorem PreK.flagged {ps : List Nat} {a : A} (h : PreK ps a) (p : Nat) (t : Tag) : PreK ps (flagA a p t) := h.flag p t

/-- `op` visits a piece of syntax with keys `ps` inside a construct whose own keys are `e`: it touches no key outside `ps`
and `e`; from a state in which `ps` are fresh it leaves metadata with the property `C`; and `C` only depends on the
metadata at `ps`. -/
structure Part (e ps : List Nat) (C : Info → Prop) (op : A → A) : Prop where
  frame : ∀ x q, q ∉ ps → q ∉ e → (op x).info q = x.info q
  ok : ∀ x, PreK ps x → (∀ q ∈ ps, q ∉ e) → C (op x).info
  loc : ∀ F G, ps.Nodup → (∀ q ∈ ps, F q = G q) → C G → C F

/-- two pieces visited one after the other: the second visit leaves the keys of the first alone -/
theorem Part.seq {e ps qs : List Nat} {C1 C2 : Info → Prop} {op1 op2 : A → A} (h1 : Part e ps C1 op1) (h2 : Part e qs C2 op2) :
    Part e (ps ++ qs) (fun F => C1 F ∧ C2 F) (fun x => op2 (op1 x)) := by
  refine ⟨fun x q hq he => ?_, fun x hpre he => ?_, fun F G hnd hag h => ?_⟩
  · rw [List.mem_append, not_or] at hq
    rw [h2.frame _ q hq.2 he, h1.frame x q hq.1 he]
  · have hl : ∀ q ∈ ps, q ∉ e := fun q hq => he q (List.mem_append.mpr (Or.inl hq))
    have hr : ∀ q ∈ qs, q ∉ e := fun q hq => he q (List.mem_append.mpr (Or.inr hq))
    have hx : PreK qs (op1 x) := hpre.move (fun q hq => List.mem_append.mpr (Or.inr hq)) (List.nodup_append.mp hpre.nodup).2.1
      (fun q hq => h1.frame x q (fun h => hpre.disj q h hq) (hr q hq))
    exact ⟨h1.loc _ _ hpre.left.nodup (fun q hq => h2.frame _ q (fun h => hpre.disj q hq h) (hl q hq)) (h1.ok x hpre.left hl),
      h2.ok _ hx hr⟩
  · have hn := List.nodup_append.mp hnd
    exact ⟨h1.loc F G hn.1 (fun q hq => hag q (List.mem_append.mpr (Or.inl hq))) h.1,
      h2.loc F G hn.2.1 (fun q hq => hag q (List.mem_append.mpr (Or.inr hq))) h.2⟩

/-- the keys may be listed in another order than the pieces are visited in -/
theorem Part.perm {e ps qs : List Nat} {C : Info → Prop} {op : A → A} (h : Part e ps C op) (hp : qs.Perm ps) : Part e qs C op :=
  ⟨fun x q hq => h.frame x q (fun h' => hq (hp.mem_iff.mpr h')),
   fun x hx he => h.ok x ⟨fun q hq => hx.fresh q (hp.mem_iff.mpr hq), hp.nodup_iff.mp hx.nodup⟩ (fun q hq => he q (hp.mem_iff.mpr hq)),
   fun F G hnd hag => h.loc F G (hp.nodup_iff.mp hnd) (fun q hq => hag q (hp.mem_iff.mpr hq))⟩

/-- the same visit after a step `pre` and seen through a further step, when both only touch keys of `e` -/
theorem Part.congr {e ps : List Nat} {C : Info → Prop} {op op' : A → A} (h : Part e ps C op) (pre : A → A)
    (hpre : ∀ x q, q ∉ e → (pre x).info q = x.info q)
    (hop : ∀ x q, q ∉ e → (op' x).info q = (op (pre x)).info q) : Part e ps C op' := by
  refine ⟨fun x q hq he => ?_, fun x hx he => ?_, h.loc⟩
  · rw [hop x q he, h.frame _ q hq he, hpre x q he]
  · exact h.loc _ _ hx.nodup (fun q hq => hop x q (he q hq))
      (h.ok (pre x) (hx.move (fun _ hq => hq) hx.nodup (fun q hq => hpre x q (he q hq))) he)

/-- the same visit seen through a further step that records something under a new key `r` -/
theorem Part.cons {e ps : List Nat} {C : Info → Prop} {op op' : A → A} (h : Part e ps C op) (r : Nat)
    (hop : ∀ x q, q ≠ r → (op' x).info q = (op x).info q) : Part e (r :: ps) C op' := by
  refine ⟨fun x q hq he => ?_, fun x hx he => ?_,
    fun F G hnd hag => h.loc F G (List.nodup_cons.mp hnd).2 (fun q hq => hag q (List.mem_cons_of_mem _ hq))⟩
  · rw [List.mem_cons, not_or] at hq
    rw [hop x q hq.1, h.frame x q hq.2 he]
  · have hnd := List.nodup_cons.mp hx.nodup
    exact h.loc _ _ hnd.2 (fun q hq => hop x q (fun e' => hnd.1 (e' ▸ hq)))
      (h.ok x (hx.sub (fun q hq => List.mem_cons_of_mem _ hq) hnd.2) (fun q hq => he q (List.mem_cons_of_mem _ hq)))

theorem Part.stmt {e : List Nat} {s : Stmt} {ls : List Id} (ih : s.ClaimsOK ls) : Part e s.positions (SClaims s ls) (visitStmt s) :=
  ⟨fun x q hq _ => (s.writes x).info q hq, fun x hx _ => ih x hx, fun _ _ _ hag h => h.transport hag⟩

theorem Part.stmts {e : List Nat} {l : Stmts} (ih : l.ClaimsOK) : Part e l.positions (LClaims l) (visitStmts l) :=
  ⟨fun x q hq _ => (l.writes x).info q hq, fun x hx _ => ih x hx, fun _ _ _ hag h => h.transport hag⟩

theorem Part.kid {e : List Nat} {k : Kid} (ih : k.ClaimsOK) : Part e k.positions (KdClaims k) (visitKid k) :=
  ⟨fun x q hq _ => (k.writes x).info q hq, fun x hx _ => ih x hx, fun _ _ _ hag h => h.transport hag⟩

theorem Part.kids {e : List Nat} {ks : Kids} (ih : ks.ClaimsOK) : Part e ks.positions (KClaims ks) (visitKids ks) :=
  ⟨fun x q hq _ => (ks.writes x).info q hq, fun x hx _ => ih x hx, fun _ _ _ hag h => h.transport hag⟩

/-- a `break`/`continue` statement has no claims; any other statement is left alone by `visit_stmt_or_block` -/
theorem sob_cases (s : Stmt) : (∀ ls F, SClaims s ls F) ∨ (∀ x, sobTail s x = x) := by
  by_cases h : s.isBreakOrContinue = true
  · left
    cases s <;> simp [Stmt.isBreakOrContinue] at h
    · exact fun ls F => Claims.nil F
    · exact fun ls F => Claims.nil F
  · right; intro x; simp [sobTail, h]

/-- a statement visited through `visit_stmt_or_block` -/
theorem Part.sob {e : List Nat} {s : Stmt} {ls : List Id} (ih : s.ClaimsOK ls) :
    Part e s.positions (SClaims s ls) (fun x => sobTail s (visitStmt s x)) := by
  rcases sob_cases s with h | h
  · exact ⟨fun x q hq _ => ((sobTail_marks s _).info1 fun e' : q = s.pos => hq (e' ▸ s.pos_mem)).trans ((s.writes x).info q hq),
      fun _ _ _ => h _ _, fun _ _ _ _ _ => h _ _⟩
  · simp only [h]; exact Part.stmt ih

theorem withChild_if_info (p : Nat) (op : A → A) (a : A) : (withChild .ifK p op a).info = (op (childA .ifK a)).info :=
  (withChild_sees .ifK p op a).infoAll rfl

/-- a branch of an `if`: visited in a child scope whose exit does not mark anything -/
theorem Part.branch {e : List Nat} {c : Stmt} (ih : c.ClaimsOK []) :
    Part e c.positions (SClaims c []) (withChild .ifK c.pos (fun y => sobTail c (visitStmt c y))) :=
  (Part.sob ih).congr (childA .ifK) (fun _ _ _ => rfl) (fun x q _ => by rw [withChild_if_info])

/-- the loop scope: the body is visited in a child scope, then the tail of the closure and the exit of the scope mark
the end of the loop under the body's key (and, for `for`, under the key of the statement) -/
theorem Part.loopBody {e ks : List Nat} {body : Stmt} (tail : A → A) (htail : ∀ y, Marks ks y (tail y))
    (hks : ∀ q, q ∈ ks → q = body.pos ∨ q ∈ e) (ih : body.ClaimsOK []) :
    Part e body.positions (BodyClaims body) (withChild .loop body.pos (fun y => tail (visitStmt body y))) := by
  have hr : ∀ x q, q ≠ body.pos → q ∉ e →
      (withChild .loop body.pos (fun y => tail (visitStmt body y)) x).info q = (visitStmt body (childA .loop x)).info q :=
    fun x q h1 h2 => ((withChild_sees .loop body.pos _ x).info q h1).trans ((htail _).info q fun hk => (hks q hk).elim h1 h2)
  refine ⟨fun x q hq he => ?_, fun x hx he => ?_,
    fun F G hnd hag h => h.transport hnd (fun q hq _ => hag q hq) (ur_eq_of_info_eq (hag _ body.pos_mem))⟩
  · rw [hr x q (fun e' => hq (e' ▸ body.pos_mem)) he, (body.writes _).info q hq]; rfl
  · refine (ih (childA .loop x) ⟨hx.fresh, hx.nodup⟩).body.transport hx.nodup (fun q hq hne => hr x q hne (he q hq)) ?_
    rw [(withChild_sees .loop body.pos _ x).ur, (htail _).ur]

/-- a statement whose own key heads its positions (`hpos`): the flag is recorded under that key, the pieces are visited,
and what follows only touches that key -/
theorem SClaims.of_parts {s : Stmt} {ls : List Id} {a : A} {ps : List Nat} {C : Info → Prop} {op : A → A}
    (hf : s.inF = true) (hpre : PreK s.positions a) (hpos : s.positions = s.pos :: ps) (hp : Part [s.pos] ps C op)
    (hv : ∀ q, q ≠ s.pos → (visitStmt s a).info q = (op (flagA a s.pos s.tag)).info q)
    (glue : ∀ F, Claims (stopHere F ls s) [] [] F → C F → SClaims s ls F) : SClaims s ls (visitStmt s a).info := by
  have own := own_claim s ls a hf hpre
  rw [hpos] at hpre
  have hnd := List.nodup_cons.mp hpre.nodup
  have he : ∀ q ∈ ps, q ∉ [s.pos] := fun q hq h => hnd.1 (List.mem_singleton.mp h ▸ hq)
  exact glue _ own (hp.loc _ _ hnd.2 (fun q hq => hv q (fun e' => hnd.1 (e' ▸ hq)))
    (hp.ok _ ((hpre.sub (fun q hq => List.mem_cons_of_mem _ hq) hnd.2).flag _ _) he))

theorem block_claims (ls : List Id) (p : Nat) (b : Stmts) (a : A) (hf : (Stmt.block p b).inF = true)
    (hpre : PreK (Stmt.block p b).positions a) (ih : b.ClaimsOK) :
    SClaims (.block p b) ls (visitStmt (.block p b) a).info :=
  SClaims.of_parts hf hpre rfl (Part.stmts ih) (fun _ hq => (blockTail_marks p _).info1 hq) (fun _ own h => (own.append h).of_eq)

theorem ret_claims (ls : List Id) (p : Nat) (arg : Kids) (a : A) (hf : (Stmt.ret p arg).inF = true)
    (hpre : PreK (Stmt.ret p arg).positions a) (ihk : arg.ClaimsOK) :
    SClaims (.ret p arg) ls (visitStmt (.ret p arg) a).info :=
  SClaims.of_parts hf hpre rfl (Part.kids ihk) (fun q hq => markAsEnd_info_other p _ _ q hq) (fun _ _ h => h.of_eq)

theorem throw_claims (ls : List Id) (p : Nat) (arg : Kids) (a : A) (hf : (Stmt.throw p arg).inF = true)
    (hpre : PreK (Stmt.throw p arg).positions a) (ihk : arg.ClaimsOK) :
    SClaims (.throw p arg) ls (visitStmt (.throw p arg) a).info :=
  SClaims.of_parts hf hpre rfl (Part.kids ihk)
    (fun q hq => by simp only [visitStmt]; rw [markAsEnd_info_other p _ _ q hq, throwEffect_info]; rfl) (fun _ _ h => h.of_eq)

theorem if_none_claims (ls : List Id) (p : Nat) (test : Kids) (c : Stmt) (a : A) (hf : (Stmt.ifS p test c none).inF = true)
    (hpre : PreK (Stmt.ifS p test c none).positions a) (ihk : test.ClaimsOK) (ih : c.ClaimsOK []) :
    SClaims (.ifS p test c none) ls (visitStmt (.ifS p test c none) a).info :=
  SClaims.of_parts hf hpre rfl ((Part.kids ihk).seq (Part.branch ih)) (fun q hq => markAsEnd_info_other p _ _ q hq)
    (fun _ own h => (own.append (h.1.append h.2)).of_eq)

theorem if_some_claims (ls : List Id) (p : Nat) (test : Kids) (c al : Stmt) (a : A)
    (hf : (Stmt.ifS p test c (some al)).inF = true) (hpre : PreK (Stmt.ifS p test c (some al)).positions a)
    (ihk : test.ClaimsOK) (ihc : c.ClaimsOK []) (iha : al.ClaimsOK []) :
    SClaims (.ifS p test c (some al)) ls (visitStmt (.ifS p test c (some al)) a).info :=
  SClaims.of_parts hf hpre rfl ((Part.kids ihk).seq ((Part.branch ihc).seq (Part.branch iha)))
    (fun _ hq => (ifJoin_marks ..).info1 hq) (fun _ own h => (own.append (h.1.append (h.2.1.append h.2.2))).of_eq)

theorem labeled_claims (ls : List Id) (p : Nat) (l : Id) (body : Stmt) (a : A) (hf : (Stmt.labeled p l body).inF = true)
    (hpre : PreK (Stmt.labeled p l body).positions a) (ih : body.ClaimsOK (l :: ls)) :
    SClaims (.labeled p l body) ls (visitStmt (.labeled p l body) a).info :=
  SClaims.of_parts hf hpre rfl
    ((Part.sob ih).congr (op' := withChild (.label l) p (fun y => sobTail body (visitStmt body y))) (childA (.label l))
      (fun _ _ _ => rfl) (fun x q _ => congrFun ((withChild_sees (.label l) p _ x).infoAll rfl) q))
    (fun _ _ => rfl) (fun _ own h => (own.append h).of_eq)

theorem while_claims (ls : List Id) (p : Nat) (test : Kids) (tt : Bool) (body : Stmt) (a : A)
    (hf : (Stmt.whileS p test tt body).inF = true) (hpre : PreK (Stmt.whileS p test tt body).positions a)
    (ihk : test.ClaimsOK) (ih : body.ClaimsOK []) :
    SClaims (.whileS p test tt body) ls (visitStmt (.whileS p test tt body) a).info :=
  SClaims.of_parts hf hpre rfl
    (((Part.loopBody (whileTail tt body.isDeclOrExpr body.pos) (fun _ => whileTail_marks ..)
      (fun _ h => .inl (List.mem_singleton.mp h)) ih).seq (Part.kids ihk)).perm List.perm_append_comm)
    (fun _ _ => rfl) (fun _ own h => (own.append (h.2.append h.1)).of_eq)

theorem doWhile_claims (ls : List Id) (p : Nat) (body : Stmt) (test : Kids) (tt : Bool) (a : A)
    (hf : (Stmt.doWhileS p body test tt).inF = true) (hpre : PreK (Stmt.doWhileS p body test tt).positions a)
    (ihk : test.ClaimsOK) (ih : body.ClaimsOK []) :
    SClaims (.doWhileS p body test tt) ls (visitStmt (.doWhileS p body test tt) a).info :=
  SClaims.of_parts hf hpre rfl
    (((Part.loopBody (doWhileTail tt body.isDeclOrExpr body.pos) (fun _ => doWhileTail_marks ..)
        (fun _ h => .inl (List.mem_singleton.mp h)) ih).seq
      ((Part.kids ihk).congr (op' := fun x => visitKids test (doWhileAfter p body.pos x)) (doWhileAfter p body.pos)
        (fun x _ hq => (doWhileAfter_marks p _ x).info1 (List.ne_of_not_mem_cons hq)) (fun _ _ _ => rfl))).perm List.perm_append_comm)
    (fun _ _ => rfl) (fun _ own h => (own.append (h.2.append h.1)).of_eq)

theorem for_claims (ls : List Id) (p : Nat) (i u t : Kids) (hasTest tt : Bool) (body : Stmt) (a : A)
    (hf : (Stmt.forS p i u t hasTest tt body).inF = true) (hpre : PreK (Stmt.forS p i u t hasTest tt body).positions a)
    (ihi : i.ClaimsOK) (ihu : u.ClaimsOK) (iht : t.ClaimsOK) (ih : body.ClaimsOK []) :
    SClaims (.forS p i u t hasTest tt body) ls (visitStmt (.forS p i u t hasTest tt body) a).info :=
  SClaims.of_parts hf hpre rfl
    (((Part.kids ihi).seq ((Part.kids ihu).seq (Part.kids iht))).seq
      (Part.loopBody (forTail p body.pos body.isDeclOrExpr hasTest tt) (fun _ => forTail_marks ..)
        (fun _ h => (List.mem_cons.mp h).elim (fun h => .inr (h ▸ .head _)) fun h => .inl (List.mem_singleton.mp h)) ih))
    (fun _ _ => rfl) (fun _ own h => (own.append (h.1.1.append (h.1.2.1.append (h.1.2.2.append h.2)))).of_eq)

theorem forInOf_claims (ls : List Id) (p : Nat) (l r : Kids) (body : Stmt) (a : A)
    (hf : (Stmt.forInOf p l r body).inF = true) (hpre : PreK (Stmt.forInOf p l r body).positions a)
    (ihl : l.ClaimsOK) (ihr : r.ClaimsOK) (ih : body.ClaimsOK []) :
    SClaims (.forInOf p l r body) ls (visitStmt (.forInOf p l r body) a).info :=
  SClaims.of_parts hf hpre rfl
    (((Part.kids ihl).seq (Part.kids ihr)).seq
      (Part.loopBody (forInOfTail body.pos) (fun _ => forInOfTail_marks ..) (fun _ h => .inl (List.mem_singleton.mp h)) ih))
    (fun _ _ => rfl) (fun _ own h => (own.append (h.1.1.append (h.1.2.append h.2))).of_eq)

/-- the `catch` clause, if there is one -/
theorem Part.handler {e : List Nat} (hh : Bool) (cp : Nat) (ck : Kids) (prev : Option End) (hck : hh = true ∨ ck = .nil)
    (ih : ck.ClaimsOK) : Part e (optPos hh cp ++ ck.positions) (KClaims ck) (tryHandler hh cp ck prev) := by
  cases hh with
  | false =>
    obtain rfl : ck = .nil := by simpa using hck
    exact ⟨fun _ _ _ _ => rfl, fun _ _ _ => Claims.nil _, fun _ _ _ _ _ => Claims.nil _⟩
  | true =>
    exact ((Part.kids ih).congr (op' := fun x => visitKids ck (childA .catch_ (handlerStart prev x)))
      (fun x => childA .catch_ (handlerStart prev x)) (fun x q _ => congrFun (handlerStart_facts prev x).1 q) (fun _ _ _ => rfl)).cons cp
      (fun x q hq => ((tryCatchJoin_marks ..).info q nofun).trans ((withChild_sees .catch_ cp _ _).info q hq))

/-- the `finally` block, if there is one -/
theorem Part.finalizer {e : List Nat} (hf : Bool) (fp : Nat) (f : Stmts) (prev : Option End) (hfin : hf = true ∨ f = .nil)
    (ih : f.ClaimsOK) : Part e (optPos hf fp ++ f.positions) (LClaims f) (tryFinalizer hf fp f prev) := by
  cases hf with
  | false =>
    obtain rfl : f = .nil := by simpa using hfin
    exact ⟨fun _ _ _ _ => rfl, fun _ _ _ => Claims.nil _, fun _ _ _ _ _ => Claims.nil _⟩
  | true =>
    exact ((Part.stmts ih).congr (op' := fun x => visitStmts f (childA .finally_ (x.setEnd prev)))
      (fun x => childA .finally_ (x.setEnd prev)) (fun _ _ _ => rfl) (fun _ _ _ => rfl)).cons fp
      (fun x q hq => ((finallyJoin_marks ..).info q nofun).trans (((withChild_sees .finally_ fp _ _).info q hq).trans
        ((blockTail_marks fp _).info1 hq)))

theorem try_claims (ls : List Id) (p bp : Nat) (b : Stmts) (hh : Bool) (cp : Nat) (ck : Kids) (hf : Bool) (fp : Nat) (f : Stmts)
    (a : A) (hfr : (Stmt.tryS p bp b hh cp ck hf fp f).inF = true)
    (hpre : PreK (Stmt.tryS p bp b hh cp ck hf fp f).positions a) (ihb : b.ClaimsOK) (ihc : ck.ClaimsOK) (ihf : f.ClaimsOK) :
    SClaims (.tryS p bp b hh cp ck hf fp f) ls (visitStmt (.tryS p bp b hh cp ck hf fp f) a).info :=
  have hf' : (hh = true ∨ ck.isNil = true) ∧ (hf = true ∨ f.isNil = true) := by
    simp only [Stmt.inF, Bool.and_eq_true, Bool.or_eq_true] at hfr; exact ⟨hfr.1.2, hfr.2⟩
  have hck : hh = true ∨ ck = .nil := hf'.1.imp id fun h => by cases ck <;> simp_all [Kids.isNil]
  have hfin : hf = true ∨ f = .nil := hf'.2.imp id fun h => by cases f <;> simp_all [Stmts.isNil]
  SClaims.of_parts hfr hpre rfl
    ((((Part.stmts ihb).cons (op' := fun x => blockTail bp (visitStmts b x)) bp (fun x _ hq => (blockTail_marks bp _).info1 hq)).congr
        (op' := fun x => blockTail bp (visitStmts b { x with sc := { x.sc with mayThrow := false } }))
        (fun x => { x with sc := { x.sc with mayThrow := false } }) (fun _ _ _ => rfl) (fun _ _ _ => rfl)).seq
      ((Part.handler hh cp ck a.sc.end_ hck ihc).seq (Part.finalizer hf fp f a.sc.end_ hfin ihf)))
    (fun _ hq => by rw [visitStmt_try]; exact (tryFin_marks p _).info1 hq)
    (fun _ own h => (own.append (h.1.append (h.2.1.append h.2.2))).of_eq)

theorem stmtsCons_claims (s : Stmt) (r : Stmts) (a : A) (hpre : PreK (Stmts.cons s r).positions a)
    (ihs : s.ClaimsOK []) (ihr : r.ClaimsOK) : LClaims (.cons s r) (visitStmts (.cons s r) a).info :=
  have h := ((Part.sob ihs).seq (Part.stmts ihr)).ok (e := []) a hpre (fun _ _ => List.not_mem_nil)
  (h.1.append h.2).of_eq (by simp [visitStmts])

theorem kidsCons_claims (k : Kid) (r : Kids) (a : A) (hpre : PreK (Kids.cons k r).positions a)
    (ihk : k.ClaimsOK) (ihr : r.ClaimsOK) : KClaims (.cons k r) (visitKids (.cons k r) a).info :=
  have h := ((Part.kid ihk).seq (Part.kids ihr)).ok (e := []) a hpre (fun _ _ => List.not_mem_nil)
  (h.1.append h.2).of_eq (by simp [visitKids])

/-- a block among the kids (function body, class static block) -/
theorem kidBlock_claims (q : Nat) (body : Stmts) (a : A) (hpre : PreK (Kid.block q body).positions a) (ih : body.ClaimsOK) :
    KdClaims (.block q body) (visitKid (.block q body) a).info :=
  (((Part.stmts ih).cons (op' := fun x => blockTail q (visitStmts body x)) q (fun x _ hu => (blockTail_marks q _).info1 hu)).ok
    (e := []) a hpre (fun _ _ => List.not_mem_nil)).of_eq (by simp [visitKid])

/-- an expression or declaration statement: its own key may be that of a function scope among its kids -/
theorem simple_claims (ls : List Id) (p : Nat) (t : Tag) (kids : Kids) (a : A) (hf : (Stmt.simple p t kids).inF = true)
    (hpre : PreK (Stmt.simple p t kids).positions a) (ihk : kids.ClaimsOK) :
    SClaims (.simple p t kids) ls (visitStmt (.simple p t kids) a).info :=
  ((own_claim (.simple p t kids) ls a hf hpre).append (ihk (flagA a p t)
    ((hpre.sub (fun q hq => (Stmt.mem_positions_simple p t kids q).mpr (Or.inr hq)) (Stmt.nodup_simple p t kids hpre.nodup)).flag p t))).of_eq
      (by simp [visitStmt, flagA])

theorem expr_claims (e : EKind) (ks : Kids) (a : A) (h : KClaims ks (visitKids ks a).info) :
    KdClaims (.expr e ks) (visitKid (.expr e ks) a).info := by
  simp only [visitKid, exprEffect_info]; exact h

/-- a function body block: its metadata stops only if the body cannot complete normally -/
theorem Kids.fnBodies_ok (p : Nat) : ∀ (ks : Kids) (x : A), ks.okFn = true → PreK ks.positions x → x.sc.end_ = none →
    ∀ g ∈ ks.fnBodies p, metaStops (visitKids ks x).info g.bodyP = true → g.body.compl.n = false
  | .nil, _, _, _, _, g, hg, _ => by simp [Kids.fnBodies] at hg
  | .cons (.block q body) .nil, x, hf, hpre, he, g, hg, hst => by
    have hf' : body.inF = true := by simpa [Kids.okFn, Kids.isNil] using hf
    simp only [Kids.fnBodies, List.mem_singleton] at hg
    subst hg
    simp only [visitKids, visitKid, metaStops_eq] at hst
    have hpos : (Kids.cons (.block q body) .nil).positions = q :: body.positions := by simp [Kids.positions, Kid.positions]
    rw [hpos] at hpre
    have hnd := List.nodup_cons.mp hpre.nodup
    have hb := visitStmts_ok body true x hf'
      ⟨fun h => by rw [he] at h; simp at h, fun u hu => hpre.fresh u (List.mem_cons_of_mem _ hu), hnd.2⟩
    unfold blockTail at hst
    have : stopsEnd (visitStmts body x).sc.end_ = true := by
      rcases markAsEnd_self_stops _ _ _ hst with h | h
      · exact h
      · rw [getD_cont_stops] at h; exact h
    simpa using hb.p1 this
  | .cons (.block q body) (.cons _ _), _, hf, _, _, _, _, _ => by simp [Kids.okFn, Kids.isNil] at hf
  | .cons (.expr e ks) r, x, hf, hpre, he, g, hg, hst => by
    have hf' : (ks.okF = true ∧ ks.pure = true) ∧ r.okFn = true := by simpa [Kids.okFn] using hf
    simp only [Kids.fnBodies] at hg
    simp only [Kids.positions] at hpre
    have hk := visitKid_ok (.expr e ks) x (by simpa [Kid.okF] using hf'.1.1) (by simpa [Kid.pure] using hf'.1.2) hpre.left
    exact Kids.fnBodies_ok p r _ hf'.2 (hpre.right hk.frame) (hk.end_.trans he) g hg (by simpa [visitKids] using hst)
  | .cons (.fnScope p' ks) r, x, hf, hpre, he, g, hg, hst => by
    have hf' : ks.okFn = true ∧ r.okFn = true := by simpa [Kids.okFn] using hf
    simp only [Kids.fnBodies] at hg
    simp only [Kids.positions] at hpre
    have hk := visitKid_ok (.fnScope p' ks) x (by simpa [Kid.okF] using hf'.1) rfl hpre.left
    exact Kids.fnBodies_ok p r _ hf'.2 (hpre.right hk.frame) (hk.end_.trans he) g hg (by simpa [visitKids] using hst)
  | .cons (.stmt _) _, _, hf, _, _, _, _, _ => by simp [Kids.okFn] at hf

theorem fnScope_claims (p : Nat) (ks : Kids) (a : A) (hf : ks.okFn = true) (hpre : PreK (Kid.fnScope p ks).positions a)
    (ih : ks.ClaimsOK) : KdClaims (.fnScope p ks) (visitKid (.fnScope p ks) a).info := by
  have hnd := List.nodup_cons.mp hpre.nodup
  have hks := (((Part.kids ih).congr (op' := fun x => visitKids ks (childA .function x)) (childA .function) (fun _ _ _ => rfl)
    (fun _ _ _ => rfl)).cons (op' := visitKid (.fnScope p ks)) p (fun x q hq => (withChild_sees .function p _ x).info q hq)).ok
      (e := []) a hpre (fun _ _ => List.not_mem_nil)
  have own : Claims [] [] (ks.fnBodies p) (visitKid (.fnScope p ks) a).info := by
    refine ⟨nofun, nofun, fun g hg hst => ?_⟩
    have hq := Kids.fnBodies_mem p ks g hg
    rw [metaStops_congr (info' := (visitKid (.fnScope p ks) a).info) ((withChild_sees .function p _ a).info _ (fun e => hnd.1 (e ▸ hq)))] at hst
    exact Kids.fnBodies_ok p ks (childA .function a) hf ⟨fun q hq => hpre.fresh q (List.mem_cons_of_mem _ hq), hnd.2⟩ rfl g hg hst
  exact (own.append hks).of_eq

/-- a statement whose metadata stops although it can complete normally is among its own violations -/
theorem Stmt.self_viol (s : Stmt) (info : Info) (h1 : s.isDeclOrExpr = false) (h2 : metaStops info s.pos = true)
    (h3 : (s.compl []).n = true) : s.pos ∈ s.stopViol info [] := by
  have hm := stopHere_mem (info := info) (ls := []) h1 h2 h3
  cases s with
  | ifS p t c a => cases a <;> (simp only [Stmt.stopViol, List.mem_append]; simp [hm])
  | brk p l => cases l <;> simp [Stmt.compl] at h3
  | cont p l => cases l <;> simp [Stmt.compl] at h3
  | ret p a => simp [Stmt.compl] at h3
  | throw p a => simp [Stmt.compl] at h3
  | _ => simp only [Stmt.stopViol, List.mem_append]; simp [hm]

/-- the first statement of the list whose metadata stops (and which can complete normally) is reached, since all before it
complete normally, and it is among the list's stop-violations -/
theorem stmtsStop_witness (info : Info) : ∀ (l : Stmts), stmtsStop info l = true → l.compl.n = true →
    ∃ q, q ∈ l.stopViol info ∧ l.reach q = true
  | .nil, h, _ => by simp [stmtsStop] at h
  | .cons s r, h, hn => by
    simp only [Stmts.compl, seq_n, Bool.and_eq_true] at hn
    simp only [stmtsStop, Bool.or_eq_true, Bool.and_eq_true, Bool.not_eq_true', isDeclOrExpr] at h
    rcases h with h | h
    · exact ⟨s.pos, by simp [Stmts.stopViol, Stmt.self_viol s info h.1 h.2 hn.1], by simp [Stmts.reach, s.reach_self]⟩
    · obtain ⟨q, hq, hr⟩ := stmtsStop_witness info r h hn.2
      exact ⟨q, by simp [Stmts.stopViol, hq], by simp [Stmts.reach, hn.1, hr]⟩

theorem caseTail_end (p : Nat) (prev : Option End) (r : A × Sc) : (caseTail p prev r).sc.end_ = prev := rfl

theorem casesCons_claims (sp p : Nat) (d : Bool) (t : Kids) (body : Stmts) (r : Cases) (a : A)
    (hf : (Cases.cons p d t body r).inF = true)
    (hpre : PreK (p :: (t.positions ++ (body.positions ++ r.positions))) a)
    (hsp : sp ∉ (Cases.cons p d t body r).upos) (hend : stopsEnd a.sc.end_ = true → a.info.ur sp = true)
    (ihk : ∀ x, PreK t.positions x → KClaims t (visitKids t x).info)
    (ihb : ∀ x, PreK body.positions x → LClaims body (visitStmts body x).info)
    (ihr : ∀ x, PreK r.positions x → (stopsEnd x.sc.end_ = true → x.info.ur sp = true) → CClaims r sp (visitCases r x).info) :
    CClaims (.cons p d t body r) sp (visitCases (.cons p d t body r) a).info := by
  -- `hend`: a scope that has ended when the cases are visited means the `switch` itself was flagged (`sp` is its key).
  -- Every case is visited from a state with the end the `switch` found, so `hend` passes to the rest (`ihr`).  For this
  -- case (`own`): if a statement of the body stops although the body completes normally, it is a stop-violation of the
  -- body reached from the body's start (`stmtsStop_witness`); it is flagged (`hb`), so by the soundness invariant `hB`,
  -- taken with "live" = "the scope has not ended", the case scope had ended, hence the enclosing one, and `hend` applies.
  -- The rest is transport of the parts' claims to the final metadata.
  have hf' : ((t.okF = true ∧ t.pure = true) ∧ body.inF = true) ∧ r.inF = true := by simpa [Cases.inF] using hf
  have h3 := Split3.of hpre.nodup
  simp only [Cases.upos, List.mem_append, not_or] at hsp
  have hpre0 : PreK (t.positions ++ (body.positions ++ r.positions)) a :=
    hpre.sub (fun q hq => List.mem_cons_of_mem _ hq) (List.nodup_cons.mp hpre.nodup).2
  have hkt := ihk a hpre0.left
  have hK := visitKids_ok t a hf'.1.1.1 hf'.1.1.2 hpre0.left
  have fr1 : ∀ q, q ∉ t.positions → (visitKids t a).info q = a.info q := (Kids.writes t a).info
  have ur1 : (visitKids t a).info.ur sp = a.info.ur sp := (Kids.writes t a).ur sp hsp.1
  have he1 : (visitKids t a).sc.end_ = a.sc.end_ := hK.end_
  simp only [visitCases]
  rw [withChildR_case]
  generalize visitKids t a = x at hkt fr1 ur1 he1
  have hpre1 : PreK (body.positions ++ r.positions) x := hpre0.right fr1
  have hprec : PreK body.positions (childA .case x) := ⟨hpre1.left.fresh, hpre1.left.nodup⟩
  have hb := ihb _ hprec
  have hB := visitStmts_ok body (!stopsEnd (childA .case x).sc.end_) (childA .case x) hf'.1.2
    ⟨fun h => by simp [h], hprec.fresh, hprec.nodup⟩
  have fr2 : ∀ q, q ∉ body.positions → (visitStmts body (childA .case x)).info q = x.info q :=
    (Stmts.writes body _).info
  have ur2 : (visitStmts body (childA .case x)).info.ur sp = x.info.ur sp := (Stmts.writes body _).ur sp hsp.2.1
  generalize hG : visitStmts body (childA .case x) = G at hb hB fr2 ur2
  -- the state the remaining cases are visited from
  generalize ha1 : caseTail p a.sc.end_ ({ sc := mergeSc .case x.sc G.sc, info := G.info }, G.sc) = a1
  have e1 : a1.sc.end_ = a.sc.end_ := by rw [← ha1]; rfl
  have i1 : ∀ q, q ≠ p → a1.info q = G.info q := fun q hq => by rw [← ha1]; exact (caseTail_marks ..).info1 hq
  have u1 : a1.info.ur sp = a.info.ur sp := by rw [← ha1, (caseTail_marks ..).ur]; simp only; rw [ur2, ur1]
  have hprer : PreK r.positions a1 := hpre1.move (fun q hq => List.mem_append.mpr (Or.inr hq)) h3.nz
    (fun q hq => by rw [i1 q (fun e => h3.pz (e ▸ hq)), fr2 q (fun h => h3.yz q h hq)])
  have hr := ihr a1 hprer (fun h => by rw [u1]; exact hend (by rw [← e1]; exact h))
  have frr : ∀ q, q ∉ r.positions → (visitCases r a1).info q = a1.info q := (Cases.writes r a1).info
  have urr : (visitCases r a1).info.ur sp = a1.info.ur sp := (Cases.writes r a1).ur sp hsp.2.2
  generalize visitCases r a1 = a2 at hr frr urr
  have agB : ∀ q ∈ body.positions, a2.info q = G.info q := fun q hq => by
    rw [frr q (fun h => h3.yz q hq h), i1 q (fun e => h3.py (e ▸ hq))]
  have hkt' : KClaims t a2.info := by
    refine hkt.transport (fun q hq => ?_)
    rw [frr q (fun h => h3.xz q hq h), i1 q (fun e => h3.px (e ▸ hq)), fr2 q (fun h => h3.xy q hq h)]
  have hb' : LClaims body a2.info := hb.transport agB
  have own : Claims [] [(sp, body)] [] a2.info := by
    refine ⟨nofun, ?_, nofun⟩
    intro c hc hst hn
    simp only [List.mem_singleton] at hc; subst hc
    simp only at hst hn ⊢
    rw [stmtsStop_congr G.info a2.info body (fun q hq => agB q (Stmts.upos_sub body q (Stmts.topPos_sub body q hq)))] at hst
    obtain ⟨q, hq, hreach⟩ := stmtsStop_witness G.info body hst hn
    have hur := hb.sv q hq
    have hqu := (Stmts.sv_local body G.info G.info q hq).1
    have hdead := hB.p3 q hqu hur
    rw [hreach] at hdead
    have hstop : stopsEnd (childA .case x).sc.end_ = true := by simpa using hdead
    have hstopa : stopsEnd a.sc.end_ = true := by rw [← he1]; exact childEnd_stops .case _ hstop
    rw [urr, u1]; exact hend hstopa
  exact (own.append (hkt'.append (hb'.append hr))).of_eq

theorem switch_claims (ls : List Id) (p : Nat) (d : Kids) (cs : Cases) (a : A) (hf : (Stmt.switchS p d cs).inF = true)
    (hpre : PreK (p :: (d.positions ++ cs.positions)) a)
    (ihk : ∀ x, PreK d.positions x → KClaims d (visitKids d x).info)
    (ihc : ∀ x, PreK cs.positions x → (stopsEnd x.sc.end_ = true → x.info.ur p = true) → CClaims cs p (visitCases cs x).info) :
    SClaims (.switchS p d cs) ls (visitStmt (.switchS p d cs) a).info := by
  -- the cases are visited with the end the statement found; if that stops, the flag just recorded at `p` is set, which
  -- is the `hend` of `casesCons_claims`; `switchFin` afterwards only writes an end at `p`
  have own := own_claim (.switchS p d cs) ls a hf hpre
  have hf' : (d.okF = true ∧ d.pure = true) ∧ cs.inF = true := by simpa [Stmt.inF] using hf
  have hsp := Split.of hpre.nodup
  have hpre0 : PreK (d.positions ++ cs.positions) (flagA a p .other) :=
    (hpre.sub (fun q hq => List.mem_cons_of_mem _ hq) (List.nodup_cons.mp hpre.nodup).2).flag p .other
  have hv := visitStmt_switch p d cs a
  have hk := ihk _ hpre0.left
  have hK := visitKids_ok d _ hf'.1.1 hf'.1.2 hpre0.left
  have fr1 : ∀ q, q ∉ d.positions → (visitKids d (flagA a p .other)).info q = (flagA a p .other).info q :=
    (Kids.writes d _).info
  have ur1 : (visitKids d (flagA a p .other)).info.ur p = (flagA a p .other).info.ur p :=
    (Kids.writes d _).ur p (fun h => hsp.pk (Kids.upos_sub d p h))
  have he1 : (visitKids d (flagA a p .other)).sc.end_ = a.sc.end_ := hK.end_
  generalize visitKids d (flagA a p .other) = a1 at hv hk fr1 ur1 he1
  have hc := ihc a1 (hpre0.right fr1) (fun h => by
    rw [ur1, flagA_ur_self]; rw [he1] at h; simp [unreachableFlag, h])
  have frc : ∀ q, q ∉ cs.positions → (visitCases cs a1).info q = a1.info q := (Cases.writes cs a1).info
  generalize visitCases cs a1 = a2 at hv hc frc
  have hk' : KClaims d (visitStmt (.switchS p d cs) a).info := by
    refine hk.transport (fun q hq => ?_)
    have hne : q ≠ p := fun e => hsp.pk (e ▸ hq)
    rw [hv, (switchFin_marks ..).info1 hne, frc q (fun h => hsp.disj q hq h)]
  have hc' : CClaims cs p (visitStmt (.switchS p d cs) a).info := by
    refine hc.transport (fun q hq => ?_) (by rw [hv, (switchFin_marks ..).ur])
    have hne : q ≠ p := fun e => hsp.pb (e ▸ hq)
    rw [hv, (switchFin_marks ..).info1 hne]
  exact (own.append (hk'.append hc')).of_eq

end DL.CF
