import DL.Lemmas.RxBCompLex

/-! # Annex B (no `u` flag), completeness: `CharacterEscape[~U, N]` -/
namespace DL.Rx
open DL.RxSpec DL.RxSpecB

attribute [local irreducible] isScalar
variable {src : List Nat} {K : Bool × Nat}

theorem eatHexEscapeSequence_wd (a b : Nat) (r1 : List Nat) (s : St) (h : BAt src K (ch 'x' :: a :: b :: r1) s)
    (ha : HexDigit a) (hb : HexDigit b) :
    Wc (eatHexEscapeSequence s) (fun b' s1 => b' = true ∧ BAt src K r1 s1 ∧ s1.lastIntValue = (mvHex [a, b] : Nat) ∧ Keep s s1) := by
  have hfx := fun s h => eatFixedHexDigits_wd (src := src) (K := K) 2 (by decide) [a, b] r1 s h rfl
    (by intro d hd; simp at hd; rcases hd with rfl | rfl <;> assumption)
  unfold eatHexEscapeSequence
  rx7_auto
  rx7_fin

theorem eatHexEscapeSequence_wdn (r : List Nat) (s : St) (h : BAt src K r s) (hn : r.head? ≠ some (ch 'x')) :
    Wc (eatHexEscapeSequence s) (fun b s1 => b = false ∧ s1 = s) := by
  unfold eatHexEscapeSequence
  rx7_auto
  all_goals first | exact absurd rfl hn | exact ⟨rfl, rfl⟩

/-- `\x` not followed by two hexadecimal digits: no escape (without the `u` flag this is not an error) -/
theorem eatHexEscapeSequence_wdm (m : List Nat) (s : St) (h : BAt src K (ch 'x' :: m) s)
    (hn : ¬∃ a b r', m = a :: b :: r' ∧ HexDigit a ∧ HexDigit b) :
    Wc (eatHexEscapeSequence s) (fun b s1 => b = false ∧ BAt src K (ch 'x' :: m) s1 ∧ Keep s s1) := by
  have hn2 : ¬∃ ds r1, m = ds ++ r1 ∧ ds.length = 2 ∧ ∀ d ∈ ds, HexDigit d := by
    rintro ⟨ds, r1, e, hl, hd⟩
    rcases ds with _ | ⟨a, _ | ⟨b, _ | ⟨e', t⟩⟩⟩ <;> simp at hl
    exact hn ⟨a, b, r1, e, hd a (by simp), hd b (by simp)⟩
  have hfx := fun s (h : BAt src K m s) => eatFixedHexDigits_wdn (src := src) (K := K) 2 (by decide) m s h hn2
  unfold eatHexEscapeSequence
  rx7_auto
  rx7_fin

/-- `\uHHHH` outside a group name -/
theorem eatRegexpUnicodeEscapeSequence_wdm (n : Nat) (m r1 : List Nat) (v : Nat) (s : St)
    (h : BAt src K (ch 'u' :: m) s) (h4 : Hex4Digits m r1 v) :
    Wc (eatRegexpUnicodeEscapeSequence n false s) (fun b s1 => b = true ∧ BAt src K r1 s1 ∧
      s1.lastIntValue = (v : Nat) ∧ Keep s s1) := by
  obtain ⟨a, b, c', d, e1, ha, hb, hc, hd, v1⟩ := h4
  subst e1 v1
  have hfx := fun s h => eatFixedHexDigits_wd (src := src) (K := K) 4 (by decide) [a, b, c', d] r1 s h rfl
    (by intro x hx; simp at hx; rcases hx with rfl | rfl | rfl | rfl <;> assumption)
  unfold eatRegexpUnicodeEscapeSequence
  rx7_auto
  all_goals rx7_close

theorem eatRegexpUnicodeEscapeSequence_wdn (n : Nat) (f : Bool) (r : List Nat) (s : St) (h : BAt src K r s)
    (hn : r.head? ≠ some (ch 'u')) :
    Wc (eatRegexpUnicodeEscapeSequence n f s) (fun b s1 => b = false ∧ s1 = s) := by
  unfold eatRegexpUnicodeEscapeSequence
  rx7_auto
  all_goals first | exact absurd rfl hn | exact ⟨rfl, rfl⟩

/-- `\u` not followed by four hexadecimal digits, outside a group name: no escape -/
theorem eatRegexpUnicodeEscapeSequence_notHex (n : Nat) (m : List Nat) (s : St) (h : BAt src K (ch 'u' :: m) s)
    (hn : ¬∃ r' v, Hex4Digits m r' v) :
    Wc (eatRegexpUnicodeEscapeSequence n false s) (fun b s1 => b = false ∧ BAt src K (ch 'u' :: m) s1 ∧ Keep s s1) := by
  have hn4 : ¬∃ ds r1, m = ds ++ r1 ∧ ds.length = 4 ∧ ∀ d ∈ ds, HexDigit d := by
    rintro ⟨ds, r1, e, hl, hd⟩
    exact hn ⟨r1, _, hex4_of e hl hd⟩
  have hfx := fun s (h : BAt src K m s) => eatFixedHexDigits_wdn (src := src) (K := K) 4 (by decide) m s h hn4
  unfold eatRegexpUnicodeEscapeSequence
  rx7_auto
  all_goals rx7_close

theorem eatLegacyOctalEscapeSequence_wd (r r1 : List Nat) (v : Nat) (s : St) (h : BAt src K r s)
    (hD : LegacyOctalEscapeSequence r r1 v) :
    Wc (eatLegacyOctalEscapeSequence s) (fun b s1 => b = true ∧ BAt src K r1 s1 ∧ s1.lastIntValue = (v : Nat) ∧
      Keep s s1) := by
  refine (Wc.of_wp (eatLegacyOctalEscapeSequence_wb r s h) NE.eatLegacyOctalEscapeSequence).mono fun b s1 ⟨k, hb⟩ => ?_
  cases b
  · obtain ⟨x, m, rfl, hx⟩ := legacyOctal_head hD
    exact absurd hx (((if_neg Bool.false_ne_true).mp hb).2 x rfl)
  · obtain ⟨r1', v', h1, hL | ⟨rfl, rfl, hnd⟩, hv⟩ := (if_pos rfl).mp hb
    · obtain ⟨rfl, rfl⟩ := legacyOctal_unique hD hL
      exact ⟨rfl, h1, hv, k⟩
    · obtain ⟨d, hd, hdd⟩ := legacyOctal_zero hD
      exact absurd hdd (hnd d hd)

theorem eatOctalDigit_wdn (r : List Nat) (s : St) (h : BAt src K r s) (hn : ∀ d, r.head? = some d → ¬OctalDigit d) :
    Wc (eatOctalDigit s) (fun b s1 => b = false ∧ s1 = s.withInt 0) := by
  unfold eatOctalDigit
  rx7_auto
  all_goals (try exact ⟨rfl, rfl⟩)
  rename_i x r' hc _ _ _
  exact absurd ((isDigit8_iff x).mp hc) (hn x rfl)

theorem eatLegacyOctalEscapeSequence_wdn (r : List Nat) (s : St) (h : BAt src K r s)
    (hn : ∀ d, r.head? = some d → ¬OctalDigit d) :
    Wc (eatLegacyOctalEscapeSequence s) (fun b s1 => b = false ∧ s1 = s.withInt 0) := by
  unfold eatLegacyOctalEscapeSequence
  rx7_autos
  exact ⟨rfl, rfl⟩

/-- `\0` followed by a digit is not the escape `\0` -/
theorem eatZero_wdm (d : Nat) (m : List Nat) (s : St) (h : BAt src K (ch '0' :: d :: m) s) (hd : DecimalDigit d) :
    Wc (eatZero s) (fun b s1 => b = false ∧ s1 = s) := by
  have hx := isAsciiDigit_of_decimalDigit hd
  unfold eatZero
  rx7_autos
  all_goals exact ⟨rfl, rfl⟩

/-- a `LegacyOctalEscapeSequence` that begins with `0` goes on with a digit, so it is not the escape `\0` -/
theorem eatZero_legacyOctal (r r1 : List Nat) (v : Nat) (s : St) (h : BAt src K r s)
    (hl : LegacyOctalEscapeSequence r r1 v) : Wc (eatZero s) (fun b s1 => b = false ∧ s1 = s) := by
  obtain ⟨x, m, rfl, hx⟩ := legacyOctal_head hl
  by_cases h0 : x = ch '0'
  · subst h0
    obtain ⟨d, hd, hdd⟩ := legacyOctal_zero hl
    cases m with
    | nil => cases hd
    | cons d' m' => cases hd; exact eatZero_wdm d m' s h hdd
  · exact eatZero_wdn _ s h (head_ne_of_ne h0 _)

theorem eatCControlLetter_wdm (m : List Nat) (s : St) (h : BAt src K (ch 'c' :: m) s)
    (hn : ∀ l, m.head? = some l → ¬ControlLetter l) :
    Wc (eatCControlLetter s) (fun b s1 => b = false ∧ BAt src K (ch 'c' :: m) s1 ∧ Keep s s1) :=
  (eatCControlLetter_atcn BAt.like _ s h fun ⟨l, _, e, hl⟩ => hn l (by cases e; rfl) hl).mono
    fun _ _ hq => ⟨hq.1, hq.2 ▸ h, hq.2 ▸ .refl s⟩

theorem eatIdentityEscape_wd (x : Nat) (r1 : List Nat) (s : St) (h : BAt src K (x :: r1) s)
    (hc : x ≠ c 'c') (hk : K.1 = true → x ≠ c 'k') :
    Wc (eatIdentityEscape s) (fun b s1 => b = true ∧ BAt src K r1 s1 ∧ s1.lastIntValue = (x : Nat) ∧ Keep s s1) := by
  unfold eatIdentityEscape isValidIdentityEscape
  rx7_autos
  · rename_i hn
    exact absurd (by simpa using hc) hn
  · rx7_fin
  · rename_i hnf hn
    exfalso; apply hn
    have hk' := hk (h.nFlag'.symm.trans hnf)
    have e1 : (x == ch 'c') = false := by simpa using hc
    have e2 : (x == ch 'k') = false := by simpa using hk'
    rw [e1, e2]; rfl
  · rx7_fin

theorem eatIdentityEscape_wdn (r : List Nat) (s : St) (h : BAt src K r s)
    (hn : ∀ x, r.head? = some x → x = c 'c' ∨ (K.1 = true ∧ x = c 'k')) :
    Wc (eatIdentityEscape s) (fun b s1 => b = false ∧ s1 = s) := by
  unfold eatIdentityEscape isValidIdentityEscape
  rx7_autos
  all_goals (try exact ⟨rfl, rfl⟩)
  · rename_i x r' hnf hc _
    exfalso
    have hx : x ≠ ch 'c' := by simpa using hc
    rcases hn x rfl with e | ⟨e1, _⟩
    · exact hx e
    · exact hnf (h.nFlag'.trans e1)
  · rename_i x r' hnf hc _
    exfalso
    have hx : x ≠ ch 'c' ∧ x ≠ ch 'k' := by simpa using hc
    rcases hn x rfl with e | ⟨_, e⟩
    · exact hx.1 e
    · exact hx.2 e

/-- the side condition of `IdentityEscape` says of `\x` that no two hexadecimal digits follow -/
theorem eatHexEscapeSequence_free (x : Nat) (r1 : List Nat) (s : St) (h : BAt src K (x :: r1) s)
    (hn : ¬(x = c 'x' ∧ ∃ a b r', r1 = a :: b :: r' ∧ HexDigit a ∧ HexDigit b)) :
    Wc (eatHexEscapeSequence s) (fun b s1 => b = false ∧ BAt src K (x :: r1) s1 ∧ Keep s s1) := by
  by_cases hx : x = ch 'x'
  · subst hx
    exact eatHexEscapeSequence_wdm r1 s h fun hh => hn ⟨rfl, hh⟩
  · refine (eatHexEscapeSequence_wdn _ s h (head_ne_of_ne hx _)).mono ?_
    rintro _ _ ⟨rfl, rfl⟩
    exact ⟨rfl, h, Keep.refl _⟩

/-- … and of `\u` that no four hexadecimal digits follow -/
theorem eatRegexpUnicodeEscapeSequence_free (n x : Nat) (r1 : List Nat) (s : St) (h : BAt src K (x :: r1) s)
    (hn : ¬(x = c 'u' ∧ ∃ r' v, Hex4Digits r1 r' v)) :
    Wc (eatRegexpUnicodeEscapeSequence n false s) (fun b s1 => b = false ∧ BAt src K (x :: r1) s1 ∧ Keep s s1) := by
  by_cases hx : x = ch 'u'
  · subst hx
    exact eatRegexpUnicodeEscapeSequence_notHex n r1 s h fun hh => hn ⟨rfl, hh⟩
  · refine (eatRegexpUnicodeEscapeSequence_wdn n false _ s h (head_ne_of_ne hx _)).mono ?_
    rintro _ _ ⟨rfl, rfl⟩
    exact ⟨rfl, h, Keep.refl _⟩

theorem octal_side {x : Nat} (hx : OctalDigit x) :
    ctlVal x = none ∧ x ≠ ch 'c' ∧ x ≠ ch 'x' ∧ x ≠ ch 'u' := by
  have h' : 0x30 ≤ x ∧ x ≤ 0x37 := hx
  have e : ∀ y : Nat, 0x38 ≤ y → x ≠ y := fun y hy => by omega
  exact ⟨ctlVal_none (e _ (by decide)) (e _ (by decide)) (e _ (by decide)) (e _ (by decide)) (e _ (by decide)),
    e _ (by decide), e _ (by decide), e _ (by decide)⟩

theorem Wc.legacyGuard {m : M Bool} {r : List Nat} {s : St} {Q : Bool → St → Prop} (h : BAt src K r s)
    (hm : Wc (m s) Q) :
    Wc (((do Pure.pure (!(← getSt).strict)) <and> (do Pure.pure (!(← getSt).uFlag)) <and> m) s) Q := by
  rw [legacyGuard_eq h]
  exact hm

/-- For each production: the alternatives before its own fail without moving (`Wc.orM_skip`), its own succeeds
(`Wc.orM_hit`). Only before an `IdentityEscape` can `\x` and `\u` have been tried and rewound. -/
theorem consumeCharacterEscape_wd (n : Nat) (r r1 : List Nat) (v : Nat) (s : St) (h : BAt src K r s)
    (hD : RxSpecB.CharacterEscape K.1 r r1 v) :
    Wc (consumeCharacterEscape n s) (fun b s1 => b = true ∧ BAt src K r1 s1 ∧ s1.lastIntValue = (v : Nat) ∧ Keep s s1) := by
  unfold consumeCharacterEscape
  cases hD with
  | f | n | r | t | v => exact .orM_hit (eatControlEscape_wd _ _ _ s h rfl)
  | controlLetter l _ hl =>
    exact .orM_skip (eatControlEscape_wdn _ s h rfl) <| .orM_hit (eatCControlLetter_wd l r1 s h hl)
  | zero _ hnd =>
    exact .orM_skip (eatControlEscape_wdn _ s h rfl) <|
      .orM_skip (eatCControlLetter_wdn _ s h (head_ne_of_ne (by decide) _)) <| .orM_hit (eatZero_wd r1 s h hnd)
  | hex a b _ ha hb =>
    exact .orM_skip (eatControlEscape_wdn _ s h rfl) <|
      .orM_skip (eatCControlLetter_wdn _ s h (head_ne_of_ne (by decide) _)) <|
      .orM_skip (eatZero_wdn _ s h (head_ne_of_ne (by decide) _)) <| .orM_hit (eatHexEscapeSequence_wd a b r1 s h ha hb)
  | unicode m _ _ h4 =>
    exact .orM_skip (eatControlEscape_wdn _ s h rfl) <|
      .orM_skip (eatCControlLetter_wdn _ s h (head_ne_of_ne (by decide) _)) <|
      .orM_skip (eatZero_wdn _ s h (head_ne_of_ne (by decide) _)) <|
      .orM_skip (eatHexEscapeSequence_wdn _ s h (head_ne_of_ne (by decide) _)) <|
      .orM_hit (eatRegexpUnicodeEscapeSequence_wdm n m r1 v s h h4)
  | legacyOctal _ _ _ hl =>
    obtain ⟨x, m, rfl, hx⟩ := legacyOctal_head hl
    obtain ⟨g1, g2, g3, g4⟩ := octal_side hx
    exact .orM_skip (eatControlEscape_wdn _ s h g1) <|
      .orM_skip (eatCControlLetter_wdn _ s h (head_ne_of_ne g2 _)) <|
      .orM_skip (eatZero_legacyOctal _ r1 v s h hl) <|
      .orM_skip (eatHexEscapeSequence_wdn _ s h (head_ne_of_ne g3 _)) <|
      .orM_skip (eatRegexpUnicodeEscapeSequence_wdn n false _ s h (head_ne_of_ne g4 _)) <|
      .orM_hit (.legacyGuard h (eatLegacyOctalEscapeSequence_wd _ r1 v s h hl))
  | identity _ _ _ hc hk hfree =>
    obtain ⟨h1, h2, h3, h4⟩ := hfree
    simp only [List.mem_cons, List.not_mem_nil, or_false, not_or] at h1
    have hhex := fun s h => eatHexEscapeSequence_free (src := src) (K := K) v r1 s h h3
    have huni := fun s h => eatRegexpUnicodeEscapeSequence_free (src := src) (K := K) n v r1 s h h4
    have hoct : ∀ d, (v :: r1).head? = some d → ¬OctalDigit d := fun d hd => by cases hd; exact h2
    refine .orM_skip (eatControlEscape_wdn _ s h (ctlVal_none h1.1 h1.2.1 h1.2.2.1 h1.2.2.2.1 h1.2.2.2.2)) <|
      .orM_skip (eatCControlLetter_wdn _ s h (head_ne_of_ne hc _)) <|
      .orM_skip (eatZero_wdn _ s h (head_ne_of_ne (fun e : v = ch '0' => h2 (e ▸ octal_zero)) _)) ?_
    rx7_autos
    rx7_fin

/-- the text is neither an octal digit nor a valid identity escape: the last two alternatives fail -/
theorem consumeCharacterEscape_tail (x : Nat) (m : List Nat) (s : St) (h : BAt src K (x :: m) s) (ho : ¬OctalDigit x)
    (hx : x = c 'c' ∨ (K.1 = true ∧ x = c 'k')) :
    Wc ((((do Pure.pure (!(← getSt).strict)) <and> (do Pure.pure (!(← getSt).uFlag)) <and> eatLegacyOctalEscapeSequence)
      <or> eatIdentityEscape) s) (fun b s1 => b = false ∧ BAt src K (x :: m) s1 ∧ Keep s s1) := by
  have hoct : ∀ d, (x :: m).head? = some d → ¬OctalDigit d := fun d hd => by cases hd; exact ho
  have hid := fun s (h : BAt src K (x :: m) s) => eatIdentityEscape_wdn (src := src) (K := K) _ s h
    (fun y hy => by cases hy; exact hx)
  rx7_autos
  rx7_fin

/-- `\c` not followed by a letter is no `CharacterEscape` -/
theorem consumeCharacterEscape_wdn (n : Nat) (m : List Nat) (s : St) (h : BAt src K (ch 'c' :: m) s)
    (hn : ∀ l, m.head? = some l → ¬ControlLetter l) :
    Wc (consumeCharacterEscape n s) (fun b s1 => b = false ∧ BAt src K (ch 'c' :: m) s1 ∧ Keep s s1) := by
  refine .orM_skip (eatControlEscape_wdn _ s h rfl) <| .orM_next (eatCControlLetter_wdm m s h hn) fun s1 ⟨h1, k1⟩ => ?_
  exact .orM_skip (eatZero_wdn _ s1 h1 (head_ne_of_ne (by decide) _)) <|
    .orM_skip (eatHexEscapeSequence_wdn _ s1 h1 (head_ne_of_ne (by decide) _)) <|
    .orM_skip (eatRegexpUnicodeEscapeSequence_wdn n false _ s1 h1 (head_ne_of_ne (by decide) _)) <|
    (consumeCharacterEscape_tail _ m s1 h1 (fun ho => absurd ho.2 (by decide)) (.inl rfl)).mono fun _ _ hq => ⟨hq.1, hq.2.1, k1.trans hq.2.2⟩

/-- with named groups `\k` is no `CharacterEscape` -/
theorem consumeCharacterEscape_wdm (n : Nat) (m : List Nat) (s : St) (h : BAt src K (ch 'k' :: m) s)
    (hnf : K.1 = true) :
    Wc (consumeCharacterEscape n s) (fun b s1 => b = false ∧ BAt src K (ch 'k' :: m) s1 ∧ Keep s s1) :=
  .orM_skip (eatControlEscape_wdn _ s h rfl) <|
    .orM_skip (eatCControlLetter_wdn _ s h (head_ne_of_ne (by decide) _)) <|
    .orM_skip (eatZero_wdn _ s h (head_ne_of_ne (by decide) _)) <|
    .orM_skip (eatHexEscapeSequence_wdn _ s h (head_ne_of_ne (by decide) _)) <|
    .orM_skip (eatRegexpUnicodeEscapeSequence_wdn n false _ s h (head_ne_of_ne (by decide) _)) <|
    consumeCharacterEscape_tail _ m s h (fun ho => absurd ho.2 (by decide)) (.inr ⟨hnf, rfl⟩)

end DL.Rx
