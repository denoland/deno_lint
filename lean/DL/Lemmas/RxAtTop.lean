import DL.Lemmas.RxAtQuant
import DL.Lemmas.RxSpecTop

/-! # `count_capturing_parens`, for any `AtLike` predicate -/
namespace DL.Rx
open DL.RxSpec

variable {src : List Nat} {P : List Nat → St → Prop}

theorem countCapturingParensLoop_at (hP : AtLike src P) :
    ∀ (n : Nat) (ic esc : Bool) (k : Nat) (r : List Nat) (s : St), P r s →
    Wp (countCapturingParensLoop n ic esc k s) (fun v s1 => v = scan r ic esc k ∧ ∃ r1, P r1 s1 ∧ KeepN s s1 ∧
      s1.lastIntValue = s.lastIntValue ∧ s1.numCapturingParens = s.numCapturingParens)
  | 0, _, _, _, _, _, _ => Wp.outOfFuel
  | n + 1, ic, esc, k, r, s, h => by
    unfold countCapturingParensLoop
    refine hP.bind_cpo0 h (fun hr => ?_) (fun x r' hr => ?_) <;> subst hr
    · exact Wp.pure ⟨by cases ic <;> cases esc <;> rfl, [], h, .refl s, rfl, rfl⟩
    -- one unit is consumed, and the loop goes on as `scan` does
    have step : ∀ ic' esc' k', scan (x :: r') ic esc k = scan r' ic' esc' k' →
        Wp ((advance >>= fun _ => countCapturingParensLoop n ic' esc' k') s) (fun v s1 =>
          v = scan (x :: r') ic esc k ∧ ∃ r1, P r1 s1 ∧ KeepN s s1 ∧
          s1.lastIntValue = s.lastIntValue ∧ s1.numCapturingParens = s.numCapturingParens) :=
      fun ic' esc' k' e => hP.bind_advance_cons h fun h1 =>
        (countCapturingParensLoop_at hP n ic' esc' k' r' _ h1).mono fun v s1 ⟨hv, r1, h2, kk, hi, hn⟩ =>
          ⟨hv.trans e.symm, r1, h2, ⟨kk.gn, kk.bn⟩, hi, hn⟩
    refine Wp.ite (fun he => step ic false k (by simp [scan, he])) fun he => ?_
    refine Wp.ite (fun h1 => step ic true k (by simp [scan, he, h1])) fun h1 => ?_
    refine Wp.ite (fun h2 => step true esc k (by simp [scan, he, h1, h2])) fun h2 => ?_
    refine Wp.ite (fun h3 => step false esc k (by simp [scan, he, h1, h2, h3])) fun h3 => ?_
    refine hP.bind_cpo h (by decide) (hP.bind_cpo h (by decide) (hP.bind_cpo h (by decide) ?_))
    refine Wp.ite (fun h4 => step ic esc (k + 1) ?_) fun h4 => step ic esc k ?_
    · rw [scan, if_neg he, if_neg h1, if_neg h2, if_neg h3]; exact if_pos h4
    · rw [scan, if_neg he, if_neg h1, if_neg h2, if_neg h3]; exact if_neg h4

theorem countCapturingParens_at (hP : AtLike src P) (n : Nat) (r : List Nat) (s : St) (h : P r s) :
    Wp (countCapturingParens n s) (fun v s1 => v = scan r false false 0 ∧ P r s1 ∧ KeepN s s1) := by
  unfold countCapturingParens
  refine Wp.bind_index (Wp.call (countCapturingParensLoop_at hP n false false 0 r s h) ?_)
  rintro v s1 ⟨hv, r1, h1, k, -, -⟩
  exact hP.bind_rewind h1 h fun h2 => Wp.pure ⟨hv, h2, ⟨k.gn, k.bn⟩⟩

end DL.Rx
