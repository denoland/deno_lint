import DL.Model.Sched2

/-!
# `BTreeMap::insert` on a sorted association list

`mapInsert` (results) and `errInsert` (failures) are the same function at two value types; what the schedule proofs
need of them is proved here once, for `insertKV`.
-/
namespace DL.Sched

def insertKV {β : Type} (k : String) (v : β) : List (String × β) → List (String × β)
  | [] => [(k, v)]
  | (k', v') :: r =>
    if k < k' then (k, v) :: (k', v') :: r
    else if k = k' then (k, v) :: r
    else (k', v') :: insertKV k v r

theorem mapInsert_eq (k : String) (v : FileResult) : ∀ m, mapInsert k v m = insertKV k v m
  | [] => rfl
  | (k', v') :: r => by rw [mapInsert, insertKV, mapInsert_eq k v r]

theorem errInsert_eq (k v : String) : ∀ m, errInsert k v m = insertKV k v m
  | [] => rfl
  | (k', v') :: r => by rw [errInsert, insertKV, errInsert_eq k v r]

/-- sorted by key, keys distinct -/
def SortedK {β : Type} (m : List (String × β)) : Prop := m.Pairwise (fun a b => a.1 < b.1)

variable {β : Type} (k : String) (v : β)

theorem mem_insertKV : ∀ (m : List (String × β)) (x : String × β), x ∈ insertKV k v m → x = (k, v) ∨ x ∈ m
  | [], x, h => Or.inl (List.mem_singleton.mp h)
  | (k', v') :: r, x, h => by
    rw [insertKV] at h
    split at h
    · exact List.mem_cons.mp h
    · split at h
      · exact (List.mem_cons.mp h).imp_right (List.mem_cons_of_mem _)
      · rcases List.mem_cons.mp h with h | h
        · exact Or.inr (h ▸ List.mem_cons_self)
        · exact (mem_insertKV r x h).imp_right (List.mem_cons_of_mem _)

theorem insertKV_sorted : ∀ (m : List (String × β)), SortedK m → SortedK (insertKV k v m)
  | [], _ => List.pairwise_singleton _ _
  | (k', v') :: r, h => by
    have h' := List.pairwise_cons.mp h
    rw [insertKV]
    split
    · next hlt =>
      refine List.pairwise_cons.mpr ⟨fun x hx => ?_, h⟩
      rcases List.mem_cons.mp hx with rfl | hx
      · exact hlt
      · exact String.lt_trans hlt (h'.1 x hx)
    · split
      · next heq => subst heq; exact List.pairwise_cons.mpr h'
      · next hnlt hne =>
        -- neither `k < k'` nor `k = k'`
        have hgt : k' < k := String.not_le.mp fun h2 => hne (String.le_antisymm h2 (String.not_lt.mp hnlt))
        refine List.pairwise_cons.mpr ⟨fun x hx => ?_, insertKV_sorted r h'.2⟩
        rcases mem_insertKV k v r x hx with rfl | hx
        · exact hgt
        · exact h'.1 x hx

theorem insertKV_perm : ∀ (m : List (String × β)), (∀ x ∈ m, x.1 ≠ k) → (insertKV k v m).Perm ((k, v) :: m)
  | [], _ => List.Perm.refl _
  | (k', v') :: r, h => by
    rw [insertKV]
    split
    · exact List.Perm.refl _
    · split
      · next heq => exact absurd heq.symm (h (k', v') List.mem_cons_self)
      · exact ((insertKV_perm r fun x hx => h x (List.mem_cons_of_mem _ hx)).cons _).trans (List.Perm.swap _ _ _)

theorem insertKV_ne_nil : ∀ (m : List (String × β)), insertKV k v m ≠ []
  | [] => List.cons_ne_nil _ _
  | (k', v') :: r => by
    rw [insertKV]
    split
    · exact List.cons_ne_nil _ _
    · split <;> exact List.cons_ne_nil _ _

/-- the fold of `insert` over a list of entries, from a given map -/
def insertAll {β : Type} (l m : List (String × β)) : List (String × β) := l.foldl (fun m kv => insertKV kv.1 kv.2 m) m

theorem insertAll_ne_nil : ∀ (l m : List (String × β)), m ≠ [] → insertAll l m ≠ []
  | [], _, h => h
  | _ :: l, _, _ => insertAll_ne_nil l _ (insertKV_ne_nil _ _ _)

/-- entries with fresh, pairwise distinct keys, inserted in any order: the map stays sorted and holds exactly them -/
theorem insertAll_facts : ∀ (l m : List (String × β)), SortedK m →
    (∀ f ∈ l, ∀ x ∈ m, x.1 ≠ f.1) → (l.map (·.1)).Nodup →
    SortedK (insertAll l m) ∧ (insertAll l m).Perm (l ++ m)
  | [], m, hs, _, _ => ⟨hs, List.Perm.refl _⟩
  | f :: r, m, hs, hfresh, hnd => by
    simp only [List.map_cons, List.nodup_cons, List.mem_map, not_exists, not_and] at hnd
    have hp := insertKV_perm f.1 f.2 m (hfresh f List.mem_cons_self)
    have ih := insertAll_facts r (insertKV f.1 f.2 m) (insertKV_sorted _ _ _ hs)
      (fun g hg x hx => by
        rcases mem_insertKV _ _ _ _ hx with rfl | hx
        · exact fun e => hnd.1 g hg e.symm
        · exact hfresh g (List.mem_cons_of_mem _ hg) x hx)
      hnd.2
    exact ⟨ih.1, ih.2.trans ((List.Perm.append_left _ hp).trans List.perm_middle)⟩

/-- a sorted map is determined by its entries -/
theorem SortedK.eq_of_perm {m1 m2 : List (String × β)} (h1 : SortedK m1) (h2 : SortedK m2) (hp : m1.Perm m2) :
    m1 = m2 := by
  unfold SortedK at h1 h2
  refine List.Perm.eq_of_pairwise (le := fun a b => a.1 < b.1) ?_ h1 h2 hp
  intro a b _ _ hab hba
  exact absurd hba (String.lt_asymm hab)

end DL.Sched
