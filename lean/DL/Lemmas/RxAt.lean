import DL.Lemmas.RxSpecBase

/-!
# The reader without the mode

`RAt src r s`: the reader of `s` reads `src` and `r` is what remains — all that the reader operations depend on.  Under
it each of them is an equation (`RAt.cpo`, `RAt.advance_cons`, `RAt.rewind`, `RAt.eat_cons`, …).

The symbolic states of the grammar passes (`UAt` with the `u` flag, `BAt` without) are `RAt` together with a condition
on the four mode fields, which no reader operation and no register assignment touches: `AtLike`.  The reader rules of
the `Wp` calculus are proved once for any such predicate; a function that never reads the mode gets one specification,
generic in the predicate.
-/
namespace DL.Rx

/-- the reader of `s` reads `src`, and `r` is the input that remains -/
def RAt (src r : List Nat) (s : St) : Prop := RInv src s.reader ∧ src.drop s.reader.index = r

/-- the mode fields agree -/
def SameMode (s s' : St) : Prop :=
  s'.uFlag = s.uFlag ∧ s'.strict = s.strict ∧ s'.nFlag = s.nFlag ∧ s'.numCapturingParens = s.numCapturingParens

theorem SameMode.refl (s : St) : SameMode s s := ⟨rfl, rfl, rfl, rfl⟩
theorem SameMode.trans {a b c : St} (h1 : SameMode a b) (h2 : SameMode b c) : SameMode a c :=
  ⟨h2.1.trans h1.1, h2.2.1.trans h1.2.1, h2.2.2.1.trans h1.2.2.1, h2.2.2.2.trans h1.2.2.2⟩

variable {src r : List Nat} {s : St} {α β : Type}

namespace RAt

theorem inv (h : RAt src r s) : RInv src s.reader := h.1
theorem rest (h : RAt src r s) : src.drop s.reader.index = r := h.2

theorem cps (h : RAt src r s) : s.reader.cps = r.take 4 := by rw [h.inv.cps_eq, h.rest]

theorem lt {x : Nat} (h : RAt src (x :: r) s) : s.reader.index < src.length := by
  have h2 : (src.drop s.reader.index).length = src.length - s.reader.index := List.length_drop ..
  rw [h.rest] at h2; simp only [List.length_cons] at h2; omega

theorem eq_end (h : RAt src [] s) : s.reader.index = src.length := by
  have h2 : (src.drop s.reader.index).length = src.length - s.reader.index := List.length_drop ..
  rw [h.rest] at h2; simp only [List.length_nil] at h2
  have := h.inv.le; omega

/-- after consuming one unit -/
theorem step {x : Nat} (h : RAt src (x :: r) s) : RAt src r (s.setPos src (s.reader.index + 1)) := by
  refine ⟨RInv.setPos h.inv.toRStatic h.lt, ?_⟩
  show src.drop (s.reader.index + 1) = r
  rw [← List.tail_drop, h.rest]; rfl

/-- after `rewind` -/
theorem back {i : Nat} (h : RAt src r s) (hle : i ≤ src.length) : RAt src (src.drop i) (s.setPos src i) :=
  ⟨RInv.setPos h.inv.toRStatic hle, rfl⟩

/-- an assignment to a register -/
theorem reg {s' : St} (h : RAt src r s) (e : s'.reader = s.reader) : RAt src r s' := by
  unfold RAt at *; rw [e]; exact h

theorem cpo {k : Nat} (h : RAt src r s) (hk : k < 4) : codePointWithOffset k s = .ok r[k]? s := by
  show Res.ok (s.reader.cps[k]?) s = _
  rw [h.cps, List.getElem?_take, if_pos hk]

theorem advance_cons {x : Nat} (h : RAt src (x :: r) s) : advance s = .ok () (s.setPos src (s.reader.index + 1)) :=
  advance_eq h.inv h.lt

theorem advance_nil (h : RAt src [] s) : advance s = .ok () s := advance_end h.inv h.eq_end

theorem rewind (h : RAt src r s) (i : Nat) : rewind i s = .ok () (s.setPos src i) := rewind_eq h.inv.toRStatic i

end RAt

/-- `m >>= g` where `m` is known to return -/
theorem bind_ok {m : M α} {g : α → M β} {a : α} {s s' : St} (h : m s = .ok a s') : (m >>= g) s = g a s' := by
  show M.bind m g s = _
  unfold M.bind; rw [h]

namespace RAt

theorem eat_cons {x : Char} (h : RAt src (ch x :: r) s) : eat x s = .ok true (s.setPos src (s.reader.index + 1)) := by
  show (match s.reader.cps with
    | c :: _ => if (c == ch x) = true then (advance >>= fun _ => (Pure.pure true : M Bool)) else Pure.pure false
    | [] => Pure.pure false) s = _
  rw [h.cps]
  show (if (ch x == ch x) = true then (advance >>= fun _ => (Pure.pure true : M Bool)) else Pure.pure false) s = _
  rw [if_pos (by simp), bind_ok h.advance_cons]; rfl

theorem eat_ne {x : Char} (h : RAt src r s) (hne : r.head? ≠ some (ch x)) : eat x s = .ok false s := by
  show (match s.reader.cps with
    | c :: _ => if (c == ch x) = true then (advance >>= fun _ => (Pure.pure true : M Bool)) else Pure.pure false
    | [] => Pure.pure false) s = _
  rw [h.cps]
  cases r with
  | nil => rfl
  | cons y r' =>
    show (if (y == ch x) = true then _ else (Pure.pure false : M Bool)) s = _
    rw [if_neg]; · rfl
    intro hy; apply hne
    have : y = ch x := by simpa using hy
    rw [this]; rfl

theorem eat2_cons {x y : Char} (h : RAt src (ch x :: ch y :: r) s) :
    eat2 x y s = .ok true (s.setPos src (s.reader.index + 2)) := by
  show (match s.reader.cps with
    | c1 :: c2 :: _ => if (c1 == ch x && c2 == ch y) = true then
        (advance >>= fun _ => advance >>= fun _ => (Pure.pure true : M Bool)) else Pure.pure false
    | _ => Pure.pure false) s = _
  rw [h.cps]
  show (if (ch x == ch x && ch y == ch y) = true then
    (advance >>= fun _ => advance >>= fun _ => (Pure.pure true : M Bool)) else Pure.pure false) s = _
  rw [if_pos (by simp), bind_ok h.advance_cons, bind_ok h.step.advance_cons]; rfl

theorem eat2_ne {x y : Char} (h : RAt src r s) (hne : ¬∃ r', r = ch x :: ch y :: r') : eat2 x y s = .ok false s := by
  show (match s.reader.cps with
    | c1 :: c2 :: _ => if (c1 == ch x && c2 == ch y) = true then
        (advance >>= fun _ => advance >>= fun _ => (Pure.pure true : M Bool)) else Pure.pure false
    | _ => Pure.pure false) s = _
  rw [h.cps]
  rcases r with _ | ⟨a, _ | ⟨b, t⟩⟩
  · rfl
  · rfl
  · show (if (a == ch x && b == ch y) = true then _ else (Pure.pure false : M Bool)) s = _
    rw [if_neg]; · rfl
    intro hc
    simp only [Bool.and_eq_true, beq_iff_eq] at hc
    exact hne ⟨t, by rw [hc.1, hc.2]⟩

theorem eat3_cons {x y z : Char} (h : RAt src (ch x :: ch y :: ch z :: r) s) :
    eat3 x y z s = .ok true (s.setPos src (s.reader.index + 3)) := by
  show (match s.reader.cps with
    | c1 :: c2 :: c3 :: _ => if (c1 == ch x && c2 == ch y && c3 == ch z) = true then
        (advance >>= fun _ => advance >>= fun _ => advance >>= fun _ => (Pure.pure true : M Bool)) else Pure.pure false
    | _ => Pure.pure false) s = _
  rw [h.cps]
  show (if (ch x == ch x && ch y == ch y && ch z == ch z) = true then
    (advance >>= fun _ => advance >>= fun _ => advance >>= fun _ => (Pure.pure true : M Bool))
    else Pure.pure false) s = _
  rw [if_pos (by simp), bind_ok h.advance_cons, bind_ok h.step.advance_cons, bind_ok h.step.step.advance_cons]; rfl

theorem eat3_ne {x y z : Char} (h : RAt src r s) (hne : ¬∃ r', r = ch x :: ch y :: ch z :: r') :
    eat3 x y z s = .ok false s := by
  show (match s.reader.cps with
    | c1 :: c2 :: c3 :: _ => if (c1 == ch x && c2 == ch y && c3 == ch z) = true then
        (advance >>= fun _ => advance >>= fun _ => advance >>= fun _ => (Pure.pure true : M Bool)) else Pure.pure false
    | _ => Pure.pure false) s = _
  rw [h.cps]
  rcases r with _ | ⟨a, _ | ⟨b, _ | ⟨c', t⟩⟩⟩
  · rfl
  · rfl
  · rfl
  · show (if (a == ch x && b == ch y && c' == ch z) = true then _ else (Pure.pure false : M Bool)) s = _
    rw [if_neg]; · rfl
    intro hc
    simp only [Bool.and_eq_true, beq_iff_eq] at hc
    exact hne ⟨t, by rw [hc.1.1, hc.1.2, hc.2]⟩

end RAt

/-- a symbolic state: `RAt` and a condition on the mode fields only -/
structure AtLike (src : List Nat) (P : List Nat → St → Prop) : Prop where
  rat : ∀ {r s}, P r s → RAt src r s
  move : ∀ {r s r' s'}, P r s → RAt src r' s' → SameMode s s' → P r' s'

namespace AtLike
variable {P : List Nat → St → Prop} (hP : AtLike src P)
include hP

theorem step {x : Nat} (h : P (x :: r) s) : P r (s.setPos src (s.reader.index + 1)) :=
  hP.move h (hP.rat h).step (.refl s)

theorem back {i : Nat} (h : P r s) (hle : i ≤ src.length) : P (src.drop i) (s.setPos src i) :=
  hP.move h ((hP.rat h).back hle) (.refl s)

/-- an assignment to a register -/
theorem reg {s' : St} (h : P r s) (e : s'.reader = s.reader) (hm : SameMode s s') : P r s' :=
  hP.move h ((hP.rat h).reg e) hm

theorem withInt (h : P r s) (v : Int) : P r (s.withInt v) := hP.reg h rfl ⟨rfl, rfl, rfl, rfl⟩

theorem mem_src (h : P r s) {x : Nat} (hx : x ∈ r) : x ∈ src := by
  rw [← (hP.rat h).rest] at hx
  exact List.mem_of_mem_drop hx

/-- the position of an earlier state -/
theorem back_to {r0 : List Nat} {s0 : St} (h : P r s) (h0 : P r0 s0) : P r0 (s.setPos src s0.reader.index) :=
  hP.move h ((hP.rat h0).rest ▸ (hP.rat h).back (hP.rat h0).inv.le) (.refl s)

end AtLike

/-! ### the reader rules, for any `AtLike` predicate and any judgement `J (m s) Q` on results (`Wp`, `Wc`):
under `RAt` the operation at the head of `(m >>= g) s` is an equation, so the rules hold by rewriting -/

namespace AtLike
variable {P : List Nat → St → Prop} (hP : AtLike src P) {J : {α : Type} → Res α → (α → St → Prop) → Prop}
  {Q : β → St → Prop}
include hP

/-- look-ahead at offset 0, with the case distinction on the remaining input -/
theorem bind_cpo0 {g : Option Nat → M β} (h : P r s) (hnil : r = [] → J (g none s) Q)
    (hcons : ∀ x r', r = x :: r' → J (g (some x) s) Q) : J ((codePointWithOffset 0 >>= g) s) Q := by
  rw [bind_ok ((hP.rat h).cpo (by decide))]
  cases r with
  | nil => exact hnil rfl
  | cons x r' => exact hcons x r' rfl

theorem bind_cpo {k : Nat} {g : Option Nat → M β} (h : P r s) (hk : k < 4) (hg : J (g r[k]? s) Q) :
    J ((codePointWithOffset k >>= g) s) Q := by
  rw [bind_ok ((hP.rat h).cpo hk)]; exact hg

theorem bind_advance_cons {x : Nat} {g : Unit → M β} (h : P (x :: r) s)
    (hg : P r (s.setPos src (s.reader.index + 1)) → J (g () (s.setPos src (s.reader.index + 1))) Q) :
    J ((advance >>= g) s) Q := by
  rw [bind_ok (hP.rat h).advance_cons]; exact hg (hP.step h)

theorem bind_advance_nil {g : Unit → M β} (h : P [] s) (hg : J (g () s) Q) : J ((advance >>= g) s) Q := by
  rw [bind_ok (hP.rat h).advance_nil]; exact hg

theorem bind_rewind {r0 : List Nat} {s0 : St} {g : Unit → M β} (h : P r s) (h0 : P r0 s0)
    (hg : P r0 (s.setPos src s0.reader.index) → J (g () (s.setPos src s0.reader.index)) Q) :
    J ((rewind s0.reader.index >>= g) s) Q := by
  rw [bind_ok ((hP.rat h).rewind _)]; exact hg (hP.back_to h h0)

theorem bind_rewind' {i : Nat} {g : Unit → M β} (h : P r s) (hle : i ≤ src.length)
    (hg : P (src.drop i) (s.setPos src i) → J (g () (s.setPos src i)) Q) : J ((rewind i >>= g) s) Q := by
  rw [bind_ok ((hP.rat h).rewind _)]; exact hg (hP.back h hle)

theorem bind_eat_ne {x : Char} {g : Bool → M β} (h : P r s) (hne : r.head? ≠ some (ch x)) (hf : J (g false s) Q) :
    J ((eat x >>= g) s) Q := by
  rw [bind_ok ((hP.rat h).eat_ne hne)]; exact hf

/-- `eat`: either the next unit is `x` and it is consumed, or nothing happens -/
theorem bind_eat {x : Char} {g : Bool → M β} (h : P r s)
    (ht : ∀ r', r = ch x :: r' → P r' (s.setPos src (s.reader.index + 1)) →
      J (g true (s.setPos src (s.reader.index + 1))) Q)
    (hf : r.head? ≠ some (ch x) → J (g false s) Q) : J ((eat x >>= g) s) Q := by
  by_cases hx : r.head? = some (ch x)
  · cases r with
    | nil => cases hx
    | cons y r' =>
      have : y = ch x := by simpa using hx
      subst this
      rw [bind_ok (hP.rat h).eat_cons]; exact ht r' rfl (hP.step h)
  · exact hP.bind_eat_ne h hx (hf hx)

theorem bind_eat2_ne {x y : Char} {g : Bool → M β} (h : P r s) (hne : ¬∃ r', r = ch x :: ch y :: r')
    (hf : J (g false s) Q) : J ((eat2 x y >>= g) s) Q := by
  rw [bind_ok ((hP.rat h).eat2_ne hne)]; exact hf

theorem bind_eat2 {x y : Char} {g : Bool → M β} (h : P r s)
    (ht : ∀ r', r = ch x :: ch y :: r' → P r' (s.setPos src (s.reader.index + 2)) →
      J (g true (s.setPos src (s.reader.index + 2))) Q)
    (hf : (¬∃ r', r = ch x :: ch y :: r') → J (g false s) Q) : J ((eat2 x y >>= g) s) Q := by
  by_cases hx : ∃ r', r = ch x :: ch y :: r'
  · obtain ⟨r', rfl⟩ := hx
    rw [bind_ok (hP.rat h).eat2_cons]; exact ht r' rfl (hP.step (hP.step h))
  · exact hP.bind_eat2_ne h hx (hf hx)

theorem bind_eat3_ne {x y z : Char} {g : Bool → M β} (h : P r s) (hne : ¬∃ r', r = ch x :: ch y :: ch z :: r')
    (hf : J (g false s) Q) : J ((eat3 x y z >>= g) s) Q := by
  rw [bind_ok ((hP.rat h).eat3_ne hne)]; exact hf

theorem bind_eat3 {x y z : Char} {g : Bool → M β} (h : P r s)
    (ht : ∀ r', r = ch x :: ch y :: ch z :: r' → P r' (s.setPos src (s.reader.index + 3)) →
      J (g true (s.setPos src (s.reader.index + 3))) Q)
    (hf : (¬∃ r', r = ch x :: ch y :: ch z :: r') → J (g false s) Q) : J ((eat3 x y z >>= g) s) Q := by
  by_cases hx : ∃ r', r = ch x :: ch y :: ch z :: r'
  · obtain ⟨r', rfl⟩ := hx
    rw [bind_ok (hP.rat h).eat3_cons]; exact ht r' rfl (hP.step (hP.step (hP.step h)))
  · exact hP.bind_eat3_ne h hx (hf hx)

end AtLike

end DL.Rx
