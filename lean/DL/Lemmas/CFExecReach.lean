import DL.Lemmas.CFExecCompl

/-! The closed-form reachability (`Stmt.reach` and its companions, `itemsReach`) is exactly `Reaches` of the inductive
semantics, unconditionally: soundness by induction on derivations, completeness by induction on the syntax (with the
exactness of the completions for what can come before a program point). -/
namespace DL.CF

mutual
theorem Reaches.sound : ∀ {s : Stmt} {p : Nat}, Reaches s p → s.reach p = true
  | _, _, .self s => s.reach_self
  | _, _, .simple_kids h => by simp [Stmt.reach, h.sound]
  | _, _, .block h => by simp [Stmt.reach, h.sound]
  | .ifS _ _ _ alt, _, .if_test h => by cases alt <;> simp [Stmt.reach, h.sound]
  | .ifS _ _ _ alt, _, .if_then ht h => by cases alt <;> simp [Stmt.reach, ht.n, h.sound]
  | _, _, .if_else ht h => by simp [Stmt.reach, ht.n, h.sound]
  | _, _, .while_test h => by simp [Stmt.reach, h.sound]
  | _, _, .while_body ht h => by simp [Stmt.reach, ht.n, h.sound]
  | _, _, .do_body h => by simp [Stmt.reach, h.sound]
  | _, _, .do_test (o := o) hb hg h => by
    simp [Stmt.reach, (goesRoundAny_iff _).mpr ⟨o, hb.sound, hg⟩, h.sound]
  | _, _, .for_init h => by simp [Stmt.reach, h.sound]
  | _, _, .for_test hi h => by simp [Stmt.reach, hi.n, h.sound]
  | _, _, .for_body hi ht h => by simp [Stmt.reach, hi.n, ht.n, h.sound]
  | _, _, .for_update (o := o) hi ht hb hg h => by
    simp [Stmt.reach, hi.n, ht.n, (goesRoundAny_iff _).mpr ⟨o, hb.sound, hg⟩, h.sound]
  | _, _, .forIn_right h => by simp [Stmt.reach, h.sound]
  | _, _, .forIn_left hr h => by simp [Stmt.reach, hr.n, h.sound]
  | _, _, .forIn_body hr hl h => by simp [Stmt.reach, hr.n, hl.n, h.sound]
  | _, _, .switch_disc h => by simp [Stmt.reach, h.sound]
  | _, _, .switch hd h => by simp [Stmt.reach, hd.n, h.sound]
  | _, _, .try_block h => by simp [Stmt.reach, h.sound]
  | _, _, .try_handler hb h => by
    simp [Stmt.reach, show (Stmts.compl _).t = true from hb.sound, h.sound]
  | _, _, .try_finalizer (o := o) hb h => by
    simp [Stmt.reach, (Compl.any_iff _).mpr ⟨o, hb.sound⟩, h.sound]
  | _, _, .labeled h => by simp [Stmt.reach, h.sound]
  | _, _, .ret_arg h => by simp [Stmt.reach, h.sound]
  | _, _, .throw_arg h => by simp [Stmt.reach, h.sound]
theorem ReachesList.sound : ∀ {l : Stmts} {p : Nat}, ReachesList l p → l.reach p = true
  | _, _, .head h => by simp [Stmts.reach, h.sound]
  | _, _, .tail hs h => by simp [Stmts.reach, show (Stmt.compl [] _).n = true from hs.sound, h.sound]
theorem ReachesCases.sound : ∀ {cs : Cases} {p : Nat}, ReachesCases cs p → cs.reach p = true
  | _, _, .clause => by simp [Cases.reach]
  | _, _, .test h => by simp [Cases.reach, h.sound]
  | _, _, .body h => by simp [Cases.reach, h.sound]
  | _, _, .later h => by simp [Cases.reach, h.sound]
theorem ReachesCatch.sound : ∀ {ks : Kids} {p : Nat}, ReachesCatch ks p → ks.catchReach p = true
  | _, _, .bodyBlock => by simp [Kids.catchReach]
  | _, _, .body h => by simp [Kids.catchReach, h.sound]
  | .cons k r, _, .param hk h => by
    cases k with
    | block => cases hk
    | _ => exact h.sound
theorem ReachesKid.sound : ∀ {k : Kid} {p : Nat}, ReachesKid k p → k.flowReach p = true
  | _, _, .expr h => h.sound
  | _, _, .blockPos => by simp [Kid.flowReach]
  | _, _, .block h => by simp [Kid.flowReach, h.sound]
  | _, _, .stmt h => h.sound
theorem ReachesKids.sound : ∀ {ks : Kids} {p : Nat}, ReachesKids ks p → ks.flowReach p = true
  | _, _, .head h => by simp [Kids.flowReach, h.sound]
  | _, _, .tail hk h => by simp [Kids.flowReach, hk.n, h.sound]
end

theorem ReachesItems.sound : ∀ {items : List Item} {p : Nat}, ReachesItems items p → itemsReach items p = true
  | _, _, .here h => by simp [itemsReach, h.sound]
  | _, _, .next hs h => by simp [itemsReach, show (Stmt.compl [] _).n = true from hs.sound, h.sound]
  | _, _, .decl h => by simp [itemsReach, h.sound]
  | _, _, .skipDecl hk h => by simp [itemsReach, hk.n, h.sound]

theorem testN_inv {tt : Bool} {t : Kids} (h : (testCompl tt t).n = true) : EvalTest tt t .normal :=
  testCompl_has_inv (Kids.complete t) h

theorem goesRoundAny_inv (body : Stmt) (h : goesRoundAny (body.compl []) = true) :
    ∃ o, Exec [] body o ∧ o.goesRoundAny = true := by
  obtain ⟨o, h1, h2⟩ := (goesRoundAny_iff _).mp h
  exact ⟨o, Stmt.complete body [] o h1, h2⟩

mutual
theorem Stmt.reach_complete : ∀ (s : Stmt) (p : Nat), s.reach p = true → Reaches s p
  | .simple q t kids, p, h => by
    simp only [Stmt.reach, Bool.or_eq_true, beq_iff_eq] at h
    rcases h with rfl | h
    · exact .self _
    · exact .simple_kids (Kids.flowReach_complete kids p h)
  | .block q body, p, h => by
    simp only [Stmt.reach, Bool.or_eq_true, beq_iff_eq] at h
    rcases h with rfl | h
    · exact .self _
    · exact .block (Stmts.reach_complete body p h)
  | .ifS q t c none, p, h => by
    simp only [Stmt.reach, Bool.or_eq_true, beq_iff_eq, Bool.and_eq_true] at h
    rcases h with (rfl | h) | ⟨hn, h⟩
    · exact .self _
    · exact .if_test (Kids.flowReach_complete t p h)
    · exact .if_then (Kids.complete t .normal hn) (Stmt.reach_complete c p h)
  | .ifS q t c (some a), p, h => by
    simp only [Stmt.reach, Bool.or_eq_true, beq_iff_eq, Bool.and_eq_true] at h
    rcases h with (rfl | h) | ⟨hn, h | h⟩
    · exact .self _
    · exact .if_test (Kids.flowReach_complete t p h)
    · exact .if_then (Kids.complete t .normal hn) (Stmt.reach_complete c p h)
    · exact .if_else (Kids.complete t .normal hn) (Stmt.reach_complete a p h)
  | .whileS q t tt b, p, h => by
    simp only [Stmt.reach, testComplOf_eq, Bool.or_eq_true, beq_iff_eq, Bool.and_eq_true] at h
    rcases h with (rfl | h) | ⟨hn, h⟩
    · exact .self _
    · exact .while_test (Kids.flowReach_complete t p h)
    · exact .while_body (testN_inv hn) (Stmt.reach_complete b p h)
  | .doWhileS q b t tt, p, h => by
    simp only [Stmt.reach, Bool.or_eq_true, beq_iff_eq, Bool.and_eq_true] at h
    rcases h with (rfl | h) | ⟨hg, h⟩
    · exact .self _
    · exact .do_body (Stmt.reach_complete b p h)
    · obtain ⟨o, ho, hgo⟩ := goesRoundAny_inv b hg
      exact .do_test ho hgo (Kids.flowReach_complete t p h)
  | .forS q i u t ht tt b, p, h => by
    simp only [Stmt.reach, testComplOf_eq, Bool.or_eq_true, beq_iff_eq, Bool.and_eq_true] at h
    rcases h with (rfl | h) | ⟨hin, h | ⟨htn, h | ⟨hg, h⟩⟩⟩
    · exact .self _
    · exact .for_init (Kids.flowReach_complete i p h)
    · exact .for_test (Kids.complete i .normal hin) (Kids.flowReach_complete t p h)
    · exact .for_body (Kids.complete i .normal hin) (testN_inv htn) (Stmt.reach_complete b p h)
    · obtain ⟨o, ho, hgo⟩ := goesRoundAny_inv b hg
      exact .for_update (Kids.complete i .normal hin) (testN_inv htn) ho hgo (Kids.flowReach_complete u p h)
  | .forInOf q l r b, p, h => by
    simp only [Stmt.reach, Bool.or_eq_true, beq_iff_eq, Bool.and_eq_true] at h
    rcases h with (rfl | h) | ⟨hrn, h | ⟨hln, h⟩⟩
    · exact .self _
    · exact .forIn_right (Kids.flowReach_complete r p h)
    · exact .forIn_left (Kids.complete r .normal hrn) (Kids.flowReach_complete l p h)
    · exact .forIn_body (Kids.complete r .normal hrn) (Kids.complete l .normal hln) (Stmt.reach_complete b p h)
  | .switchS q d cs, p, h => by
    simp only [Stmt.reach, Bool.or_eq_true, beq_iff_eq, Bool.and_eq_true] at h
    rcases h with (rfl | h) | ⟨hdn, h⟩
    · exact .self _
    · exact .switch_disc (Kids.flowReach_complete d p h)
    · exact .switch (Kids.complete d .normal hdn) (Cases.reach_complete cs p h)
  | .tryS q bp block hh cp ck hf fp fin, p, h => by
    simp only [Stmt.reach, Bool.or_eq_true, beq_iff_eq, Bool.and_eq_true] at h
    rcases h with ((rfl | h) | ⟨⟨hh', ht⟩, h⟩) | ⟨⟨hf'', hany⟩, h⟩
    · exact .self _
    · exact .try_block (Stmts.reach_complete block p h)
    · subst hh'
      exact .try_handler (Stmts.complete block .thr ht) (Kids.catchReach_complete ck p h)
    · subst hf''
      obtain ⟨o, ho⟩ := (Compl.any_iff _).mp hany
      exact .try_finalizer (tryCatch_complete block hh ck o (Stmts.complete block) (Kids.complete_catch ck) ho)
        (Stmts.reach_complete fin p h)
  | .labeled q l b, p, h => by
    simp only [Stmt.reach, Bool.or_eq_true, beq_iff_eq] at h
    rcases h with rfl | h
    · exact .self _
    · exact .labeled (Stmt.reach_complete b p h)
  | .brk q l, p, h => by obtain rfl : p = q := beq_iff_eq.mp h; exact .self _
  | .cont q l, p, h => by obtain rfl : p = q := beq_iff_eq.mp h; exact .self _
  | .ret q a, p, h => by
    simp only [Stmt.reach, Bool.or_eq_true, beq_iff_eq] at h
    rcases h with rfl | h
    · exact .self _
    · exact .ret_arg (Kids.flowReach_complete a p h)
  | .throw q a, p, h => by
    simp only [Stmt.reach, Bool.or_eq_true, beq_iff_eq] at h
    rcases h with rfl | h
    · exact .self _
    · exact .throw_arg (Kids.flowReach_complete a p h)
theorem Stmts.reach_complete : ∀ (l : Stmts) (p : Nat), l.reach p = true → ReachesList l p
  | .nil, p, h => by cases h
  | .cons s r, p, h => by
    simp only [Stmts.reach, Bool.or_eq_true, Bool.and_eq_true] at h
    rcases h with h | ⟨hn, h⟩
    · exact .head (Stmt.reach_complete s p h)
    · exact .tail (Stmt.complete s [] .normal hn) (Stmts.reach_complete r p h)
theorem Cases.reach_complete : ∀ (cs : Cases) (p : Nat), cs.reach p = true → ReachesCases cs p
  | .nil, p, h => by cases h
  | .cons q d t body r, p, h => by
    simp only [Cases.reach, Bool.or_eq_true, beq_iff_eq] at h
    rcases h with ((rfl | h) | h) | h
    · exact .clause
    · exact .test (Kids.flowReach_complete t p h)
    · exact .body (Stmts.reach_complete body p h)
    · exact .later (Cases.reach_complete r p h)
theorem Kids.catchReach_complete : ∀ (ks : Kids) (p : Nat), ks.catchReach p = true → ReachesCatch ks p
  | .nil, p, h => by cases h
  | .cons k r, p, h => by
    cases k with
    | block q body =>
      simp only [Kids.catchReach, Bool.or_eq_true, beq_iff_eq] at h
      rcases h with rfl | h
      · exact .bodyBlock
      · exact .body (Stmts.reach_complete body p h)
    | _ => exact .param rfl (Kids.catchReach_complete r p h)
theorem Kid.flowReach_complete : ∀ (k : Kid) (p : Nat), k.flowReach p = true → ReachesKid k p
  | .expr e ks, p, h => .expr (Kids.flowReach_complete ks p h)
  | .fnScope _ _, p, h => by cases h
  | .block q body, p, h => by
    simp only [Kid.flowReach, Bool.or_eq_true, beq_iff_eq] at h
    rcases h with rfl | h
    · exact .blockPos
    · exact .block (Stmts.reach_complete body p h)
  | .stmt s, p, h => .stmt (Stmt.reach_complete s p h)
theorem Kids.flowReach_complete : ∀ (ks : Kids) (p : Nat), ks.flowReach p = true → ReachesKids ks p
  | .nil, p, h => by cases h
  | .cons k r, p, h => by
    simp only [Kids.flowReach, Bool.or_eq_true, Bool.and_eq_true] at h
    rcases h with h | ⟨hn, h⟩
    · exact .head (Kid.flowReach_complete k p h)
    · exact .tail (Kid.complete k .normal hn) (Kids.flowReach_complete r p h)
end

theorem itemsReach_complete : ∀ (items : List Item) (p : Nat), itemsReach items p = true → ReachesItems items p
  | [], p, h => by cases h
  | .stmt s :: r, p, h => by
    simp only [itemsReach, Bool.or_eq_true, Bool.and_eq_true] at h
    rcases h with h | ⟨hn, h⟩
    · exact .here (Stmt.reach_complete s p h)
    · exact .next (Stmt.complete s [] .normal hn) (itemsReach_complete r p h)
  | .decl k :: r, p, h => by
    simp only [itemsReach, Bool.or_eq_true, Bool.and_eq_true] at h
    rcases h with h | ⟨hn, h⟩
    · exact .decl (Kids.flowReach_complete k p h)
    · exact .skipDecl (Kids.complete k .normal hn) (itemsReach_complete r p h)

end DL.CF
