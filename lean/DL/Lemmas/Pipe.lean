import DL.Model.Pipe

/-! The directive pipeline M-PIPE (`collect_diagnostics`): `hits` / `suppressed`, the suppression predicate the properties
C05-C07 speak of, with the lemmas that the filter pass, the accounting passes and the final sort satisfy. -/
namespace DL.Pipe

@[simp] theorem mark_file (st : St) (k c) : (st.mark k c).file = st.file := rfl
@[simp] theorem mark_lines (st : St) (k c) : (st.mark k c).lines = st.lines := rfl
@[simp] theorem mark_marks (st : St) (k c) : (st.mark k c).marks = (k, c) :: st.marks := rfl

theorem fileNames_congr {a b : St} (h : a.file = b.file) (c : String) : fileNames a c = fileNames b c := by
  unfold fileNames; rw [h]
theorem lineNamesAt_congr {a b : St} (h : a.lines = b.lines) (k : Nat) (c : String) :
    lineNamesAt a k c = lineNamesAt b k c := by
  unfold lineNamesAt; rw [h]

/-- the directive a diagnostic hits, if any: the file-level one first, else the one on the previous line -/
def hits (st : St) (d : Diag) : Option (DirKey × String) :=
  if fileNames st d.code then some (none, d.code) else
  match d.pos with
  | none => none
  | some (_, line) =>
    if line > 0 && lineNamesAt st (line - 1) d.code then some (some (line - 1), d.code) else none

/-- the suppression predicate of the property: the file directive names the code, or the diagnostic has a range
starting on line `ℓ > 0` and the directive on line `ℓ-1` names the code -/
def suppressed (st : St) (d : Diag) : Bool :=
  fileNames st d.code ||
  match d.pos with
  | none => false
  | some (_, line) => line > 0 && lineNamesAt st (line - 1) d.code

/-- a hit names the diagnostic's code, at the file directive or at the line before a diagnostic that has one -/
theorem hits_some {st : St} {d : Diag} {k : DirKey} {c : String} (h : hits st d = some (k, c)) :
    c = d.code ∧ (k = none ∨ ∃ s line, d.pos = some (s, line) ∧ line > 0 ∧ k = some (line - 1)) := by
  unfold hits at h
  split at h
  · cases h; exact ⟨rfl, Or.inl rfl⟩
  · rcases hp : d.pos with _ | ⟨s, line⟩
    · simp [hp] at h
    · simp only [hp] at h
      split at h
      · next hc =>
        cases h
        exact ⟨rfl, Or.inr ⟨s, line, rfl, of_decide_eq_true (Bool.and_eq_true_iff.mp hc).1, rfl⟩⟩
      · cases h

theorem suppressed_iff_hits (st : St) (d : Diag) : suppressed st d = (hits st d).isSome := by
  unfold suppressed hits
  cases fileNames st d.code
  · simp only [Bool.false_or, Bool.false_eq_true, if_false]
    cases d.pos with
    | none => rfl
    | some p => obtain ⟨s, l⟩ := p; simp only; split <;> simp_all
  · simp

theorem stepUsage_eq (st : St) (d : Diag) :
    stepUsage st d = match hits st d with
      | some m => (st.mark m.1 m.2, false)
      | none => (st, true) := by
  unfold stepUsage hits stepLine
  cases fileNames st d.code
  · simp only [Bool.false_eq_true, if_false]
    cases d.pos with
    | none => rfl
    | some p =>
      obtain ⟨s, l⟩ := p
      simp only
      by_cases hl : l > 0
      · cases hn : lineNamesAt st (l - 1) d.code <;> simp [hl, hn]
      · simp [hl]
  · simp

@[simp] theorem stepUsage_file (st : St) (d : Diag) : (stepUsage st d).1.file = st.file := by
  rw [stepUsage_eq]; cases hits st d <;> rfl
@[simp] theorem stepUsage_lines (st : St) (d : Diag) : (stepUsage st d).1.lines = st.lines := by
  rw [stepUsage_eq]; cases hits st d <;> rfl

theorem stepUsage_keep (st : St) (d : Diag) : (stepUsage st d).2 = !suppressed st d := by
  rw [stepUsage_eq, suppressed_iff_hits]; cases hits st d <;> rfl

theorem hits_congr {a b : St} (hf : a.file = b.file) (hl : a.lines = b.lines) (d : Diag) : hits a d = hits b d := by
  unfold hits; rw [fileNames_congr hf]
  cases d.pos with
  | none => rfl
  | some p => simp only [lineNamesAt_congr hl]

theorem suppressed_congr {a b : St} (hf : a.file = b.file) (hl : a.lines = b.lines) (d : Diag) :
    suppressed a d = suppressed b d := by
  rw [suppressed_iff_hits, suppressed_iff_hits, hits_congr hf hl]

@[simp] theorem checkUsage_file (st : St) (raw : List Diag) : (checkUsage st raw).1.file = st.file := by
  induction raw generalizing st with
  | nil => rfl
  | cons d ds ih => simp [checkUsage, ih]
@[simp] theorem checkUsage_lines (st : St) (raw : List Diag) : (checkUsage st raw).1.lines = st.lines := by
  induction raw generalizing st with
  | nil => rfl
  | cons d ds ih => simp [checkUsage, ih]

/-- `check_ignore_directive_usage` keeps exactly the unsuppressed diagnostics, in order -/
theorem checkUsage_kept (st : St) (raw : List Diag) :
    (checkUsage st raw).2 = raw.filter (fun d => !suppressed st d) := by
  induction raw generalizing st with
  | nil => rfl
  | cons d ds ih =>
    simp only [checkUsage, List.filter_cons, stepUsage_keep]
    rw [ih]
    have : (fun x => !suppressed (stepUsage st d).1 x) = (fun x => !suppressed st x) := by
      funext x; rw [suppressed_congr (stepUsage_file st d) (stepUsage_lines st d)]
    rw [this]

/-- the marks after the filter pass: the old ones plus one for every hit -/
theorem mem_marks_checkUsage (st : St) (raw : List Diag) (m : DirKey × String) :
    m ∈ (checkUsage st raw).1.marks ↔ m ∈ st.marks ∨ ∃ d ∈ raw, hits st d = some m := by
  induction raw generalizing st with
  | nil => simp [checkUsage]
  | cons d ds ih =>
    simp only [checkUsage]
    rw [ih]
    have hc : ∀ x, hits (stepUsage st d).1 x = hits st x :=
      fun x => hits_congr (stepUsage_file st d) (stepUsage_lines st d) x
    simp only [hc, List.mem_cons, exists_eq_or_imp]
    rw [stepUsage_eq]
    cases hh : hits st d with
    | none => simp
    | some m' =>
      obtain ⟨k', c'⟩ := m'
      simp only [mark_marks, List.mem_cons, Option.some.injEq]
      constructor
      · rintro ((h | h) | h)
        · exact Or.inr (Or.inl h.symm)
        · exact Or.inl h
        · exact Or.inr (Or.inr h)
      · rintro (h | h | h)
        · exact Or.inl (Or.inr h)
        · exact Or.inl (Or.inl h.symm)
        · exact Or.inr h

theorem diagLe_trans (a b c : Diag) (h1 : diagLe a b = true) (h2 : diagLe b c = true) : diagLe a c = true := by
  unfold diagLe at *
  rcases ha : a.pos with _ | ⟨x, lx⟩ <;> rcases hb : b.pos with _ | ⟨y, ly⟩ <;> rcases hc : c.pos with _ | ⟨z, lz⟩ <;>
    simp_all
  · exact String.le_trans h1 h2
  · rcases h1 with h1 | ⟨h1, h1'⟩ <;> rcases h2 with h2 | ⟨h2, h2'⟩
    · left; omega
    · left; omega
    · left; omega
    · right; exact ⟨by omega, String.le_trans h1' h2'⟩

theorem diagLe_total (a b : Diag) : (diagLe a b || diagLe b a) = true := by
  unfold diagLe
  rcases ha : a.pos with _ | ⟨x, lx⟩ <;> rcases hb : b.pos with _ | ⟨y, ly⟩ <;> simp
  · exact String.le_total _ _
  · rcases Nat.lt_trichotomy x y with h | h | h
    · left; left; exact h
    · rcases String.le_total a.code b.code with h' | h'
      · left; right; exact ⟨h, h'⟩
      · right; right; exact ⟨h.symm, h'⟩
    · right; left; exact h

theorem mem_dirDiags {code : String} {mk : String → Payload} {d : Dir} {p : String → Bool} {x : Diag} :
    x ∈ dirDiags code mk p d ↔ ∃ c ∈ d.codes, p c = true ∧ x = { code := code, pos := some (d.start, d.line), payload := mk c } := by
  simp only [dirDiags, List.mem_map, List.mem_mergeSort, List.mem_filter]
  constructor
  · rintro ⟨c, ⟨h1, h2⟩, rfl⟩; exact ⟨c, h1, h2, rfl⟩
  · rintro ⟨c, h1, h2, rfl⟩; exact ⟨c, ⟨h1, h2⟩, rfl⟩

theorem mem_allDirDiags_iff {code : String} {mk : String → Payload} {p : DirKey → String → Bool} {st : St} {x : Diag} :
    x ∈ allDirDiags code mk p st ↔
      (∃ f, st.file = some f ∧ ∃ c ∈ f.codes, p none c = true ∧
          x = { code := code, pos := some (f.start, f.line), payload := mk c }) ∨
      (∃ kd ∈ st.lines, ∃ c ∈ kd.2.codes, p (some kd.1) c = true ∧
          x = { code := code, pos := some (kd.2.start, kd.2.line), payload := mk c }) := by
  unfold allDirDiags
  rw [List.mem_append, List.mem_flatMap]
  constructor
  · rintro (h | ⟨kd, hk, h⟩)
    · cases hf : st.file with
      | none => simp [hf] at h
      | some f => simp only [hf] at h; exact Or.inl ⟨f, rfl, mem_dirDiags.mp h⟩
    · exact Or.inr ⟨kd, hk, mem_dirDiags.mp h⟩
  · rintro (⟨f, hf, h⟩ | ⟨kd, hk, h⟩)
    · left; simp only [hf]; exact mem_dirDiags.mpr h
    · exact Or.inr ⟨kd, hk, mem_dirDiags.mpr h⟩

theorem mem_allDirDiags {code : String} {mk : String → Payload} {p : DirKey → String → Bool} {st : St} {x : Diag}
    (h : x ∈ allDirDiags code mk p st) : x.code = code ∧ ∃ k c, p k c = true ∧ x.payload = mk c := by
  rcases mem_allDirDiags_iff.mp h with ⟨f, _, c, _, hp, rfl⟩ | ⟨kd, _, c, _, hp, rfl⟩ <;> exact ⟨rfl, _, c, hp, rfl⟩

@[simp] theorem markFile_file (st : St) (c : String) : (markFile st c).file = st.file := by
  unfold markFile; split <;> rfl
@[simp] theorem markFile_lines (st : St) (c : String) : (markFile st c).lines = st.lines := by
  unfold markFile; split <;> rfl

@[simp] theorem banUnknown_file (a : List String) (cu : Bool) (st : St) : (banUnknown a cu st).1.file = st.file := by
  unfold banUnknown; dsimp only; split <;> simp
@[simp] theorem banUnknown_lines (a : List String) (cu : Bool) (st : St) : (banUnknown a cu st).1.lines = st.lines := by
  unfold banUnknown; dsimp only; split <;> simp

theorem allDirDiags_congr {a b : St} (hf : a.file = b.file) (hl : a.lines = b.lines) (code : String)
    (mk : String → Payload) (p : DirKey → String → Bool) : allDirDiags code mk p a = allDirDiags code mk p b := by
  unfold allDirDiags; rw [hf, hl]

/-- a condition on a whole accounting pass is a condition in its selection -/
theorem allDirDiags_guard (g : Bool) (code : String) (mk : String → Payload) (p : DirKey → String → Bool) (st : St) :
    (if g then allDirDiags code mk p st else []) = allDirDiags code mk (fun k c => g && p k c) st := by
  cases g
  · have h : ∀ d, dirDiags code mk (fun _ => false) d = [] := fun d => by
      rw [dirDiags, List.filter_eq_nil_iff.mpr fun _ _ => Bool.false_ne_true, List.mergeSort_nil]; rfl
    unfold allDirDiags
    cases st.file <;> simp [h]
  · simp only [Bool.true_and]; rfl

/-! ### `collect` in closed form

The passes hand a state on, but only its marks change: the directives every pass reads are those of the initial state,
and whether a pass runs at all can be asked code by code.  So the result is the unsuppressed raw diagnostics and, for
each accounting rule, the codes of the *initial* directives that a selection picks, sorted.  The passes survive only in
`usedSt`, the marks `ban_unused_ignore` consults. -/

/-- the state `ban_unused_ignore` reads: after the filter pass and `ban_unknown_rule_code` -/
def usedSt (cfg : Cfg) (extCodes : List String) (st : St) (raw : List Diag) : St :=
  (banUnknown (cfg.allCodes ++ extCodes) cfg.checkUnknown (checkUsage st raw).1).1

/-- the codes `ban_unknown_rule_code` reports -/
def unknownSel (cfg : Cfg) (extCodes : List String) (st : St) : DirKey → String → Bool := fun k c =>
  (cfg.checkUnknown && !fileNames st cUnknown) && unknownP (cfg.allCodes ++ extCodes) k c

/-- the codes `ban_unused_ignore` reports, directive by directive -/
def unusedSel (cfg : Cfg) (extCodes : List String) (st : St) (raw : List Diag) : DirKey → String → Bool := fun k c =>
  ((extCodes ++ cfg.configured).contains cUnused && !fileNames st cUnused) &&
    unusedP (extCodes ++ cfg.configured) (usedSt cfg extCodes st raw) k c

section
variable {cfg : Cfg} {e : List String} {st : St} {raw : List Diag}

@[simp] theorem usedSt_file : (usedSt cfg e st raw).file = st.file := by simp [usedSt]
@[simp] theorem usedSt_lines : (usedSt cfg e st raw).lines = st.lines := by simp [usedSt]

theorem unknownSel_iff {k : DirKey} {c : String} :
    unknownSel cfg e st k c = true ↔
      c ∉ cfg.allCodes ++ e ∧ cfg.checkUnknown = true ∧ fileNames st cUnknown = false := by
  simp only [unknownSel, unknownP, Bool.and_eq_true, Bool.not_eq_eq_eq_not, Bool.not_true, ← Bool.not_eq_true,
    List.contains_iff_mem]
  exact ⟨fun h => ⟨h.2, h.1⟩, fun h => ⟨h.2, h.1⟩⟩

theorem unusedSel_iff {k : DirKey} {c : String} :
    unusedSel cfg e st raw k c = true ↔
      (usedSt cfg e st raw).used k c = false ∧ c ∈ e ++ cfg.configured ∧
        cUnused ∈ e ++ cfg.configured ∧ fileNames st cUnused = false := by
  simp only [unusedSel, unusedP, Bool.and_eq_true, Bool.not_eq_true', List.contains_iff_mem]
  exact ⟨fun h => ⟨h.2.1, h.2.2, h.1⟩, fun h => ⟨h.2.2, h.1, h.2.1⟩⟩

theorem banUnknown_checkUsage_snd :
    (banUnknown (cfg.allCodes ++ e) cfg.checkUnknown (checkUsage st raw).1).2 =
      allDirDiags cUnknown .unknown (unknownSel cfg e st) st := by
  -- whether the pass reports is asked of the state it has marked, whose file directive is the initial one
  have h : ∀ a cu s, (banUnknown a cu s).2 = if cu && !fileNames (banUnknown a cu s).1 cUnknown then
      allDirDiags cUnknown .unknown (unknownP a) s else [] := fun _ _ _ => rfl
  rw [h, fileNames_congr ((banUnknown_file _ _ _).trans (checkUsage_file st raw)),
    allDirDiags_congr (checkUsage_file st raw) (checkUsage_lines st raw), allDirDiags_guard]
  rfl

theorem banUnused_usedSt :
    (if (e ++ cfg.configured).contains cUnused then banUnused (e ++ cfg.configured) (usedSt cfg e st raw) else []) =
      allDirDiags cUnused .unused (unusedSel cfg e st raw) st := by
  unfold banUnused unusedSel
  rw [fileNames_congr usedSt_file, allDirDiags_congr usedSt_file usedSt_lines, ← allDirDiags_guard]
  cases (e ++ cfg.configured).contains cUnused <;> cases fileNames st cUnused <;> rfl

theorem collect_closed :
    collect cfg e st raw =
      (raw.filter (fun d => !suppressed st d) ++ allDirDiags cUnknown .unknown (unknownSel cfg e st) st ++
        allDirDiags cUnused .unused (unusedSel cfg e st raw) st).mergeSort diagLe := by
  rw [← banUnused_usedSt, ← banUnknown_checkUsage_snd, ← checkUsage_kept]
  rfl

theorem mem_collect_iff {x : Diag} :
    x ∈ collect cfg e st raw ↔
      (x ∈ raw ∧ suppressed st x = false) ∨ x ∈ allDirDiags cUnknown .unknown (unknownSel cfg e st) st ∨
        x ∈ allDirDiags cUnused .unused (unusedSel cfg e st raw) st := by
  rw [collect_closed, List.mem_mergeSort, List.mem_append, List.mem_append, List.mem_filter, or_assoc,
    Bool.not_eq_true']

end

/-- `lint_inner` is `collect_diagnostics` on the rules' diagnostics followed by the external linter's, unless the
file-level directive is bare; a callback that declines contributes nothing -/
theorem lintInner_eq (cfg : Cfg) (st : St) (ruleDiags : List Diag) (ext : Option (List Diag × List String)) :
    lintInner cfg st ruleDiags ext =
      if ignoreAll st then [] else collect cfg (ext.elim [] (·.2)) st (ruleDiags ++ ext.elim [] (·.1)) := by
  cases ext <;> simp [lintInner]

theorem ignoreAll_eq_false {st : St} (h : ∀ f, st.file = some f → f.codes ≠ []) : ignoreAll st = false := by
  unfold ignoreAll
  cases hf : st.file with
  | none => rfl
  | some f => simpa using h f hf

end DL.Pipe
