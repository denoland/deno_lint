import DL.Lemmas.RxLeaves

/-!
# Group names: the two `char::from_u32(self.last_int_value as u32).unwrap()` (in `eat_regexp_identifier_name`)

`eat_regexp_identifier_start/part` return `true` only after `is_regexp_identifier_start/part(cp)` answered `true` and
`last_int_value = cp` was stored; such a `cp` is `$`, `_`, ZWNJ, ZWJ, ASCII, or inside a range of the ID_Start /
ID_Continue tables, none of which touches the surrogates or exceeds `0x10FFFF`.
-/
namespace DL.Rx
attribute [local irreducible] isScalar

/-- postcondition of `eat_regexp_identifier_start/part`: on `true`, `last_int_value as u32` is a `char` -/
def NamePost (b : Bool) (s : St) : Prop := Inv s ∧ (b = true → IsChar (i64AsU32 s.lastIntValue))

theorem i64AsU32_of_isChar {c : Nat} (h : IsChar c) : i64AsU32 (c : Int) = c := by
  unfold IsChar toChar at h
  have hlt : c < 0x110000 := by
    by_cases hc : c < 0xD800 ∨ (0xE000 ≤ c ∧ c < 0x110000)
    · omega
    · rw [if_neg hc] at h; cases h
  unfold i64AsU32
  omega

/-- `if test(cp) { last_int_value = cp; true } else { false }` -/
theorem hit_safe (test : Nat → M Bool) (ht : ∀ c, Tests (test c) (IsChar c)) (c : Nat) :
    Safe Inv (do if ← test c then do setInt c; pure true else pure false : M Bool) NamePost := by
  refine Safe.bind (ht c).safe fun b => ?_
  refine Safe.ite (fun _ => ?_) (fun _ => Safe.pure fun s h => ⟨h.1, fun h => by cases h⟩)
  refine Safe.bind (R := fun _ s => Inv s ∧ (b = true → IsChar c) ∧ s.lastIntValue = c)
    (Safe.modSt fun s hs => ⟨hs.1, hs.2, rfl⟩) fun _ => ?_
  refine Safe.pure fun s hs => ⟨hs.1, fun _ => ?_⟩
  rw [hs.2.2, i64AsU32_of_isChar (hs.2.1 ‹_›)]
  exact hs.2.1 ‹_›

/-- the common tail: `if hit { true } else { if index != start { rewind(start) }; false }` -/
theorem tail_safe (start : Nat) (hit : Bool) :
    Safe (NamePost hit) (if hit = true then pure true else do
      if (← index) != start then rewind start
      pure false : M Bool) NamePost := by
  refine Safe.ite (fun hh => Safe.pure fun s hs => ⟨hs.1, fun _ => hs.2 hh⟩) fun _ => ?_
  refine Safe.pre (P := Inv) ?_ (fun _ h => h.1)
  have hf : Safe Inv (pure false : M Bool) NamePost := Safe.pure fun s h => ⟨h, fun h => by cases h⟩
  refine Safe.bind OK.index fun _ => ?_
  dsimp only
  exact Safe.ite (fun _ => Safe.bind (OK.rewind _) fun _ => hf) (fun _ => hf)

theorem eatRegexpIdentifierPart_safe (fuel : Nat) : Safe Inv (eatRegexpIdentifierPart fuel) NamePost := by
  unfold eatRegexpIdentifierPart
  refine Safe.bind OK.index fun start => ?_
  refine Safe.bind Keeps.getSt fun s0 => ?_
  dsimp only
  refine Safe.bind (OK.codePointWithOffset 0) fun cp0 => ?_
  refine Safe.bind OK.advance fun _ => ?_
  refine Safe.bind (OK.codePointWithOffset 0) fun cp1 => ?_
  refine Safe.bind (R := fun _ => Inv) ?_ fun cp => ?_
  · rx_auto
  refine Safe.bind (R := NamePost) ?_ fun hit => tail_safe start hit
  cases cp with
  | none => exact Safe.pure fun s h => ⟨h, fun h => by cases h⟩
  | some c => exact hit_safe _ isRegexpIdentifierPart_tests c

theorem eatRegexpIdentifierStart_safe (fuel : Nat) : Safe Inv (eatRegexpIdentifierStart fuel) NamePost := by
  unfold eatRegexpIdentifierStart
  refine Safe.bind OK.index fun start => ?_
  refine Safe.bind Keeps.getSt fun s0 => ?_
  dsimp only
  refine Safe.bind (R := NamePost) ?_ fun hit => tail_safe start hit
  refine Safe.bind (OK.codePointWithOffset 0) fun cp0 => ?_
  cases cp0 with
  | none => exact Safe.pure fun s h => ⟨h, fun h => by cases h⟩
  | some c0 =>
    dsimp only
    refine Safe.bind OK.advance fun _ => ?_
    refine Safe.bind (OK.codePointWithOffset 0) fun cp1 => ?_
    refine Safe.bind (R := fun _ => Inv) ?_ fun cp => hit_safe _ isRegexpIdentifierStart_tests cp
    rx_auto

theorem OK.eatRegexpIdentifierPart (fuel : Nat) : OK (eatRegexpIdentifierPart fuel) :=
  (eatRegexpIdentifierPart_safe fuel).post fun _ _ h => h.1
theorem OK.eatRegexpIdentifierStart (fuel : Nat) : OK (eatRegexpIdentifierStart fuel) :=
  (eatRegexpIdentifierStart_safe fuel).post fun _ _ h => h.1

/-- what follows a successful `eat_regexp_identifier_start/part`: `char::from_u32(last_int_value as u32).unwrap()` -/
theorem after_name_safe {β : Type} (why : String) (k : Nat → M β) (hk : ∀ c, OK (k c)) :
    Safe (NamePost true) (do
      let c ← unwrap (toChar (i64AsU32 (← getSt).lastIntValue)) why
      k c) (fun _ => Inv) := by
  refine Safe.bind_getSt fun s0 hs0 => ?_
  refine Safe.pre (P := Inv) ?_ (fun s hs => hs ▸ hs0.1)
  exact Keeps.bind (Keeps.unwrap (hs0.2 rfl)) hk

theorem OK.eatRegexpIdentifierNameLoop : ∀ n, OK (eatRegexpIdentifierNameLoop n)
  | 0 => Keeps.outOfFuel
  | n + 1 => by
    have ih := OK.eatRegexpIdentifierNameLoop n
    unfold DL.Rx.eatRegexpIdentifierNameLoop
    refine Safe.bind (eatRegexpIdentifierPart_safe n) fun b => ?_
    refine Safe.ite (fun hb => ?_) (fun _ => Safe.pure fun _ h => h.1)
    subst hb
    refine after_name_safe _ _ fun c => ?_
    rx_auto

@[rx_ok] theorem OK.eatRegexpIdentifierName (fuel : Nat) : OK (eatRegexpIdentifierName fuel) := by
  have ih := OK.eatRegexpIdentifierNameLoop fuel
  unfold DL.Rx.eatRegexpIdentifierName
  refine Safe.bind (eatRegexpIdentifierStart_safe fuel) fun b => ?_
  refine Safe.ite (fun hb => ?_) (fun _ => Safe.pure fun _ h => h.1)
  subst hb
  refine after_name_safe _ _ fun c => ?_
  rx_auto

@[rx_ok] theorem OK.eatGroupName (fuel : Nat) : OK (eatGroupName fuel) := by
  unfold DL.Rx.eatGroupName; rx_auto

end DL.Rx
