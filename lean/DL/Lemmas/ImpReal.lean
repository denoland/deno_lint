import DL.Lemmas.ImpWheres
/-!
# The faithful fix step of the import-adding rules: definitions and helper lemmas

`applyFix` of the model leaves out the extra `.imp false` item that the fix puts on the line of the last import in case
`Where.sameLine`.  Here: the faithful step (`fixReal`, which puts that item at `recentPos`), the first token's line
afterwards (`firstAfter`), and the lemmas about `kept` and `WF` under the three file operations.
-/
namespace DL.Imp

/-- insert `.imp false` right after item `j` -/
def addImpAfter (j : Nat) (is : List Item) : List Item := is.take (j + 1) ++ Item.imp false :: is.drop (j + 1)

def Line.addImp (j : Nat) (ln : Line) : Line := { ln with items := addImpAfter j ln.items }

/-- insert `.imp false` right after item `j` of line `l` -/
def insertImpAfter (f : File) (l j : Nat) : File := f.modify l (Line.addImp j)

/-- The file after the fix the rule offers for the `i`-th raw diagnostic: `fix_change` for a `FixKind::Import`.  After a
recent import the new import goes to the `range.end()` of that import: on a line of its own if `ends_line` holds there
(`newLineAt`), else behind it on its line (`sameLine`: a new `.imp false` item after item `j`).  Without one it goes to
`program_code_start` (`newLineAt`). -/
def fixReal (f : File) (first : Nat) (i : Nat) : File :=
  match (raw f)[i]?, (wheres f first)[i]? with
  | some d, some (.newLineAt k) => insertLine (dropName f d.2) k
  | some d, some .sameLine =>
    match recentPos f i with
    | some (l, j) => insertImpAfter (dropName f d.2) l j
    | none => dropName f d.2
  | _, _ => f

/-- The line of the first token (what `program_code_start` looks for) after the fix: an import inserted at or above that line
is the first token of the fixed file. -/
def firstAfter (f : File) (first : Nat) (i : Nat) : Nat :=
  match (wheres f first)[i]? with
  | some (.newLineAt k) => if k ≤ first then k else first
  | _ => first

theorem mem_modify {α : Type} {g : α → α} {x : α} :
    ∀ {f : List α} {i : Nat}, x ∈ f.modify i g → ∃ a ∈ f, x = a ∨ x = g a
  | [], _, h => by simp at h
  | a :: as, 0, h => by
    rw [List.modify_zero_cons, List.mem_cons] at h
    rcases h with h | h
    · exact ⟨a, List.mem_cons_self, Or.inr h⟩
    · exact ⟨x, List.mem_cons_of_mem _ h, Or.inl rfl⟩
  | a :: as, i + 1, h => by
    rw [List.modify_succ_cons, List.mem_cons] at h
    rcases h with h | h
    · exact ⟨a, List.mem_cons_self, Or.inl h⟩
    · obtain ⟨b, hb, hx⟩ := mem_modify h
      exact ⟨b, List.mem_cons_of_mem _ hb, hx⟩

theorem rawFrom_modify (g : Line → Line) (hg : ∀ ln, (g ln).refs = ln.refs) :
    ∀ (i : Nat) (f : File) (l : Nat), rawFrom i (f.modify l g) = rawFrom i f
  | _, [], _ => by simp
  | i, a :: as, 0 => by rw [List.modify_zero_cons, rawFrom_cons, rawFrom_cons, hg]
  | i, a :: as, l + 1 => by
    rw [List.modify_succ_cons, rawFrom_cons, rawFrom_cons, rawFrom_modify g hg]

theorem getElem?_modify' (g : Line → Line) (f : File) (l j : Nat) :
    (f.modify l g)[j]? = (f[j]?).map (fun a => if l = j then g a else a) := by
  rw [List.getElem?_modify]; rfl

theorem dirAt_modify (g : Line → Line) (hg : ∀ ln, (g ln).dir = ln.dir) (f : File) (l j : Nat) :
    dirAt (f.modify l g) j = dirAt f j := by
  unfold dirAt
  rw [getElem?_modify']
  cases f[j]? with
  | none => rfl
  | some a =>
    show (if l = j then g a else a).dir = a.dir
    split
    · exact hg a
    · rfl

theorem refs_addImpAfter (j : Nat) (is : List Item) :
    (addImpAfter j is).filterMap Item.refName? = is.filterMap Item.refName? := by
  unfold addImpAfter
  rw [List.filterMap_append, List.filterMap_cons]
  simp only [Item.refName?]
  rw [← List.filterMap_append, List.take_append_drop]

theorem any_addImpAfter (j : Nat) (is : List Item) :
    (addImpAfter j is).any (fun it => it == Item.imp true) = is.any (fun it => it == Item.imp true) := by
  unfold addImpAfter
  have h : (Item.imp false == Item.imp true) = false := by decide
  rw [List.any_append, List.any_cons, h, Bool.false_or, ← List.any_append, List.take_append_drop]

theorem addImp_refs (j : Nat) (ln : Line) : (ln.addImp j).refs = ln.refs := refs_addImpAfter j ln.items

theorem addImp_dir (j : Nat) (ln : Line) : (ln.addImp j).dir = ln.dir := rfl

theorem addImp_anyDir (j : Nat) (ln : Line) : (ln.addImp j).anyDir = ln.anyDir := rfl

theorem addImp_hasImp (j : Nat) (ln : Line) : (ln.addImp j).hasImpEndingLine = ln.hasImpEndingLine :=
  any_addImpAfter j ln.items

theorem addImpAfter_ne_nil (j : Nat) (is : List Item) : addImpAfter j is ≠ [] := by
  unfold addImpAfter
  intro h
  have := congrArg List.length h
  simp at this

theorem raw_insertImpAfter (f : File) (l j : Nat) : raw (insertImpAfter f l j) = raw f :=
  rawFrom_modify _ (addImp_refs j) 0 f l

theorem suppressed_insertImpAfter (f : File) (l j n : Nat) :
    suppressed (insertImpAfter f l j) n = suppressed f n := by
  unfold suppressed insertImpAfter
  rw [dirAt_modify _ (addImp_dir j)]

theorem kept_insertImpAfter (f : File) (l j : Nat) : kept (insertImpAfter f l j) = kept f := by
  unfold kept
  rw [raw_insertImpAfter]
  apply List.filter_congr
  intro d _
  rw [suppressed_insertImpAfter]

theorem hasImp_filter {is : List Item} {p : Item → Bool}
    (h : (is.filter p).any (fun it => it == Item.imp true) = true) :
    is.any (fun it => it == Item.imp true) = true := by
  rw [List.any_eq_true] at h ⊢
  obtain ⟨x, hx, hxe⟩ := h
  exact ⟨x, (List.mem_filter.mp hx).1, hxe⟩

theorem wf_dropName {f : File} {first : Nat} (hwf : WF f first) (g : Name) : WF (dropName f g) first := by
  refine ⟨?_, ?_, ?_⟩
  · intro l hl hd
    unfold dropName at hl
    obtain ⟨a, ha, rfl⟩ := List.mem_map.mp hl
    exact hwf.dir_any a ha hd
  · intro i l hl hlt
    rw [getElem?_dropName, Option.map_eq_some_iff] at hl
    obtain ⟨a, hfi, rfl⟩ := hl
    show a.items.filter _ = []
    rw [hwf.before_first i a hfi hlt]
    rfl
  · intro l hl hd
    unfold dropName at hl
    obtain ⟨a, ha, rfl⟩ := List.mem_map.mp hl
    exact hwf.imp_no_dir a ha (hasImp_filter hd)

theorem mem_insertLine {f : File} {k : Nat} {x : Line} (h : x ∈ insertLine f k) : x ∈ f ∨ x = newLine := by
  unfold insertLine at h
  rw [List.mem_append, List.mem_cons] at h
  rcases h with h | h | h
  · exact Or.inl (List.mem_of_mem_take h)
  · exact Or.inr h
  · exact Or.inl (List.mem_of_mem_drop h)

theorem wf_insertLine {f : File} {first : Nat} (hwf : WF f first) (k : Nat) (hk : k ≤ f.length) :
    WF (insertLine f k) (if k ≤ first then k else first) := by
  refine ⟨?_, ?_, ?_⟩
  · intro x hx hd
    rcases mem_insertLine hx with h | h
    · exact hwf.dir_any x h hd
    · subst h; exact absurd hd (by decide)
  · intro i ln hl hlt
    have hik : i < k ∧ i < first := by
      by_cases hkf : k ≤ first
      · rw [if_pos hkf] at hlt; omega
      · rw [if_neg hkf] at hlt; omega
    rw [getElem?_insertLine_lt f hk hik.1] at hl
    exact hwf.before_first i ln hl hik.2
  · intro x hx hd
    rcases mem_insertLine hx with h | h
    · exact hwf.imp_no_dir x h hd
    · subst h; rfl

theorem wf_insertImpAfter {f : File} {first : Nat} (hwf : WF f first) (l j : Nat) (hl : first ≤ l) :
    WF (insertImpAfter f l j) first := by
  refine ⟨?_, ?_, ?_⟩
  · intro x hx hd
    obtain ⟨a, ha, h | h⟩ := mem_modify hx
    · subst h; exact hwf.dir_any x ha hd
    · subst h; exact hwf.dir_any a ha hd
  · intro i ln hi hlt
    unfold insertImpAfter at hi
    rw [getElem?_modify', Option.map_eq_some_iff] at hi
    obtain ⟨a, hfi, rfl⟩ := hi
    rw [if_neg (by omega)]
    exact hwf.before_first i a hfi hlt
  · intro x hx hd
    obtain ⟨a, ha, h | h⟩ := mem_modify hx
    · subst h; exact hwf.imp_no_dir x ha hd
    · subst h
      rw [addImp_hasImp] at hd
      exact hwf.imp_no_dir a ha hd

theorem fixReal_newLine {f : File} {first i : Nat} {d : Nat × Name} {k : Nat} (hd : (raw f)[i]? = some d)
    (hw : (wheres f first)[i]? = some (.newLineAt k)) : fixReal f first i = insertLine (dropName f d.2) k := by
  unfold fixReal; rw [hd, hw]

theorem fixReal_sameLine {f : File} {first i : Nat} {d : Nat × Name} (hd : (raw f)[i]? = some d)
    (hw : (wheres f first)[i]? = some .sameLine) :
    fixReal f first i =
      match recentPos f i with
      | some (l, j) => insertImpAfter (dropName f d.2) l j
      | none => dropName f d.2 := by
  unfold fixReal; rw [hd, hw]

theorem firstAfter_newLine {f : File} {first i k : Nat} (hw : (wheres f first)[i]? = some (.newLineAt k)) :
    firstAfter f first i = if k ≤ first then k else first := by
  unfold firstAfter; rw [hw]

theorem firstAfter_sameLine {f : File} {first i : Nat} (hw : (wheres f first)[i]? = some .sameLine) :
    firstAfter f first i = first := by
  unfold firstAfter; rw [hw]

end DL.Imp
