import DL.Lemmas.RxSpecQuant

/-! # Soundness w.r.t. the grammar: the recursive productions -/
namespace DL.Rx
open DL.RxSpec DL.Gen.Unicode
attribute [local irreducible] isScalar
variable {src : List Nat} {N : Nat}

/-- a sequence of `Term`s (what the loop of `consume_alternative` reads) -/
inductive AltTail (N : Nat) : Str → Str → Attr → Prop
  | nil (r : Str) : AltTail N r r Attr.nil
  | cons (r m r1 : Str) (a₁ a₂ : Attr) : Derives qokSat N .Term r m a₁ → AltTail N m r1 a₂ → AltTail N r r1 (a₁ ++ a₂)

/-- a sequence of `| Alternative`s (what the loop of `consume_disjunction` reads) -/
inductive DisjTail (N : Nat) : Str → Str → Attr → Prop
  | nil (r : Str) : DisjTail N r r Attr.nil
  | cons (m m₂ r1 : Str) (a₁ a₂ : Attr) : Derives qokSat N .Alternative m m₂ a₁ → DisjTail N m₂ r1 a₂ →
      DisjTail N (c '|' :: m) r1 (a₁ ++ a₂)

theorem Attr.append_assoc (a b d : Attr) : a ++ b ++ d = a ++ (b ++ d) := by
  cases a; cases b; cases d
  show Attr.mk (_ ++ _ ++ _) (_ ++ _ ++ _) = Attr.mk (_ ++ (_ ++ _)) (_ ++ (_ ++ _))
  rw [List.append_assoc, List.append_assoc]

theorem alt_of_tail {r m r1 : Str} {a₀ a : Attr} (h0 : Derives qokSat N .Alternative r m a₀) (h : AltTail N m r1 a) :
    Derives qokSat N .Alternative r r1 (a₀ ++ a) := by
  induction h generalizing a₀ r with
  | nil r' => rw [Attr.append_nil]; exact h0
  | cons r' m' r1' a₁ a₂ ht _ ih =>
    have := ih (Derives.altSnoc r r' m' a₀ a₁ h0 ht)
    rw [Attr.append_assoc] at this; exact this

theorem disj_of_tail {r m r1 : Str} {a₀ a : Attr} (h0 : Derives qokSat N .Alternative r m a₀) (h : DisjTail N m r1 a) :
    Derives qokSat N .Disjunction r r1 (a₀ ++ a) := by
  induction h generalizing a₀ r with
  | nil r' => rw [Attr.append_nil]; exact Derives.disjOne _ _ _ h0
  | cons m' m₂ r1' a₁ a₂ halt _ ih =>
    exact Derives.disjMore r m' r1' a₀ (a₁ ++ a₂) h0 (ih halt)

theorem Track.post {s s1 s2 : St} {a : Attr} (h : Track s s1 a) (hk : KeepN s1 s2) : Track s s2 a :=
  ⟨by rw [hk.gn, h.gn], fun hn => by rw [hk.gn]; exact h.nodup hn, fun x hx => by rw [hk.bn]; exact h.mono x hx,
    fun x hx => by rw [hk.bn]; exact h.refs x hx⟩

theorem Track.pre' {s s1 s2 : St} {a : Attr} (h : Track s1 s2 a) (hk : KeepN s s1) : Track s s2 a := Track.pre hk h

theorem Track.ofKeepN_none {s s1 : St} (h : KeepN s s1) : Track s s1 ⟨[none], []⟩ :=
  ⟨by rw [h.gn]; exact (List.append_nil _).symm, fun hn => by rw [h.gn]; exact hn, fun x hx => by rw [h.bn]; exact hx,
    fun x hx => nomatch hx⟩

theorem alt_of_tail' {r r1 : Str} {a : Attr} (h : AltTail N r r1 a) : Derives qokSat N .Alternative r r1 a := by
  have := alt_of_tail (Derives.altEmpty r) h
  rw [Attr.nil_append] at this; exact this

structure AllSpec (src : List Nat) (N : Nat) (n : Nat) : Prop where
  disjunction : ∀ (r : List Nat) (s : St), UAt src N r s → Wp (consumeDisjunction n s) (fun _ s1 =>
    ∃ r1 a, UAt src N r1 s1 ∧ Derives qokSat N .Disjunction r r1 a ∧ Track s s1 a)
  disjunctionLoop : ∀ (r : List Nat) (s : St), UAt src N r s → Wp (consumeDisjunctionLoop n s) (fun _ s1 =>
    ∃ r1 a, UAt src N r1 s1 ∧ DisjTail N r r1 a ∧ Track s s1 a)
  alternative : ∀ (r : List Nat) (s : St), UAt src N r s → Wp (consumeAlternative n s) (fun _ s1 =>
    ∃ r1 a, UAt src N r1 s1 ∧ AltTail N r r1 a ∧ Track s s1 a)
  term : ∀ (r : List Nat) (s : St), UAt src N r s → Wp (consumeTerm n s) (fun b s1 =>
    if b = true then ∃ r1 a, UAt src N r1 s1 ∧ Derives qokSat N .Term r r1 a ∧ Track s s1 a
    else UAt src N r s1 ∧ KeepN s s1)
  assertion : ∀ (r : List Nat) (s : St), UAt src N r s → Wp (consumeAssertion n s) (fun b s1 =>
    if b = true then ∃ r1 a, UAt src N r1 s1 ∧ Derives qokSat N .Assertion r r1 a ∧ Track s s1 a
    else UAt src N r s1 ∧ KeepN s s1)
  atom : ∀ (r : List Nat) (s : St), UAt src N r s → Wp (consumeAtom n s) (fun b s1 =>
    if b = true then ∃ r1 a, UAt src N r1 s1 ∧ Derives qokSat N .Atom r r1 a ∧ Track s s1 a
    else UAt src N r s1 ∧ KeepN s s1)
  uncapturingGroup : ∀ (r : List Nat) (s : St), UAt src N r s → Wp (consumeUncapturingGroup n s) (fun b s1 =>
    if b = true then ∃ r1 a, UAt src N r1 s1 ∧ Derives qokSat N .Atom r r1 a ∧ Track s s1 a
    else UAt src N r s1 ∧ KeepN s s1)
  capturingGroup : ∀ (r : List Nat) (s : St), UAt src N r s → Wp (consumeCapturingGroup n s) (fun b s1 =>
    if b = true then ∃ r1 a, UAt src N r1 s1 ∧ Derives qokSat N .Atom r r1 a ∧ Track s s1 a
    else UAt src N r s1 ∧ KeepN s s1)

theorem lookaroundBody_wp {n : Nat} (ih : AllSpec src N n) (lookbehind : Bool) (m : List Nat) (s : St)
    (h : UAt src N m s) : Wp (lookaroundBody n lookbehind s) (fun b s1 => b = true ∧
      ∃ r1 a, UAt src N r1 s1 ∧ Derives qokSat N .Disjunction m (c ')' :: r1) a ∧ Track s s1 a) := by
  have ih_disjunction := ih.disjunction
  unfold lookaroundBody
  rx4_auto
  rename_i a htr r1 hat1 hat2 hd
  exact ⟨rfl, r1, a, by rx4_at, hd, htr.post ⟨rfl, rfl⟩⟩

/-- `eat` with its answer left a variable, for a caller that goes on the same way after either answer -/
theorem Wp.bind_eat_any {β : Type} {r : List Nat} {x : Char} {g : Bool → M β} {s : St} {Q : β → St → Prop}
    (h : UAt src N r s) (hg : ∀ b s1 r1, UAt src N r1 s1 → KeepN s s1 → (if b = true then r = ch x :: r1 else r1 = r) →
      Wp (g b s1) Q) : Wp ((eat x >>= g) s) Q :=
  Wp.bind_eat h (fun r' hr h1 => hg true _ r' h1 ⟨rfl, rfl⟩ hr) (fun _ => hg false s r h (.refl s) rfl)

/-- after `(?`: a lookaround, or back to `start`; `<` is read once for the two kinds of mark that follow -/
theorem lookaround_wp {n : Nat} (ih : AllSpec src N n) (start : Nat) (hle : start ≤ src.length) (m : List Nat) (s : St)
    (h : UAt src N m s) : Wp (lookaround n start s) (fun b s1 =>
      if b = true then ∃ r1 a, UAt src N r1 s1 ∧ Derives qokSat N .Assertion (c '(' :: c '?' :: m) r1 a ∧ Track s s1 a
      else UAt src N (src.drop start) s1 ∧ KeepN s s1) := by
  unfold lookaround
  refine Wp.bind_andM (Wp.bind_pure ?_)
  rw [if_pos rfl]
  refine Wp.bind_eat_any h fun lb s0 m0 h0 k0 hlb => ?_
  rx4_auto
  · rename_i hb r1 a hat hd htr
    subst hb
    refine (if_pos rfl).mpr ⟨r1, a, hat, ?_, htr.pre' ⟨k0.gn, k0.bn⟩⟩
    cases lb
    · exact (if_neg Bool.false_ne_true).mp hlb ▸ .lookahead _ _ r1 a rfl hd
    · exact (if_pos rfl).mp hlb ▸ .lookbehind _ _ r1 a rfl hd
  · rename_i hb r1 a hat hd htr
    subst hb
    refine (if_pos rfl).mpr ⟨r1, a, hat, ?_, htr.pre' ⟨k0.gn, k0.bn⟩⟩
    cases lb
    · exact (if_neg Bool.false_ne_true).mp hlb ▸ .negativeLookahead _ _ r1 a rfl hd
    · exact (if_pos rfl).mp hlb ▸ .negativeLookbehind _ _ r1 a rfl hd
  · exact (if_neg Bool.false_ne_true).mpr ⟨‹_›, k0.gn, k0.bn⟩

theorem allSpec (hN : N < 2 ^ 62) (hsrc : ∀ x ∈ src, x ≤ 0x10FFFF) : ∀ n, AllSpec src N n
  | 0 => by
    constructor
    · intro r s h; unfold consumeDisjunction; exact Wp.outOfFuel
    · intro r s h; unfold consumeDisjunctionLoop; exact Wp.outOfFuel
    · intro r s h; unfold consumeAlternative; exact Wp.outOfFuel
    · intro r s h; unfold consumeTerm; exact Wp.outOfFuel
    · intro r s h; unfold consumeAssertion; exact Wp.outOfFuel
    · intro r s h; unfold consumeAtom; exact Wp.outOfFuel
    · intro r s h; unfold consumeUncapturingGroup; exact Wp.outOfFuel
    · intro r s h; unfold consumeCapturingGroup; exact Wp.outOfFuel
  | n + 1 => by
    have ih := allSpec hN hsrc n
    have ih_disjunction := ih.disjunction
    have ih_disjunctionLoop := ih.disjunctionLoop
    have ih_alternative := ih.alternative
    have ih_term := ih.term
    have ih_assertion := ih.assertion
    have ih_atom := ih.atom
    constructor
    · intro r s h
      unfold consumeDisjunction
      rx4_auto
      rename_i _ s1 m a1 hat1 halt htr1 _ s2 r1 a2 hat2 hdt htr2 s3 hk hat3 _
      exact ⟨r1, a1 ++ a2, hat3, disj_of_tail (alt_of_tail' halt) hdt, (htr1.trans htr2).post hk⟩
    · intro r s h
      unfold consumeDisjunctionLoop
      rx4_auto
      · rename_i m hat0 _ s1 m2 a1 hat1 halt htr1 _ s2 r1 a2 hat2 hdt htr2
        exact ⟨r1, a1 ++ a2, hat2, DisjTail.cons m m2 r1 a1 a2 (alt_of_tail' halt) hdt,
          (Track.pre (s := s) (s1 := s.setPos src (s.reader.index + 1)) ⟨rfl, rfl⟩ htr1).trans htr2⟩
      · exact ⟨r, Attr.nil, h, DisjTail.nil r, Track.ofKeepN (KeepN.refl s)⟩
    · intro r s h
      unfold consumeAlternative
      rx4_auto
      · rename_i x r' s1 hat1 hk
        exact ⟨_, Attr.nil, hat1, AltTail.nil _, Track.ofKeepN hk⟩
      · rename_i x r' s1 m a1 hat1 hterm htr1 _ s2 r1 a2 hat2 htail htr2
        exact ⟨r1, a1 ++ a2, hat2, AltTail.cons _ m r1 a1 a2 hterm htail, htr1.trans htr2⟩
      · exact ⟨[], Attr.nil, h, AltTail.nil _, Track.ofKeepN (KeepN.refl s)⟩
    · intro r s h
      unfold consumeTerm
      rx4_auto
      · rename_i s1 hat1 hk1 s2 hat2 hk2
        rw [if_neg (by decide)]
        exact ⟨hat2, hk1.trans hk2⟩
      · rename_i s1 hat1 hk1 s2 m a hat2 hatom htr b s3 hb hk3 r1 hat3 hq
        subst hb
        rw [if_pos rfl]
        refine ⟨r1, a, hat3, ?_, (Track.pre hk1 htr).post hk3⟩
        rcases hq with rfl | hq
        · exact Derives.termAtom _ _ _ hatom
        · exact Derives.termQuantified _ m _ _ hatom hq
      · rename_i s1 r1 a hat1 hass htr
        rw [if_pos rfl]
        exact ⟨r1, a, hat1, Derives.termAssertion _ _ _ hass, htr⟩
    · intro r s h
      have hle := h.inv.le
      rw [consumeAssertion_succ_eq]
      rx4_auto
      · rw [if_pos rfl]; exact ⟨_, Attr.nil, by rx4_at, Derives.caret _, Track.ofKeepN ⟨rfl, rfl⟩⟩
      · rw [if_pos rfl]; exact ⟨_, Attr.nil, by rx4_at, Derives.dollar _, Track.ofKeepN ⟨rfl, rfl⟩⟩
      · rw [if_pos rfl]; exact ⟨_, Attr.nil, by rx4_at, Derives.notWordBoundary _, Track.ofKeepN ⟨rfl, rfl⟩⟩
      · rw [if_pos rfl]; exact ⟨_, Attr.nil, by rx4_at, Derives.wordBoundary _, Track.ofKeepN ⟨rfl, rfl⟩⟩
      · rename_i b s1 hpost
        cases b
        · rw [if_neg (by decide)] at hpost ⊢
          exact ⟨h.rest ▸ hpost.1, hpost.2.gn, hpost.2.bn⟩
        · rw [if_pos rfl] at hpost ⊢
          obtain ⟨r1, a, hat, hd, htr⟩ := hpost
          exact ⟨r1, a, hat, hd, htr.pre' ⟨rfl, rfl⟩⟩
      · rw [if_neg (by decide)]; exact ⟨by rx4_at, by rx4_keep⟩
    · intro r s h
      unfold consumeAtom
      refine .orM_track (.track_nil (consumePatternCharacter_wp hsrc r s h) ?_) fun s1 _ h1 => ?_
      · rintro _ ⟨x, r1, rfl, hpc, hat⟩
        exact ⟨r1, hat, .patternCharacter x r1 hpc⟩
      refine .orM_track (.track_nil ((eat_wp (P := fun y => y = c '.') h1 rfl).mono fun _ _ hq => ⟨hq.1.toN, hq.2⟩) ?_)
        fun s2 _ h2 => ?_
      · rintro _ ⟨y, r1, rfl, rfl, hat⟩
        exact ⟨r1, hat, .dot r1⟩
      refine .orM_track (consumeReverseSolidusAtomEscape_wp hN n r s2 h2) fun s3 _ h3 => ?_
      refine .orM_track (.track_nil (consumeCharacterClass_wp hsrc n r s3 h3)
        fun _ ⟨r1, hat, hc⟩ => ⟨r1, hat, .characterClass _ _ hc⟩) fun s4 _ h4 => ?_
      exact .orM_track (ih.uncapturingGroup r s4 h4) fun s5 _ h5 => ih.capturingGroup r s5 h5
    · intro r s h
      unfold consumeUncapturingGroup
      rx4_auto
      · rename_i m hat0 _ s1 a htr r1 hat1 hat2 hd
        rw [if_pos rfl]
        exact ⟨r1, a, by rx4_at, Derives.nonCapturing _ m r1 a rfl hd,
          Track.post (Track.pre' (s := s) htr ⟨rfl, rfl⟩) ⟨rfl, rfl⟩⟩
      · rw [if_neg (by decide)]
        exact ⟨h, KeepN.refl s⟩
    · intro r s h
      unfold consumeCapturingGroup
      rx4_auto
      · rename_i m hat0 b s1 hpost
        -- with or without a name, the specifier leaves a group entry
        have hg : ∃ m2 name, UAt src N m2 s1 ∧ GroupSpecifier m m2 name ∧
            Track (s.setPos src (s.reader.index + 1)) s1 ⟨[name], []⟩ := by
          cases b
          · obtain ⟨hat1, hk1⟩ := (if_neg Bool.false_ne_true).mp hpost
            exact ⟨m, none, hat1, .empty m, .ofKeepN_none hk1⟩
          · obtain ⟨m2, nm, hat1, hgs, htr1⟩ := (if_pos rfl).mp hpost
            exact ⟨m2, some nm, hat1, hgs, htr1⟩
        clear hpost
        obtain ⟨m2, name, hat1, hgs, htr1⟩ := hg
        rx4_auto
        rename_i _ s2 a htr r1 hat2 hat3 hd
        rw [if_pos rfl]
        refine ⟨r1, ⟨[name], []⟩ ++ a, by rx4_at, Derives.group m m2 r1 name a hgs hd, ?_⟩
        have h0 : Track s s1 ⟨[name], []⟩ := Track.pre' (s := s) htr1 ⟨rfl, rfl⟩
        exact Track.post (h0.trans htr) ⟨rfl, rfl⟩
      · rw [if_neg (by decide)]
        exact ⟨h, KeepN.refl s⟩

end DL.Rx
