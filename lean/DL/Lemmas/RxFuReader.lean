import DL.Lemmas.RxFu

/-! # Fuel adequacy: the reader (by direct computation) -/
namespace DL.Rx
variable {E : Nat}

theorem readerAt_spec (p : Nat) (s : St) :
    (readerAt p s = .ok none s ∧ s.reader.end_ ≤ p) ∨ (∃ c, readerAt p s = .ok (some c) s ∧ p < s.reader.end_)
      ∨ (∃ w, readerAt p s = .panic w s) := by
  show ((if p ≥ s.reader.end_ then (pure none : M (Option Nat)) else _) s = _ ∧ _) ∨
    (∃ c, (if p ≥ s.reader.end_ then (pure none : M (Option Nat)) else _) s = _ ∧ _) ∨
    (∃ w, (if p ≥ s.reader.end_ then (pure none : M (Option Nat)) else _) s = _)
  by_cases h1 : p ≥ s.reader.end_
  · rw [if_pos h1]; exact .inl ⟨rfl, h1⟩
  · rw [if_neg h1]
    have hlt : p < s.reader.end_ := by omega
    by_cases hu : s.reader.unicode = true
    · rw [if_pos hu]
      cases hx : s.reader.src[p]? with
      | some c => exact .inr (.inl ⟨c, rfl, hlt⟩)
      | none => exact .inr (.inr ⟨_, rfl⟩)
    · rw [if_neg hu]
      cases hx : (encodeUtf16 s.reader.src)[p]? with
      | some c => exact .inr (.inl ⟨c, rfl, hlt⟩)
      | none => exact .inr (.inr ⟨_, rfl⟩)

/-- outcome of a reader operation: `end` kept, position exactly `idx`, look-ahead inside `E`, and at least `k` long -/
def RL (E idx k : Nat) : Res Unit → Prop
  | .ok _ s => s.reader.end_ = E ∧ s.reader.index = idx ∧ idx + s.reader.cps.length ≤ E ∧ k ≤ s.reader.cps.length
  | .outOfFuel _ => False
  | _ => True

theorem rewindLoop_spec (idx : Nat) : ∀ (k j : Nat) (s : St), s.reader.end_ = E → s.reader.index = idx →
    s.reader.cps.length = j → idx + j ≤ E → RL E idx j (rewindLoop idx k j s)
  | 0, j, s, h1, h2, h3, h4 => ⟨h1, h2, by omega, by omega⟩
  | k + 1, j, s, h1, h2, h3, h4 => by
    unfold rewindLoop
    show RL E idx j (M.bind (readerAt (idx + j)) _ s)
    unfold M.bind
    rcases readerAt_spec (idx + j) s with ⟨h, _⟩ | ⟨c, h, hlt⟩ | ⟨w, h⟩
    · rw [h]; exact ⟨h1, h2, by omega, by omega⟩
    · rw [h]
      have := rewindLoop_spec idx k (j + 1)
        { s with reader := { s.reader with cps := s.reader.cps ++ [c] } } h1 h2
        (by show (s.reader.cps ++ [c]).length = j + 1; rw [List.length_append, h3]; rfl) (by omega)
      show RL E idx j (rewindLoop idx k (j + 1) _)
      cases hr : rewindLoop idx k (j + 1) { s with reader := { s.reader with cps := s.reader.cps ++ [c] } } with
      | ok a s' => rw [hr] at this; exact ⟨this.1, this.2.1, this.2.2.1, by have := this.2.2.2; omega⟩
      | err _ _ => trivial
      | panic _ _ => trivial
      | outOfFuel _ => rw [hr] at this; exact this
    · rw [h]; trivial

theorem rewind_spec (start : Nat) (s : St) (h1 : s.reader.end_ = E) (hs : start ≤ E) : RL E start 0 (rewind start s) :=
  rewindLoop_spec start 4 0 { s with reader := { s.reader with index := start, cps := [] } } h1 rfl rfl (by omega)

theorem advance_nil (s : St) (h : s.reader.cps = []) : advance s = .ok () s := by
  show (match s.reader.cps with | [] => (pure () : M Unit) | _ :: rest => _) s = _
  rw [h]; rfl

/-- `advance` with a non-empty look-ahead: position `+1` -/
theorem advance_cons (s : St) (c : Nat) (rest : List Nat) (h : s.reader.cps = c :: rest) (h1 : s.reader.end_ = E)
    (hl : s.reader.index + s.reader.cps.length ≤ E) : RL E (s.reader.index + 1) 0 (advance s) := by
  show RL E _ 0 ((match s.reader.cps with | [] => (pure () : M Unit) | _ :: rest => _) s)
  rw [h]
  rw [h] at hl
  have hl' : s.reader.index + 1 + rest.length ≤ E := by simp only [List.length_cons] at hl; omega
  show RL E _ 0 (M.bind (readerAt (s.reader.index + 1 + rest.length)) _
    { s with reader := { s.reader with index := s.reader.index + 1, cps := rest } })
  unfold M.bind
  rcases readerAt_spec (s.reader.index + 1 + rest.length)
      { s with reader := { s.reader with index := s.reader.index + 1, cps := rest } } with ⟨h', _⟩ | ⟨c', h', hlt⟩ | ⟨w, h'⟩
  · rw [h']; exact ⟨h1, rfl, hl', Nat.zero_le _⟩
  · rw [h']
    refine ⟨h1, rfl, ?_, Nat.zero_le _⟩
    show s.reader.index + 1 + (rest ++ [c']).length ≤ E
    have : s.reader.index + 1 + rest.length < E := by rw [← h1]; exact hlt
    rw [List.length_append]; simp only [List.length_cons, List.length_nil]; omega
  · rw [h']; trivial

theorem RL.post {idx k i : Nat} {r : Res Unit} (h : RL E idx k r) (hi : i ≤ idx) : Post E (fun _ => i) r := by
  cases r with
  | ok a s => exact ⟨h.1, by rw [h.2.1]; exact h.2.2.1, by rw [h.2.1]; exact hi, fun h => nomatch h⟩
  | err _ _ => trivial
  | panic _ _ => trivial
  | outOfFuel _ => exact h

theorem F.rewind (i : Nat) {ne : Bool} (start : Nat) (hs : start ≤ E) : Fu E i ne (rewind start) (fun _ => start) :=
  fun s hA => (rewind_spec start s hA.end_ hs).post (Nat.le_refl _)

theorem F.advance_ne (i : Nat) : Fu E i true advance (fun _ => i + 1) := by
  intro s hA
  cases hc : s.reader.cps with
  | nil => exact absurd hc (hA.nonempty rfl)
  | cons c rest => exact (advance_cons s c rest hc hA.end_ hA.look).post (by have := hA.pos; omega)

theorem F.advance (i : Nat) {ne : Bool} : Fu E i ne advance (fun _ => i) := by
  intro s hA
  cases hc : s.reader.cps with
  | nil => rw [advance_nil s hc]; exact hA.weaken (Nat.le_refl _)
  | cons c rest => exact (advance_cons s c rest hc hA.end_ hA.look).post (by have := hA.pos; omega)

theorem A.ne_of_cons {i : Nat} {ne : Bool} {s : St} (h : A E i ne s) {c : Nat} {rest : List Nat}
    (hc : s.reader.cps = c :: rest) : A E i true s :=
  ⟨h.end_, h.look, h.pos, fun _ => by rw [hc]; exact List.cons_ne_nil _ _⟩

theorem F.eat (i : Nat) {ne : Bool} (x : Char) : Fu E i ne (eat x) (fun b => i + b.toNat) := by
  intro s hA
  show Post E _ ((match s.reader.cps with
    | c :: _ => if (c == ch x) = true then (DL.Rx.advance >>= fun _ => (pure true : M Bool)) else pure false
    | [] => pure false) s)
  cases hc : s.reader.cps with
  | nil => exact hA.weaken (Nat.le_refl _)
  | cons c rest =>
    dsimp only
    by_cases hx : (c == ch x) = true
    · rw [if_pos hx]
      have h : Fu E i true (DL.Rx.advance >>= fun _ => (pure true : M Bool)) (fun b => i + b.toNat) :=
        Fu.bind (F.advance_ne i) fun _ => Fu.pure (Nat.le_refl _)
      exact h s (hA.ne_of_cons hc)
    · rw [if_neg hx]; exact hA.weaken (Nat.le_refl _)

theorem F.eat2 (i : Nat) {ne : Bool} (x y : Char) : Fu E i ne (eat2 x y) (fun b => i + b.toNat) := by
  intro s hA
  show Post E _ ((match s.reader.cps with
    | c1 :: c2 :: _ => if (c1 == ch x && c2 == ch y) = true then
        (DL.Rx.advance >>= fun _ => DL.Rx.advance >>= fun _ => (pure true : M Bool)) else pure false
    | _ => pure false) s)
  cases hc : s.reader.cps with
  | nil => exact hA.weaken (Nat.le_refl _)
  | cons c rest =>
    cases rest with
    | nil => exact hA.weaken (Nat.le_refl _)
    | cons c2 rest2 =>
      dsimp only
      by_cases hx : (c == ch x && c2 == ch y) = true
      · rw [if_pos hx]
        have h : Fu E i true (DL.Rx.advance >>= fun _ => DL.Rx.advance >>= fun _ => (pure true : M Bool))
            (fun b => i + b.toNat) :=
          Fu.bind (F.advance_ne i) fun _ => Fu.bind (F.advance (i + 1)) fun _ => Fu.pure (Nat.le_refl _)
        exact h s (hA.ne_of_cons hc)
      · rw [if_neg hx]; exact hA.weaken (Nat.le_refl _)

theorem F.eat3 (i : Nat) {ne : Bool} (x y z : Char) : Fu E i ne (eat3 x y z) (fun b => i + b.toNat) := by
  intro s hA
  show Post E _ ((match s.reader.cps with
    | c1 :: c2 :: c3 :: _ => if (c1 == ch x && c2 == ch y && c3 == ch z) = true then
        (DL.Rx.advance >>= fun _ => DL.Rx.advance >>= fun _ => DL.Rx.advance >>= fun _ => (pure true : M Bool)) else pure false
    | _ => pure false) s)
  cases hc : s.reader.cps with
  | nil => exact hA.weaken (Nat.le_refl _)
  | cons c rest =>
    cases rest with
    | nil => exact hA.weaken (Nat.le_refl _)
    | cons c2 rest2 =>
      cases rest2 with
      | nil => exact hA.weaken (Nat.le_refl _)
      | cons c3 rest3 =>
        dsimp only
        by_cases hx : (c == ch x && c2 == ch y && c3 == ch z) = true
        · rw [if_pos hx]
          have h : Fu E i true (DL.Rx.advance >>= fun _ => DL.Rx.advance >>= fun _ => DL.Rx.advance >>= fun _ =>
              (pure true : M Bool)) (fun b => i + b.toNat) :=
            Fu.bind (F.advance_ne i) fun _ => Fu.bind (F.advance (i + 1)) fun _ =>
              Fu.bind (F.advance (i + 1)) fun _ => Fu.pure (Nat.le_refl _)
          exact h s (hA.ne_of_cons hc)
        · rw [if_neg hx]; exact hA.weaken (Nat.le_refl _)

end DL.Rx
