import DL.Lemmas.RxBTop
import DL.Lemmas.RxSpecScanG

/-! # Annex B (no `u` flag): the scan of `count_capturing_parens` counts the capturing groups of a derivation -/
namespace DL.Rx
open DL.RxSpec DL.Gen.Unicode

theorem octalDigit_neutral {x : Nat} (h : RxSpecB.OctalDigit x) : NeutralC x := by
  have h' : 0x30 ≤ x ∧ x ≤ 0x37 := h
  unfold NeutralC; omega

theorem legacyOctal_SE {i r : List Nat} {v : Nat} (h : RxSpecB.LegacyOctalEscapeSequence i r v) : SE i r := by
  cases h with
  | zero89 | one => exact SE.cons _ _
  | two03 _ _ _ _ hb | two47 _ _ _ _ hb => exact (SE.cons _ _).trans (SN.cons (octalDigit_neutral hb) _)
  | three a b d r _ hb hd =>
    exact (SE.cons _ _).trans ((SN.cons (octalDigit_neutral hb) _).trans (SN.cons (octalDigit_neutral hd) _))

theorem characterEscapeB_SE {nf : Bool} {i r : List Nat} {v : Nat} (h : RxSpecB.CharacterEscape nf i r v) : SE i r := by
  cases h with
  | f | n | r | t | v | zero | identity => exact SE.cons _ _
  | controlLetter l r hl => exact (SE.cons _ _).trans (SN.cons (controlLetter_neutral hl) _)
  | hex a b r ha hb =>
    exact (SE.cons _ _).trans ((SN.cons (hexDigit_neutral ha) _).trans (SN.cons (hexDigit_neutral hb) _))
  | unicode m r v h => exact (SE.cons _ _).trans (hex4_SN h)
  | legacyOctal _ _ _ h => exact legacyOctal_SE h

theorem characterClassEscapeB_SE {i r : List Nat} (h : RxSpecB.CharacterClassEscape i r) : SE i r := by
  obtain ⟨x, rfl, _⟩ := h
  exact SE.cons _ _

theorem surrogatePair_SN {i r : List Nat} {v : Nat} (h : RxSpecB.SurrogatePair i r v) : SN i r := by
  obtain ⟨l, t, rfl, hl, ht, _⟩ := h
  unfold isLead at hl; unfold isTrail at ht
  exact (SN.cons (by unfold NeutralC; omega) _).trans (SN.cons (by unfold NeutralC; omega) _)

theorem idStartB_SN {i r : List Nat} {x : Nat} (h : RxSpecB.RegExpIdentifierStart i r x) : SN i r := by
  cases h with
  | char x r hx => exact SN.cons (identifierStartChar_neutral hx) _
  | escape m r v hu _ => exact SN.backslash (rues_SE hu)
  | pair _ _ _ hp _ => exact surrogatePair_SN hp

theorem idPartB_SN {i r : List Nat} {x : Nat} (h : RxSpecB.RegExpIdentifierPart i r x) : SN i r := by
  cases h with
  | char x r hx => exact SN.cons (identifierPartChar_neutral hx) _
  | escape m r v hu _ => exact SN.backslash (rues_SE hu)
  | pair _ _ _ hp _ => exact surrogatePair_SN hp

theorem idNameB_SN {i r : List Nat} {n : Name} (h : RxSpecB.RegExpIdentifierName i r n) : SN i r := by
  induction h
  · rename_i h; exact idStartB_SN h
  · rename_i hp ih; exact ih.trans (idPartB_SN hp)

theorem groupNameB_SN {i r : List Nat} {n : Name} (h : RxSpecB.GroupName i r n) : SN i r := by
  obtain ⟨m, rfl, hn⟩ := h
  exact (SN.cons (by unfold NeutralC; decide) _).trans ((idNameB_SN hn).trans (SN.cons (by unfold NeutralC; decide) _))

theorem atomEscapeB_SE {nf : Bool} {N : Nat} {i r : List Nat} {a : Attr} (h : RxSpecB.AtomEscape nf N i r a) :
    SE i r ∧ a.groups = [] := by
  cases h with
  | decimal _ _ v h _ => exact ⟨decimalEscape_SE h, rfl⟩
  | characterClass _ _ h => exact ⟨characterClassEscapeB_SE h, rfl⟩
  | character _ _ v h _ _ => exact ⟨characterEscapeB_SE h, rfl⟩
  | named m r n _ h => exact ⟨(SE.cons _ _).trans (groupNameB_SN h), rfl⟩

theorem classEscapeB_SE {nf : Bool} {i r : List Nat} {v : Option Nat} (h : RxSpecB.ClassEscape nf i r v) : SE i r := by
  cases h with
  | b r => exact SE.cons _ _
  | classControl l r hl =>
    refine (SE.cons _ _).trans (SN.cons ?_ _)
    rcases hl with hl | hl
    · exact decimalDigit_neutral hl
    · have : l = 0x5f := hl
      unfold NeutralC; omega
  | characterClass _ _ h => exact characterClassEscapeB_SE h
  | character _ _ v h _ _ => exact characterEscapeB_SE h

theorem classAtomNoDashB_SC {nf : Bool} {i r : List Nat} {v : Option Nat} (h : RxSpecB.ClassAtomNoDash nf i r v) :
    SC i r := by
  cases h with
  | char x r _ h1 h2 _ => exact fun k => scan_inClass h1 h2 r k
  | escape m r v h => exact fun k => (SN.backslash (classEscapeB_SE h)) true k
  | backslashC r _ =>
    intro k
    have e1 : scan (c '\\' :: c 'c' :: r) true false k = scan r true false k :=
      (SN.backslash (SE.cons _ _)) true k
    have e2 : scan (c 'c' :: r) true false k = scan r true false k := scan_inClass (by decide) (by decide) r k
    rw [e1, e2]

theorem classAtomB_SC {nf : Bool} {i r : List Nat} {v : Option Nat} (h : RxSpecB.ClassAtom nf i r v) : SC i r := by
  cases h with
  | dash r => exact fun k => scan_inClass (by decide) (by decide) r k
  | noDash _ _ v h => exact classAtomNoDashB_SC h

theorem crB_SC {nf : Bool} {sym : CRSym} {i r : List Nat} (h : RxSpecB.CR nf sym i r) : SC i r := by
  induction h with
  | empty r => exact fun _ => rfl
  | nonempty i r _ ih => exact ih
  | atom _ _ _ h | ndAtom _ _ _ h => exact classAtomB_SC h
  | atomMore i m r v h _ ih => exact (classAtomB_SC h).trans ih
  | range i m₁ m₂ r a b ha hb _ _ ih => exact ((classAtomB_SC ha).trans ((dash_SC _).trans (classAtomB_SC hb))).trans ih
  | ndAtomMore i m r v h _ ih => exact (classAtomNoDashB_SC h).trans ih
  | ndRange i m₁ m₂ r a b ha hb _ _ ih =>
    exact ((classAtomNoDashB_SC ha).trans ((dash_SC _).trans (classAtomB_SC hb))).trans ih

theorem characterClassB_SO {nf : Bool} {i r : List Nat} (h : RxSpecB.CharacterClass nf i r) : SO i r := by
  cases h with
  | pos m r _ hcr =>
    intro k
    have h1 : scan (c '[' :: m) false false k = scan m true false k := scan_open m k
    have h2 : scan (c ']' :: r) true false k = scan r false false k := scan_close r k
    rw [h1, crB_SC hcr k, h2]
  | neg m r hcr =>
    intro k
    have h1 : scan (c '[' :: c '^' :: m) false false k = scan m true false k :=
      (scan_open _ k).trans (scan_inClass (x := 0x5E) (by decide) (by decide) m k)
    have h2 : scan (c ']' :: r) true false k = scan r false false k := scan_close r k
    rw [h1, crB_SC hcr k, h2]

def isTAAB : RxSpecB.Sym → Bool
  | .Term | .Assertion | .QuantifiableAssertion | .ExtendedAtom => true
  | _ => false

/-- no phrase starts with `?` -/
theorem derives_headB {nf : Bool} {qok : Nat → Nat → Prop} {N : Nat} {sym : RxSpecB.Sym} {i r : List Nat} {a : Attr}
    (h : RxSpecB.Derives nf qok N sym i r a) : (r.head? ≠ some (c '?') ∨ isTAAB sym = true) → i.head? ≠ some (c '?') := by
  induction h with
  | disjOne i r a _ ih => exact fun h => ih (h.imp id (fun h => by cases h))
  | disjMore i m r a₁ a₂ _ _ ih1 _ => exact fun _ => ih1 (.inl (head_cons_ne (by decide) _))
  | altEmpty r => exact fun h => h.elim id (fun h => by cases h)
  | altSnoc i m r a₁ a₂ _ _ ih1 ih2 => exact fun _ => ih1 (.inl (ih2 (.inr rfl)))
  | termQAssertionQuantified _ _ _ _ _ _ ih | termAssertion _ _ _ _ ih | termAtomQuantified _ _ _ _ _ _ _ ih
  | termAtom _ _ _ _ _ ih | quantifiable _ _ _ _ ih => exact fun _ => ih (.inr rfl)
  | caret | dollar | wordBoundary | notWordBoundary | dot | atomEscape | backslashC | group =>
    exact fun _ => head_cons_ne (by decide) _
  | lookahead _ _ _ _ hl | negativeLookahead _ _ _ _ hl | lookbehind _ _ _ _ hl | negativeLookbehind _ _ _ _ hl
  | nonCapturing _ _ _ _ hl => exact fun _ => by rw [lit_head hl]; decide
  | characterClass i r hc =>
    intro _
    cases hc <;> exact head_cons_ne (by decide) _
  | extendedPatternCharacter x r hx _ =>
    intro _ he
    have : x = c '?' := by simpa using he
    subst this
    exact hx.2 (by decide)

theorem idName_headB {i r : List Nat} {n : Name} (h : RxSpecB.RegExpIdentifierName i r n) :
    i.head? ≠ some (ch '=') ∧ i.head? ≠ some (ch '!') := by
  induction h with
  | start _ _ hs =>
    cases hs with
    | char x _ hx => exact ⟨head_cons_ne (idStart_ne hx).1 _, head_cons_ne (idStart_ne hx).2 _⟩
    | escape m _ _ _ _ => exact ⟨head_cons_ne (by decide) _, head_cons_ne (by decide) _⟩
    | pair _ _ _ hp _ =>
      obtain ⟨l, t, rfl, hl, _, _⟩ := hp
      unfold isLead at hl
      exact ⟨head_cons_ne (by intro e; rw [e] at hl; revert hl; decide) _,
        head_cons_ne (by intro e; rw [e] at hl; revert hl; decide) _⟩
  | part _ _ _ _ _ _ ih => exact ih

theorem extendedPatternCharacter_neutral {x : Nat} (h : RxSpecB.ExtendedPatternCharacter x) : NeutralC x ∨ x = 0x5D := by
  have hx := h.2
  simp only [List.mem_cons, List.not_mem_nil, or_false, not_or] at hx
  by_cases h5 : x = 0x5D
  · exact .inr h5
  · exact .inl ⟨hx.2.2.1, hx.2.2.2.2.2.2.2.2.2.1, h5, hx.2.2.2.2.2.2.2.1⟩

theorem scan_rbracket_out (r : List Nat) (k : Nat) : scan (0x5D :: r) false false k = scan r false false k := by
  simp [scan, ch_vals.1, ch_vals.2.1, ch_vals.2.2.1]

theorem derives_scanB {nf : Bool} {qok : Nat → Nat → Prop} {N : Nat} {sym : RxSpecB.Sym} {i r : List Nat} {a : Attr}
    (h : RxSpecB.Derives nf qok N sym i r a) : ∀ k, scan i false false k = scan r false false (k + a.groups.length) := by
  induction h with
  | disjOne _ _ _ _ ih | termAssertion _ _ _ _ ih | termAtom _ _ _ _ _ ih | quantifiable _ _ _ _ ih => exact ih
  | disjMore i m r a₁ a₂ _ _ ih1 ih2 =>
    intro k
    rw [ih1 k, scan_neutral (neutral_of_ne (by decide)), ih2, Attr.append_groups, List.length_append, Nat.add_assoc]
  | altEmpty r => exact fun k => rfl
  | altSnoc i m r a₁ a₂ _ _ ih1 ih2 =>
    intro k
    rw [ih1 k, ih2, Attr.append_groups, List.length_append, Nat.add_assoc]
  | termQAssertionQuantified _ _ _ _ _ hq ih | termAtomQuantified _ _ _ _ _ hq _ ih =>
    intro k
    rw [ih k, quantifier_SN hq false]
  | caret r | dollar r | dot r => exact fun k => scan_neutral (neutral_of_ne (by decide)) r false k
  | wordBoundary | notWordBoundary => exact fun k => (SN.backslash (SE.cons _ _)) false k
  | lookahead i m r a hl _ ih =>
    intro k
    unfold lit at hl; subst hl
    show scan (0x28 :: 0x3F :: 0x3D :: m) false false k = _
    rw [scan_paren_skip k (by rw [ch_vals.2.2.2.2.1, ch_vals.2.2.2.2.2.1]; rfl),
      scan_neutral (neutral_of_ne (by decide)), scan_neutral (neutral_of_ne (by decide)), ih,
      scan_neutral (neutral_of_ne (by decide))]
  | negativeLookahead i m r a hl _ ih =>
    intro k
    unfold lit at hl; subst hl
    show scan (0x28 :: 0x3F :: 0x21 :: m) false false k = _
    rw [scan_paren_skip k (by rw [ch_vals.2.2.2.2.1, ch_vals.2.2.2.2.2.1]; rfl),
      scan_neutral (neutral_of_ne (by decide)), scan_neutral (neutral_of_ne (by decide)), ih,
      scan_neutral (neutral_of_ne (by decide))]
  | lookbehind i m r a hl _ ih =>
    intro k
    unfold lit at hl; subst hl
    show scan (0x28 :: 0x3F :: 0x3C :: 0x3D :: m) false false k = _
    rw [scan_paren_skip k (by rw [ch_vals.2.2.2.2.1, ch_vals.2.2.2.2.2.1, ch_vals.2.2.2.2.2.2.1]; rfl),
      scan_neutral (neutral_of_ne (by decide)), scan_neutral (neutral_of_ne (by decide)),
      scan_neutral (neutral_of_ne (by decide)), ih, scan_neutral (neutral_of_ne (by decide))]
  | negativeLookbehind i m r a hl _ ih =>
    intro k
    unfold lit at hl; subst hl
    show scan (0x28 :: 0x3F :: 0x3C :: 0x21 :: m) false false k = _
    rw [scan_paren_skip k (by rw [ch_vals.2.2.2.2.1, ch_vals.2.2.2.2.2.1, ch_vals.2.2.2.2.2.2.1, ch_vals.2.2.2.2.2.2.2]; rfl),
      scan_neutral (neutral_of_ne (by decide)), scan_neutral (neutral_of_ne (by decide)),
      scan_neutral (neutral_of_ne (by decide)), ih, scan_neutral (neutral_of_ne (by decide))]
  | extendedPatternCharacter x r hx _ =>
    intro k
    rcases extendedPatternCharacter_neutral hx with hn | hn
    · exact scan_neutral hn r false k
    · subst hn; exact scan_rbracket_out r k
  | backslashC r _ =>
    intro k
    have e1 : scan (c '\\' :: c 'c' :: r) false false k = scan r false false k :=
      (SN.backslash (SE.cons _ _)) false k
    have e2 : scan (c 'c' :: r) false false k = scan r false false k := scan_neutral (neutral_of_ne (by decide)) r false k
    show _ = scan (c 'c' :: r) false false (k + 0)
    rw [e1, Nat.add_zero, e2]
  | atomEscape m r a hae =>
    intro k
    have := atomEscapeB_SE hae
    rw [this.2, (SN.backslash this.1) false k]; rfl
  | characterClass i r hc => exact fun k => characterClassB_SO hc k
  | group m₁ m₂ r name a hgs hd ih =>
    intro k
    have hcount : ([name] ++ a.groups).length = 1 + a.groups.length := by simp; omega
    show scan (0x28 :: m₁) false false k = scan r false false (k + ([name] ++ a.groups).length)
    rw [hcount]
    cases hgs with
    | empty _ =>
      have hh := derives_headB hd (.inl (head_cons_ne (by decide) _))
      rw [scan_paren_count k (by
        have : m₁[0]? ≠ some (ch '?') := by rw [← List.head?_eq_getElem?]; exact hh
        simp [this]), ih, scan_neutral (neutral_of_ne (by decide))]
      congr 1; omega
    | named m _ n hgn =>
      obtain ⟨m', rfl, hn⟩ := hgn
      have hh := idName_headB hn
      rw [scan_paren_count k (by
        have h1 : m'[0]? ≠ some (ch '=') := by rw [← List.head?_eq_getElem?]; exact hh.1
        have h2 : m'[0]? ≠ some (ch '!') := by rw [← List.head?_eq_getElem?]; exact hh.2
        show ((c '?' :: c '<' :: m')[0]? != some (ch '?') ||
          ((c '?' :: c '<' :: m')[1]? == some (ch '<') && (c '?' :: c '<' :: m')[2]? != some (ch '=') &&
            (c '?' :: c '<' :: m')[2]? != some (ch '!'))) = true
        show (_ || (_ && m'[0]? != some (ch '=') && m'[0]? != some (ch '!'))) = true
        simp [h1, h2]),
        scan_neutral (neutral_of_ne (by decide)), scan_neutral (neutral_of_ne (by decide)), (idNameB_SN hn) false,
        scan_neutral (neutral_of_ne (by decide)), ih, scan_neutral (neutral_of_ne (by decide))]
      congr 1; omega
  | nonCapturing i m r a hl _ ih =>
    intro k
    unfold lit at hl; subst hl
    show scan (0x28 :: 0x3F :: 0x3A :: m) false false k = _
    rw [scan_paren_skip k (by rw [ch_vals.2.2.2.2.1, ch_vals.2.2.2.2.2.1]; rfl),
      scan_neutral (neutral_of_ne (by decide)), scan_neutral (neutral_of_ne (by decide)), ih,
      scan_neutral (neutral_of_ne (by decide))]


end DL.Rx
