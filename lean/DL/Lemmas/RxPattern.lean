import DL.Lemmas.RxName

/-! # Escapes, classes, quantifiers, atoms, the recursive productions, `consume_pattern`, `validate_pattern`: they preserve `Inv` -/
namespace DL.Rx
attribute [local irreducible] isScalar

@[rx_ok] theorem OK.consumeKGroupName (fuel : Nat) : OK (consumeKGroupName fuel) := by
  unfold DL.Rx.consumeKGroupName; rx_auto

@[rx_ok] theorem OK.consumeCharacterEscape (fuel : Nat) : OK (consumeCharacterEscape fuel) := by
  unfold DL.Rx.consumeCharacterEscape; rx_auto

@[rx_ok] theorem OK.consumeCharacterClassEscape (fuel : Nat) : OK (consumeCharacterClassEscape fuel) := by
  unfold DL.Rx.consumeCharacterClassEscape; rx_auto

@[rx_ok] theorem OK.consumeBackreference (fuel : Nat) : OK (consumeBackreference fuel) := by
  unfold DL.Rx.consumeBackreference; rx_auto

@[rx_ok] theorem OK.consumeAtomEscape (fuel : Nat) : OK (consumeAtomEscape fuel) := by
  unfold DL.Rx.consumeAtomEscape; rx_auto

@[rx_ok] theorem OK.consumeClassEscape (fuel : Nat) : OK (consumeClassEscape fuel) := by
  unfold DL.Rx.consumeClassEscape; rx_auto

@[rx_ok] theorem OK.consumeClassAtom (fuel : Nat) : OK (consumeClassAtom fuel) := by
  unfold DL.Rx.consumeClassAtom; rx_auto

@[rx_ok] theorem OK.consumeClassRanges : ∀ n, OK (consumeClassRanges n)
  | 0 => Keeps.outOfFuel
  | n + 1 => by
    have ih := OK.consumeClassRanges n
    unfold DL.Rx.consumeClassRanges; rx_auto

@[rx_ok] theorem OK.consumeCharacterClass (fuel : Nat) : OK (consumeCharacterClass fuel) := by
  unfold DL.Rx.consumeCharacterClass; rx_auto

@[rx_ok] theorem OK.eatBracedQuantifier (fuel : Nat) (noError : Bool) : OK (eatBracedQuantifier fuel noError) := by
  unfold DL.Rx.eatBracedQuantifier; rx_auto

@[rx_ok] theorem OK.consumeQuantifier (fuel : Nat) (noConsume : Bool) : OK (consumeQuantifier fuel noConsume) := by
  unfold DL.Rx.consumeQuantifier; rx_auto

@[rx_ok] theorem OK.consumeOptionalQuantifier (fuel : Nat) : OK (consumeOptionalQuantifier fuel) := by
  unfold DL.Rx.consumeOptionalQuantifier; rx_auto

@[rx_ok] theorem OK.consumeReverseSolidusAtomEscape (fuel : Nat) : OK (consumeReverseSolidusAtomEscape fuel) := by
  unfold DL.Rx.consumeReverseSolidusAtomEscape; rx_auto

@[rx_ok] theorem OK.consumeReverseSolidusFollowedByC : OK consumeReverseSolidusFollowedByC := by
  unfold DL.Rx.consumeReverseSolidusFollowedByC; rx_auto

@[rx_ok] theorem OK.consumeInvalidBracedQuantifier (fuel : Nat) : OK (consumeInvalidBracedQuantifier fuel) := by
  unfold DL.Rx.consumeInvalidBracedQuantifier; rx_auto

@[rx_ok] theorem OK.consumePatternCharacter : OK consumePatternCharacter := by
  unfold DL.Rx.consumePatternCharacter; rx_auto

@[rx_ok] theorem OK.consumeExtendedPatternCharacter : OK consumeExtendedPatternCharacter := by
  unfold DL.Rx.consumeExtendedPatternCharacter; rx_auto

@[rx_ok] theorem OK.consumeGroupSpecifier (fuel : Nat) : OK (consumeGroupSpecifier fuel) := by
  unfold DL.Rx.consumeGroupSpecifier; rx_auto

/-! the recursive productions (disjunction → alternative → term → atom → group → disjunction), by induction on fuel -/

structure AllOK (n : Nat) : Prop where
  disjunction : OK (consumeDisjunction n)
  disjunctionLoop : OK (consumeDisjunctionLoop n)
  alternative : OK (consumeAlternative n)
  term : OK (consumeTerm n)
  assertion : OK (consumeAssertion n)
  atom : OK (consumeAtom n)
  extendedAtom : OK (consumeExtendedAtom n)
  uncapturingGroup : OK (consumeUncapturingGroup n)
  capturingGroup : OK (consumeCapturingGroup n)

theorem allOK : ∀ n, AllOK n
  | 0 => by
    constructor
    · unfold consumeDisjunction; exact Keeps.outOfFuel
    · unfold consumeDisjunctionLoop; exact Keeps.outOfFuel
    · unfold consumeAlternative; exact Keeps.outOfFuel
    · unfold consumeTerm; exact Keeps.outOfFuel
    · unfold consumeAssertion; exact Keeps.outOfFuel
    · unfold consumeAtom; exact Keeps.outOfFuel
    · unfold consumeExtendedAtom; exact Keeps.outOfFuel
    · unfold consumeUncapturingGroup; exact Keeps.outOfFuel
    · unfold consumeCapturingGroup; exact Keeps.outOfFuel
  | n + 1 => by
    have ih := allOK n
    have h1 := ih.disjunction
    have h2 := ih.disjunctionLoop
    have h3 := ih.alternative
    have h4 := ih.term
    have h5 := ih.assertion
    have h6 := ih.atom
    have h7 := ih.extendedAtom
    have h8 := ih.uncapturingGroup
    have h9 := ih.capturingGroup
    constructor
    · unfold consumeDisjunction; rx_auto
    · unfold consumeDisjunctionLoop; rx_auto
    · unfold consumeAlternative; rx_auto
    · unfold consumeTerm; rx_auto
    · unfold consumeAssertion; rx_auto
    · unfold consumeAtom; rx_auto
    · unfold consumeExtendedAtom; rx_auto
    · unfold consumeUncapturingGroup; rx_auto
    · unfold consumeCapturingGroup; rx_auto

@[rx_ok] theorem OK.consumeDisjunction (n : Nat) : OK (consumeDisjunction n) := (allOK n).disjunction

theorem OK.countCapturingParensLoop : ∀ n inClass escaped count, OK (countCapturingParensLoop n inClass escaped count)
  | 0, _, _, _ => Keeps.outOfFuel
  | n + 1, inClass, escaped, count => by
    have ih := OK.countCapturingParensLoop n
    unfold DL.Rx.countCapturingParensLoop; rx_auto
    all_goals exact ih _ _ _

@[rx_ok] theorem OK.countCapturingParens (fuel : Nat) : OK (countCapturingParens fuel) := by
  have := OK.countCapturingParensLoop fuel false false 0
  unfold DL.Rx.countCapturingParens; rx_auto

@[rx_ok] theorem OK.consumePattern (fuel : Nat) : OK (consumePattern fuel) := by
  unfold DL.Rx.consumePattern; rx_auto

/-- `validate_pattern` from ANY state: `reset` establishes the reader invariant (`end` is the length of the very unit
list the reader indexes), everything after it preserves it -/
theorem validatePattern_safe (fuel : Nat) (source : List Nat) (uFlag : Bool) :
    Safe (fun _ => True) (validatePattern fuel source uFlag) (fun _ => Inv) := by
  unfold validatePattern
  refine Safe.bind (R := fun _ _ => True) (Safe.modSt fun _ _ => trivial) fun _ => ?_
  refine Safe.bind (R := fun _ => Inv) (reset_establishes source 0 _ uFlag ?_) fun _ => ?_
  · cases uFlag
    · exact Nat.le_refl _
    · exact Nat.le_refl _
  rx_auto

end DL.Rx
