import DL.Lemmas.CFSoundMain

/-! The `unreachable` flag a statement records under its own position, and the statement positions strictly inside it
(`s.upos.tail`). -/
namespace DL.CF

/-- with pairwise distinct positions, a statement's own position is not the position of a statement inside it: those lie
among the positions of its parts -/
theorem Stmt.pos_not_sub (s : Stmt) (h : s.positions.Nodup) : s.pos ∉ s.upos.tail := by
  cases s with
  | simple p t kids => exact (Stmt.simple_own_sep p t kids h).1
  | ifS p t c a => cases a <;> exact fun hm => (List.nodup_cons.mp h).1 (Stmt.upos_rest _ _ hm)
  | _ => exact fun hm => (List.nodup_cons.mp h).1 (Stmt.upos_rest _ _ hm)

/-- the strongest reading of the invariant at the statement's own position: take "live" to mean "the scope has not
ended".  If the end recorded under the position of a statement (not an expression/declaration statement) stops although
the statement can complete normally, the scope had already ended when the statement was visited — and the statement is
marked `unreachable`. -/
theorem Stmt.own_stops (s : Stmt) (ls : List Id) (a : A) (hf : s.inF = true) (hpre : PreK s.positions a)
    (hde : s.isDeclOrExpr = false) (hst : stopsEnd ((visitStmt s a).info.endAt s.pos) = true) (hn : (s.compl ls).n = true) :
    (visitStmt s a).info.ur s.pos = true := by
  have hP : Pre (!stopsEnd a.sc.end_) s.positions a := ⟨fun h => by simp [h], hpre.fresh, hpre.nodup⟩
  have hpost := visitStmt_ok s ls _ a hf hP
  have h4 := hpost.p4 hde hst
  rw [hn] at h4
  have hstop : stopsEnd a.sc.end_ = true := by simpa using h4
  rw [Stmt.own_ur s a (s.pos_not_sub hpre.nodup)]
  cases s with
  | simple p t kids =>
    -- nothing is ever recorded under the position of such a statement
    exfalso
    rw [Stmt.isDeclOrExpr_simple] at hde
    have hpos := Stmt.positions_simple_nde p t kids hde
    have hnd := hpre.nodup; rw [hpos] at hnd
    have hp : p ∉ kids.positions := (List.nodup_cons.mp hnd).1
    simp only [visitStmt, Stmt.pos] at hst
    rw [endAt_eq_of_info_eq ((Kids.writes kids _).info p hp), endAt_setUnreach, hpre.fresh p (by rw [hpos]; simp)] at hst
    simp at hst
  | _ => simp [Stmt.tag, unreachableFlag, hstop]

end DL.CF
