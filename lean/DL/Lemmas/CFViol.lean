import DL.Lemmas.CFOwn

/-! The rule layers read the final metadata at keys inside the program: `stopViol` at statement positions, pointwise
(`SVLocal`), the switch cases and function bodies (`swCases`, `getters`) at keys that `CSK` and `GIn` locate.  `Claims` is
what the rule layers may rely on there, and is transported along metadata that agree on those keys. -/
namespace DL.CF

theorem metaStops_eq (info : Info) (p : Nat) : metaStops info p = stopsEnd (info.endAt p) := by
  unfold metaStops Info.endAt
  cases h : info p with
  | none => rfl
  | some m =>
    obtain ⟨u, e⟩ := m
    rcases e with _ | ⟨r, t, i⟩ | _ | _ <;> rfl

theorem metaStops_congr {info info' : Info} {p : Nat} (h : info' p = info p) : metaStops info' p = metaStops info p := by
  unfold metaStops; rw [h]

theorem mem_stopHere {info : Info} {ls : List Id} {s : Stmt} {q : Nat} (h : q ∈ stopHere info ls s) :
    q = s.pos ∧ s.isDeclOrExpr = false ∧ metaStops info s.pos = true ∧ (s.compl ls).n = true := by
  unfold stopHere at h
  by_cases hc : (!isDeclOrExpr s && metaStops info s.pos && (s.compl ls).n) = true
  · rw [if_pos hc] at h
    simp only [List.mem_singleton] at h
    simp only [Bool.and_eq_true, Bool.not_eq_true', isDeclOrExpr] at hc
    exact ⟨h, hc.1.1, hc.1.2, hc.2⟩
  · rw [if_neg hc] at h; cases h

theorem stopHere_mem {info : Info} {ls : List Id} {s : Stmt} (h1 : s.isDeclOrExpr = false) (h2 : metaStops info s.pos = true)
    (h3 : (s.compl ls).n = true) : s.pos ∈ stopHere info ls s := by
  unfold stopHere
  simp [isDeclOrExpr, h1, h2, h3]

theorem stopHere_congr {info info' : Info} {ls : List Id} {s : Stmt} {q : Nat} (h : q ∈ stopHere info' ls s)
    (hq : info' q = info q) : q ∈ stopHere info ls s := by
  obtain ⟨h0, h1, h2, h3⟩ := mem_stopHere h
  subst h0
  rw [metaStops_congr hq] at h2
  exact stopHere_mem h1 h2 h3

/-- `q ∈ X.stopViol info'` only depends on `info' q`; and such a `q` is a statement position of `X` -/
def SVLocal (f : Info → List Nat) (us : List Nat) : Prop :=
  ∀ (info info' : Info) (q : Nat), q ∈ f info' → q ∈ us ∧ (info' q = info q → q ∈ f info)

theorem SVLocal.append {f g : Info → List Nat} {us vs : List Nat} (hf : SVLocal f us) (hg : SVLocal g vs) :
    SVLocal (fun i => f i ++ g i) (us ++ vs) := by
  intro info info' q hq
  rcases List.mem_append.mp hq with h | h
  · exact ⟨List.mem_append.mpr (Or.inl (hf info info' q h).1), fun e => List.mem_append.mpr (Or.inl ((hf info info' q h).2 e))⟩
  · exact ⟨List.mem_append.mpr (Or.inr (hg info info' q h).1), fun e => List.mem_append.mpr (Or.inr ((hg info info' q h).2 e))⟩

theorem SVLocal.here (ls : List Id) (s : Stmt) (p : Nat) (hp : s.pos = p) : SVLocal (fun i => stopHere i ls s) [p] := by
  intro info info' q hq
  refine ⟨?_, fun e => stopHere_congr hq e⟩
  rw [(mem_stopHere hq).1, hp]; simp

theorem SVLocal.cons {f g : Info → List Nat} {p : Nat} {vs : List Nat} (hf : SVLocal f [p]) (hg : SVLocal g vs) :
    SVLocal (fun i => f i ++ g i) (p :: vs) := hf.append hg

theorem SVLocal.filter {f : Info → List Nat} {us : List Nat} (hf : SVLocal f us) (k : Nat) :
    SVLocal (fun i => (f i).filter (· != k)) us := by
  intro info info' q hq
  rw [List.mem_filter] at hq
  exact ⟨(hf info info' q hq.1).1, fun e => List.mem_filter.mpr ⟨(hf info info' q hq.1).2 e, hq.2⟩⟩

theorem SVLocal.nil (us : List Nat) : SVLocal (fun _ => []) us := fun _ _ _ h => absurd h (by simp)

mutual
theorem Stmt.sv_local : ∀ (s : Stmt) (ls : List Id), SVLocal (fun i => s.stopViol i ls) s.upos
  | .simple p t kids, ls => (SVLocal.here ls _ p rfl).cons (Kids.sv_local kids)
  | .block p b, ls => (SVLocal.here ls _ p rfl).cons (Stmts.sv_local b)
  | .ifS p t c none, ls => ((SVLocal.here ls _ p rfl).append (Kids.sv_local t)).append (Stmt.sv_local c [])
  | .ifS p t c (some al), ls => by
    simp only [Stmt.stopViol, Stmt.upos, List.append_assoc]
    exact (SVLocal.here ls _ p rfl).cons ((Kids.sv_local t).append ((Stmt.sv_local c []).append (Stmt.sv_local al [])))
  | .whileS p t tt b, ls => ((SVLocal.here ls _ p rfl).append (Kids.sv_local t)).append ((Stmt.sv_local b []).filter b.pos)
  | .doWhileS p b t tt, ls => ((SVLocal.here ls _ p rfl).append (Kids.sv_local t)).append ((Stmt.sv_local b []).filter b.pos)
  | .forS p i u t ht tt b, ls => by
    simp only [Stmt.stopViol, Stmt.upos]
    have := (SVLocal.here ls (.forS p i u t ht tt b) p rfl).cons ((((Kids.sv_local i).append ((Kids.sv_local u).append (Kids.sv_local t)))).append
      ((Stmt.sv_local b []).filter b.pos))
    simpa only [List.append_assoc] using this
  | .forInOf p l r b, ls =>
    (((SVLocal.here ls _ p rfl).append (Kids.sv_local l)).append (Kids.sv_local r)).append ((Stmt.sv_local b []).filter b.pos)
  | .switchS p d cs, ls => ((SVLocal.here ls _ p rfl).append (Kids.sv_local d)).append (Cases.sv_local cs)
  | .tryS p bp b hh cp ck hf fp f, ls => by
    simp only [Stmt.stopViol, Stmt.upos, List.append_assoc]
    exact (SVLocal.here ls _ p rfl).cons ((Stmts.sv_local b).append ((Kids.sv_local ck).append (Stmts.sv_local f)))
  | .labeled p l b, ls => (SVLocal.here ls _ p rfl).cons (Stmt.sv_local b (l :: ls))
  | .brk p l, ls => SVLocal.nil _
  | .cont p l, ls => SVLocal.nil _
  | .ret p arg, ls => (SVLocal.nil [p]).cons (Kids.sv_local arg)
  | .throw p arg, ls => (SVLocal.nil [p]).cons (Kids.sv_local arg)
theorem Stmts.sv_local : ∀ (l : Stmts), SVLocal (fun i => l.stopViol i) l.upos
  | .nil => SVLocal.nil _
  | .cons s r => (Stmt.sv_local s []).append (Stmts.sv_local r)
theorem Kid.sv_local : ∀ (k : Kid), SVLocal (fun i => k.stopViol i) k.upos
  | .expr _ ks => Kids.sv_local ks
  | .fnScope _ ks => Kids.sv_local ks
  | .block _ b => Stmts.sv_local b
  | .stmt s => Stmt.sv_local s []
theorem Kids.sv_local : ∀ (ks : Kids), SVLocal (fun i => ks.stopViol i) ks.upos
  | .nil => SVLocal.nil _
  | .cons k r => (Kid.sv_local k).append (Kids.sv_local r)
theorem Cases.sv_local : ∀ (cs : Cases), SVLocal (fun i => cs.stopViol i) cs.upos
  | .nil => SVLocal.nil _
  | .cons _ _ t b r => by
    simp only [Cases.stopViol, Cases.upos, List.append_assoc]
    exact (Kids.sv_local t).append ((Stmts.sv_local b).append (Cases.sv_local r))
end

/-- the positions of the statements of a list (not of the statements nested in them) -/
def Stmts.topPos : Stmts → List Nat
  | .nil => []
  | .cons s r => s.pos :: r.topPos

theorem Stmts.topPos_sub : ∀ (l : Stmts) (q : Nat), q ∈ l.topPos → q ∈ l.upos
  | .nil, q, h => by simp [Stmts.topPos] at h
  | .cons s r, q, h => by
    simp only [Stmts.topPos, List.mem_cons] at h
    simp only [Stmts.upos, List.mem_append]
    rcases h with h | h
    · exact Or.inl (h ▸ s.pos_mem_upos)
    · exact Or.inr (Stmts.topPos_sub r q h)

theorem stmtsStop_congr (info info' : Info) : ∀ (l : Stmts), (∀ q ∈ l.topPos, info' q = info q) →
    stmtsStop info' l = stmtsStop info l
  | .nil, _ => rfl
  | .cons s r, h => by
    simp only [stmtsStop]
    rw [metaStops_congr (h s.pos (by simp [Stmts.topPos])),
      stmtsStop_congr info info' r (fun q hq => h q (by simp [Stmts.topPos, hq]))]

mutual
/-- Every switch case in the syntax, at any depth: (position of its `switch` statement, case body).  These are the cases
`NoFallthroughVisitor::visit_switch_cases` (`no_fallthrough.rs`) walks; for each it reads the metadata at the start of
every statement of `case.cons` (`Stmts.topPos`), whether or not a comment or the case's place then silences the report. -/
def Stmt.swCases : Stmt → List (Nat × Stmts)
  | .simple _ _ kids => kids.swCases
  | .block _ b => b.swCases
  | .ifS _ t c none => t.swCases ++ c.swCases
  | .ifS _ t c (some a) => t.swCases ++ (c.swCases ++ a.swCases)
  | .whileS _ t _ b => t.swCases ++ b.swCases
  | .doWhileS _ b t _ => t.swCases ++ b.swCases
  | .forS _ i u t _ _ b => (i.swCases ++ (u.swCases ++ t.swCases)) ++ b.swCases
  | .forInOf _ l r b => (l.swCases ++ r.swCases) ++ b.swCases
  | .switchS p d cs => d.swCases ++ cs.swCasesAt p
  | .tryS _ _ b _ _ ck _ _ f => b.swCases ++ (ck.swCases ++ f.swCases)
  | .labeled _ _ b => b.swCases
  | .brk _ _ => []
  | .cont _ _ => []
  | .ret _ a => a.swCases
  | .throw _ a => a.swCases
def Stmts.swCases : Stmts → List (Nat × Stmts)
  | .nil => []
  | .cons s r => s.swCases ++ r.swCases
def Kid.swCases : Kid → List (Nat × Stmts)
  | .expr _ ks => ks.swCases
  | .fnScope _ ks => ks.swCases
  | .block _ b => b.swCases
  | .stmt s => s.swCases
def Kids.swCases : Kids → List (Nat × Stmts)
  | .nil => []
  | .cons k r => k.swCases ++ r.swCases
def Cases.swCasesAt (sp : Nat) : Cases → List (Nat × Stmts)
  | .nil => []
  | .cons _ _ t body r => (sp, body) :: (t.swCases ++ (body.swCases ++ r.swCasesAt sp))
end

/-- the switch position of every case is in `hd` or `us`; the statements of the case bodies are in `us` -/
def CSK (cs : List (Nat × Stmts)) (hd us : List Nat) : Prop :=
  ∀ c ∈ cs, (c.1 ∈ hd ∨ c.1 ∈ us) ∧ ∀ r ∈ c.2.topPos, r ∈ us

theorem CSK.nil (hd us : List Nat) : CSK [] hd us := fun _ h => absurd h (by simp)

theorem CSK.append {c1 c2 : List (Nat × Stmts)} {hd u1 u2 : List Nat} (h1 : CSK c1 hd u1) (h2 : CSK c2 hd u2) :
    CSK (c1 ++ c2) hd (u1 ++ u2) := by
  intro c hc
  rcases List.mem_append.mp hc with h | h
  · exact ⟨(h1 c h).1.imp id (fun x => List.mem_append.mpr (Or.inl x)), fun r hr => List.mem_append.mpr (Or.inl ((h1 c h).2 r hr))⟩
  · exact ⟨(h2 c h).1.imp id (fun x => List.mem_append.mpr (Or.inr x)), fun r hr => List.mem_append.mpr (Or.inr ((h2 c h).2 r hr))⟩

theorem CSK.mono {cs : List (Nat × Stmts)} {hd hd' us us' : List Nat} (h : CSK cs hd us)
    (h1 : ∀ q, q ∈ hd → q ∈ hd' ∨ q ∈ us') (h2 : ∀ q, q ∈ us → q ∈ us') : CSK cs hd' us' := by
  intro c hc
  refine ⟨?_, fun r hr => h2 r ((h c hc).2 r hr)⟩
  rcases (h c hc).1 with h' | h'
  · exact h1 _ h'
  · exact Or.inr (h2 _ h')

/-- a statement's cases, seen from outside: all keys are statement positions of the statement -/
theorem CSK.close {cs : List (Nat × Stmts)} {s : Stmt} (h : CSK cs [s.pos] s.upos.tail) (hd : List Nat) : CSK cs hd s.upos :=
  h.mono (fun q hq => Or.inr (by rw [Stmt.upos_eq]; simp at hq; simp [hq]))
    (fun q hq => by rw [Stmt.upos_eq]; exact List.mem_cons_of_mem _ hq)

mutual
theorem Stmt.sw_keys : ∀ (s : Stmt), CSK s.swCases [s.pos] s.upos.tail
  | .simple _ _ kids => Kids.sw_keys kids _
  | .block _ b => Stmts.sw_keys b _
  | .ifS _ t c none => (Kids.sw_keys t _).append ((Stmt.sw_keys c).close _)
  | .ifS _ t c (some al) => (Kids.sw_keys t _).append (((Stmt.sw_keys c).close _).append ((Stmt.sw_keys al).close _))
  | .whileS _ t _ b => (Kids.sw_keys t _).append ((Stmt.sw_keys b).close _)
  | .doWhileS _ b t _ => (Kids.sw_keys t _).append ((Stmt.sw_keys b).close _)
  | .forS _ i u t _ _ b =>
    ((Kids.sw_keys i _).append ((Kids.sw_keys u _).append (Kids.sw_keys t _))).append ((Stmt.sw_keys b).close _)
  | .forInOf _ l r b => ((Kids.sw_keys l _).append (Kids.sw_keys r _)).append ((Stmt.sw_keys b).close _)
  | .switchS p d cs => (Kids.sw_keys d _).append (Cases.sw_keys cs p)
  | .tryS _ _ b _ _ ck _ _ f => (Stmts.sw_keys b _).append ((Kids.sw_keys ck _).append (Stmts.sw_keys f _))
  | .labeled _ _ b => (Stmt.sw_keys b).close _
  | .brk _ _ => CSK.nil _ _
  | .cont _ _ => CSK.nil _ _
  | .ret _ a => Kids.sw_keys a _
  | .throw _ a => Kids.sw_keys a _
theorem Stmts.sw_keys : ∀ (l : Stmts) (hd : List Nat), CSK l.swCases hd l.upos
  | .nil, _ => CSK.nil _ _
  | .cons s r, hd => ((Stmt.sw_keys s).close _).append (Stmts.sw_keys r hd)
theorem Kid.sw_keys : ∀ (k : Kid) (hd : List Nat), CSK k.swCases hd k.upos
  | .expr _ ks, hd => Kids.sw_keys ks hd
  | .fnScope _ ks, hd => Kids.sw_keys ks hd
  | .block _ b, hd => Stmts.sw_keys b hd
  | .stmt s, _ => (Stmt.sw_keys s).close _
theorem Kids.sw_keys : ∀ (ks : Kids) (hd : List Nat), CSK ks.swCases hd ks.upos
  | .nil, _ => CSK.nil _ _
  | .cons k r, hd => (Kid.sw_keys k hd).append (Kids.sw_keys r hd)
theorem Cases.sw_keys : ∀ (cs : Cases) (sp : Nat), CSK (cs.swCasesAt sp) [sp] cs.upos
  | .nil, _ => CSK.nil _ _
  | .cons _ _ t body r, sp => by
    simp only [Cases.swCasesAt, Cases.upos]
    intro c hc
    rcases List.mem_cons.mp hc with rfl | hc
    · exact ⟨Or.inl (by simp), fun q hq => List.mem_append.mpr (Or.inr (List.mem_append.mpr (Or.inl (Stmts.topPos_sub body q hq))))⟩
    · exact ((Kids.sw_keys t [sp]).append ((Stmts.sw_keys body [sp]).append (Cases.sw_keys r sp))) c hc
end

theorem Kids.fnBodies_mem (p : Nat) : ∀ (ks : Kids) (g : Getter), g ∈ ks.fnBodies p → g.bodyP ∈ ks.positions
  | .nil, g, h => by simp [Kids.fnBodies] at h
  | .cons (.block q body) r, g, h => by
    simp only [Kids.fnBodies, List.mem_cons] at h
    simp only [Kids.positions, Kid.positions, List.mem_append, List.mem_cons]
    rcases h with rfl | h
    · exact Or.inl (Or.inl rfl)
    · exact Or.inr (Kids.fnBodies_mem p r g h)
  | .cons (.expr _ _) r, g, h => by
    simp only [Kids.fnBodies] at h
    simp only [Kids.positions, List.mem_append]; exact Or.inr (Kids.fnBodies_mem p r g h)
  | .cons (.fnScope _ _) r, g, h => by
    simp only [Kids.fnBodies] at h
    simp only [Kids.positions, List.mem_append]; exact Or.inr (Kids.fnBodies_mem p r g h)
  | .cons (.stmt _) r, g, h => by
    simp only [Kids.fnBodies] at h
    simp only [Kids.positions, List.mem_append]; exact Or.inr (Kids.fnBodies_mem p r g h)

def GIn (gs : List Getter) (ps : List Nat) : Prop := ∀ g ∈ gs, g.bodyP ∈ ps

theorem GIn.nil (ps : List Nat) : GIn [] ps := fun _ h => absurd h (by simp)
theorem GIn.append {g1 g2 : List Getter} {p1 p2 : List Nat} (h1 : GIn g1 p1) (h2 : GIn g2 p2) : GIn (g1 ++ g2) (p1 ++ p2) := by
  intro g hg
  rcases List.mem_append.mp hg with h | h
  · exact List.mem_append.mpr (Or.inl (h1 g h))
  · exact List.mem_append.mpr (Or.inr (h2 g h))
theorem GIn.mono {gs : List Getter} {ps ps' : List Nat} (h : GIn gs ps) (hs : ∀ q, q ∈ ps → q ∈ ps') : GIn gs ps' :=
  fun g hg => hs _ (h g hg)

theorem Stmt.rest_sub (s : Stmt) (q : Nat) (h : q ∈ s.restPositions) : q ∈ s.positions := by
  cases s with
  | simple p t kids => exact (Stmt.mem_positions_simple p t kids q).mpr (Or.inr h)
  | _ => exact List.mem_of_mem_tail h

mutual
theorem Stmt.getters_rest : ∀ (s : Stmt), GIn s.getters s.restPositions
  | .simple p t kids => Kids.getters_mem kids
  | .block p b => Stmts.getters_mem b
  | .ifS p t c none => (Kids.getters_mem t).append ((Stmt.getters_rest c).mono c.rest_sub)
  | .ifS p t c (some al) =>
    (Kids.getters_mem t).append (((Stmt.getters_rest c).mono c.rest_sub).append ((Stmt.getters_rest al).mono al.rest_sub))
  | .whileS p t tt b => (Kids.getters_mem t).append ((Stmt.getters_rest b).mono b.rest_sub)
  | .doWhileS p b t tt => (Kids.getters_mem t).append ((Stmt.getters_rest b).mono b.rest_sub)
  | .forS p i u t ht tt b =>
    ((Kids.getters_mem i).append ((Kids.getters_mem u).append (Kids.getters_mem t))).append
      ((Stmt.getters_rest b).mono b.rest_sub)
  | .forInOf p l r b => ((Kids.getters_mem l).append (Kids.getters_mem r)).append ((Stmt.getters_rest b).mono b.rest_sub)
  | .switchS p d cs => (Kids.getters_mem d).append (Cases.getters_mem cs)
  | .tryS p bp b hh cp ck hf fp f => by
    simp only [Stmt.getters, Stmt.restPositions]
    have := (Stmts.getters_mem b).append (((Kids.getters_mem ck).mono (ps' := optPos hh cp ++ ck.positions)
      (fun q hq => List.mem_append.mpr (Or.inr hq))).append ((Stmts.getters_mem f).mono (ps' := optPos hf fp ++ f.positions)
      (fun q hq => List.mem_append.mpr (Or.inr hq))))
    exact this.mono (fun q hq => List.mem_cons_of_mem _ hq)
  | .labeled p l b => (Stmt.getters_rest b).mono b.rest_sub
  | .brk p l => GIn.nil _
  | .cont p l => GIn.nil _
  | .ret p a => Kids.getters_mem a
  | .throw p a => Kids.getters_mem a
theorem Stmts.getters_mem : ∀ (l : Stmts), GIn l.getters l.positions
  | .nil => GIn.nil _
  | .cons s r => ((Stmt.getters_rest s).mono s.rest_sub).append (Stmts.getters_mem r)
theorem Kid.getters_mem : ∀ (k : Kid), GIn k.getters k.positions
  | .expr _ ks => Kids.getters_mem ks
  | .fnScope p ks => by
    simp only [Kid.getters, Kid.positions]
    intro g hg
    rcases List.mem_append.mp hg with h | h
    · exact List.mem_cons_of_mem _ (Kids.fnBodies_mem p ks g h)
    · exact List.mem_cons_of_mem _ (Kids.getters_mem ks g h)
  | .block _ b => (Stmts.getters_mem b).mono (fun q hq => List.mem_cons_of_mem _ hq)
  | .stmt s => (Stmt.getters_rest s).mono s.rest_sub
theorem Kids.getters_mem : ∀ (ks : Kids), GIn ks.getters ks.positions
  | .nil => GIn.nil _
  | .cons k r => (Kid.getters_mem k).append (Kids.getters_mem r)
theorem Cases.getters_mem : ∀ (cs : Cases), GIn cs.getters cs.positions
  | .nil => GIn.nil _
  | .cons _ _ t body r =>
    ((Kids.getters_mem t).append ((Stmts.getters_mem body).append (Cases.getters_mem r))).mono
      (fun q hq => List.mem_cons_of_mem _ hq)
end

theorem Stmt.getters_mem (s : Stmt) : GIn s.getters s.positions := (Stmt.getters_rest s).mono s.rest_sub

mutual
theorem Kid.fpos_getters : ∀ (k : Kid) (q : Nat), q ∈ k.fpos → k.positions.Nodup → ∀ g ∈ k.getters, g.bodyP ≠ q
  | .expr _ ks, q, h, hn, g, hg => by
    simp only [Kid.fpos] at h; simp only [Kid.positions] at hn; simp only [Kid.getters] at hg
    exact Kids.fpos_getters ks q h hn g hg
  | .fnScope p ks, q, h, hn, g, hg => by
    simp only [Kid.fpos, List.mem_singleton] at h; subst h
    simp only [Kid.positions] at hn
    have hq := (List.nodup_cons.mp hn).1
    have := Kid.getters_mem (.fnScope q ks) g hg
    simp only [Kid.positions, List.mem_cons] at this
    intro e
    rcases this with h | h
    · rcases List.mem_append.mp hg with h' | h'
      · exact hq (e ▸ Kids.fnBodies_mem q ks g h')
      · exact hq (e ▸ Kids.getters_mem ks g h')
    · exact hq (e ▸ h)
  | .block _ _, q, h, _, _, _ => by simp [Kid.fpos] at h
  | .stmt _, q, h, _, _, _ => by simp [Kid.fpos] at h
theorem Kids.fpos_getters : ∀ (ks : Kids) (q : Nat), q ∈ ks.fpos → ks.positions.Nodup → ∀ g ∈ ks.getters, g.bodyP ≠ q
  | .nil, q, h, _, _, _ => by simp [Kids.fpos] at h
  | .cons k r, q, h, hn, g, hg => by
    simp only [Kids.fpos, List.mem_append] at h
    simp only [Kids.positions] at hn
    simp only [Kids.getters, List.mem_append] at hg
    have hn' := List.nodup_append.mp hn
    rcases h with h | h
    · rcases hg with hg | hg
      · exact Kid.fpos_getters k q h hn'.1 g hg
      · exact fun e => hn'.2.2 q (Kid.fpos_sub k q h) q (e ▸ Kids.getters_mem r g hg) rfl
    · rcases hg with hg | hg
      · exact fun e => hn'.2.2 q (e ▸ Kid.getters_mem k g hg) q (Kids.fpos_sub r q h) rfl
      · exact Kids.fpos_getters r q h hn'.2.1 g hg
end

theorem Stmt.getters_ne (s : Stmt) (h : s.positions.Nodup) (g : Getter) (hg : g ∈ s.getters) : g.bodyP ≠ s.pos := by
  have hr := Stmt.getters_rest s g hg
  intro e
  rw [e] at hr
  cases s with
  | simple p t kids =>
    simp only [Stmt.restPositions, Stmt.pos] at hr e
    rcases Stmt.simple_own p t kids h with h1 | h1
    · exact Kids.fpos_getters kids p h1 (Stmt.nodup_simple p t kids h) g hg e
    · exact h1 hr
  | ifS p t c a => cases a <;> (simp only [Stmt.positions] at h; exact (List.nodup_cons.mp h).1 hr)
  | brk p l => simp [Stmt.getters] at hg
  | cont p l => simp [Stmt.getters] at hg
  | _ => simp only [Stmt.positions] at h; exact (List.nodup_cons.mp h).1 hr

/-- what the rule layers may rely on in the final metadata `F`, for a piece of syntax with "stops-violations" `sv`
(already evaluated at `F`), switch cases `cs` and function bodies `gs`:
* every statement whose metadata stops although it can complete normally is marked `unreachable`;
* if some statement of a case body stops although the body can complete normally, the `switch` statement is marked
  `unreachable`;
* the metadata of a function body block stops only if the body cannot complete normally. -/
structure Claims (sv : List Nat) (cs : List (Nat × Stmts)) (gs : List Getter) (F : Info) : Prop where
  sv : ∀ q ∈ sv, F.ur q = true
  cv : ∀ c ∈ cs, stmtsStop F c.2 = true → c.2.compl.n = true → F.ur c.1 = true
  gv : ∀ g ∈ gs, metaStops F g.bodyP = true → g.body.compl.n = false

theorem Claims.nil (F : Info) : Claims [] [] [] F :=
  ⟨fun _ h => absurd h (by simp), fun _ h => absurd h (by simp), fun _ h => absurd h (by simp)⟩

theorem Claims.append {s1 s2 : List Nat} {c1 c2 : List (Nat × Stmts)} {g1 g2 : List Getter} {F : Info}
    (h1 : Claims s1 c1 g1 F) (h2 : Claims s2 c2 g2 F) : Claims (s1 ++ s2) (c1 ++ c2) (g1 ++ g2) F :=
  ⟨fun q hq => (List.mem_append.mp hq).elim (h1.sv q) (h2.sv q),
   fun c hc => (List.mem_append.mp hc).elim (h1.cv c) (h2.cv c),
   fun g hg => (List.mem_append.mp hg).elim (h1.gv g) (h2.gv g)⟩

/-- transport along metadata that agree on the keys consulted -/
theorem Claims.transport {svF svG : List Nat} {cs : List (Nat × Stmts)} {gs : List Getter} {F G : Info}
    (h : Claims svG cs gs G)
    (hsv : ∀ q ∈ svF, q ∈ svG ∧ F.ur q = G.ur q)
    (hcs : ∀ c ∈ cs, (∀ r ∈ c.2.topPos, F r = G r) ∧ F.ur c.1 = G.ur c.1)
    (hgs : ∀ g ∈ gs, F g.bodyP = G g.bodyP) : Claims svF cs gs F := by
  refine ⟨?_, ?_, ?_⟩
  · intro q hq; rw [(hsv q hq).2]; exact h.sv q (hsv q hq).1
  · intro c hc hst hn
    rw [(hcs c hc).2]
    exact h.cv c hc (by rw [← stmtsStop_congr G F c.2 (hcs c hc).1]; exact hst) hn
  · intro g hg hst
    exact h.gv g hg (by rw [← metaStops_congr (hgs g hg)]; exact hst)

/-- the generic instance: the keys lie in `ps`, on which `F` and `G` agree, and in `hd`, on which their flags agree -/
theorem Claims.transport_on {f : Info → List Nat} {us ps hd : List Nat} {cs : List (Nat × Stmts)} {gs : List Getter} {F G : Info}
    (h : Claims (f G) cs gs G) (hloc : SVLocal f us) (hcsk : CSK cs hd us) (hgin : GIn gs ps)
    (hus : ∀ q, q ∈ us → q ∈ ps) (hag : ∀ q ∈ ps, F q = G q) (hhd : ∀ q ∈ hd, F.ur q = G.ur q) : Claims (f F) cs gs F := by
  refine h.transport ?_ ?_ ?_
  · intro q hq
    have := hloc G F q hq
    exact ⟨this.2 (hag q (hus q this.1)), ur_eq_of_info_eq (hag q (hus q this.1))⟩
  · intro c hc
    have := hcsk c hc
    exact ⟨fun r hr => hag r (hus r (this.2 r hr)), this.1.elim (hhd _) (fun h' => ur_eq_of_info_eq (hag _ (hus _ h')))⟩
  · intro g hg; exact hag _ (hgin g hg)

end DL.CF
