import DL.Lemmas.RxBTac
import DL.Lemmas.RxSpecQuant
import DL.Lemmas.RxAtHex

/-! # Annex B (no `u` flag): the scanners that do not depend on the mode (copies of the `UAt` proofs) -/
namespace DL.Rx
open DL.RxSpec

attribute [local irreducible] isScalar
variable {src : List Nat} {K : Bool × Nat}

/-- an empty run of digits leaves the state as it is -/
theorem BAt.run_nil {r : List Nat} {s : St} (h : BAt src K r s) :
    s = (s.setPos src (s.reader.index + 0)).withInt s.lastIntValue := by
  rw [Nat.add_zero, setPos_self h.inv]; rfl

theorem eatDecimalEscapeLoop_wb : ∀ (n : Nat) (r : List Nat) (s : St), BAt src K r s →
    Wp (eatDecimalEscapeLoop n s) (fun _ s1 => ∃ ds r1, r = ds ++ r1 ∧ (∀ d ∈ ds, DecimalDigit d) ∧
      (∀ d, r1.head? = some d → ¬DecimalDigit d) ∧ BAt src K r1 s1 ∧
      s1 = (s.setPos src (s.reader.index + ds.length)).withInt (accDec s.lastIntValue ds))
  | 0, _, _, _ => Wp.outOfFuel
  | n + 1, r, s, h => by
    have ih := eatDecimalEscapeLoop_wb n
    unfold eatDecimalEscapeLoop
    rx6_auto
    · -- a digit: the rest of the run comes from the induction hypothesis
      rename_i x r' hn d hd hat a s1 ds r1 hr hds hnx hat1 hs1
      subst hs1
      have hx : isAsciiDigit x = true := by simpa using hn
      rw [toDigit10_eq hx] at hd
      cases hd
      refine ⟨x :: ds, r1, by rw [hr]; rfl, List.forall_mem_cons.mpr ⟨decimalDigit_of_isAsciiDigit hx, hds⟩, hnx, hat1, ?_⟩
      st_norm
      rw [accDec_cons, List.length_cons, Nat.add_assoc, Nat.add_comm 1]
    · -- not a digit
      rename_i x r' hc
      refine ⟨[], x :: r', rfl, forall_mem_nil, ?_, h, h.run_nil⟩
      intro d hd; cases hd; exact not_decimalDigit_of hc
    · -- end of input
      exact ⟨[], [], rfl, forall_mem_nil, forall_head_nil, h, h.run_nil⟩

theorem eatDecimalEscape_wb (n : Nat) (r : List Nat) (s : St) (h : BAt src K r s) :
    Wp (eatDecimalEscape n s) (fun b s1 => Keep s s1 ∧
      if b = true then ∃ r1 v, BAt src K r1 s1 ∧ DecimalEscape r r1 v ∧ s1.lastIntValue = satI v
      else BAt src K r s1 ∧ ∀ d, r.head? = some d → ¬NonZeroDigit d) := by
  unfold eatDecimalEscape
  rx6_auto
  · rx6_falsen
    rename_i x r' hn
    intro d hd hnz
    have e : x = d := by simpa using hd
    subst e
    apply hn
    have h' : 0x31 ≤ x ∧ x ≤ 0x39 := hnz
    rw [isAsciiDigit_of_decimalDigit (show DecimalDigit x from (by show 0x30 ≤ x ∧ x ≤ 0x39; omega))]
    have : x ≠ ch '0' := by show x ≠ 0x30; omega
    simpa using this
  · rename_i x r' hc d hd
    have hx : isAsciiDigit x = true := (Bool.and_eq_true _ _ |>.mp hc).1
    have hx0 : x ≠ ch '0' := by
      have := (Bool.and_eq_true _ _ |>.mp hc).2
      simpa using this
    have hdd := decimalDigit_of_isAsciiDigit hx
    rw [toDigit10_eq hx] at hd
    cases hd
    have hle := decVal_le hdd
    refine Wp.bind_checkedI64 (by
      show i64Min ≤ 10 * (0 : Int) + (decVal x : Int) ∧ 10 * (0 : Int) + (decVal x : Int) ≤ i64Max
      unfold i64Min i64Max; omega) ?_
    rx6_auto
    rename_i hat a s1 ds r1 hr hds hnx hat1 hs1
    subst hs1
    rx6_true
    refine ⟨r1, mvDec (x :: ds), hat1, ⟨x :: ds, by rw [hr]; rfl, ⟨x, ds, rfl, ?_⟩, ?_, hnx, rfl⟩, ?_⟩
    · have h' : 0x30 ≤ x ∧ x ≤ 0x39 := hdd
      have : x ≠ 0x30 := hx0
      show 0x31 ≤ x ∧ x ≤ 0x39
      omega
    · intro d hd
      rcases List.mem_cons.mp hd with rfl | hd
      · exact hdd
      · exact hds d hd
    · st_norm
      show accDec (10 * (0 : Int) + (decVal x : Int)) ds = satI (mvDec (x :: ds))
      have : (10 * (0 : Int) + (decVal x : Int)) = satI (decVal x) := by
        unfold satI i64Max; rw [if_pos (by omega)]; omega
      rw [this, accDec_satI]
      show satI _ = satI (List.foldl _ (10 * 0 + decVal x) ds)
      rw [Nat.mul_zero, Nat.zero_add]
  · rx6_falsen
    exact fun d hd => nomatch hd

/-- `eat_fixed_hex_digits(k)`: exactly `k` hexadecimal digits, or nothing -/
theorem eatFixedHexDigits_wb (k : Nat) (hk : k ≤ 15) (r : List Nat) (s : St) (h : BAt src K r s) :
    Wp (eatFixedHexDigits k s) (fun b s1 => Keep s s1 ∧
      if b = true then ∃ ds r1, r = ds ++ r1 ∧ ds.length = k ∧ (∀ d ∈ ds, HexDigit d) ∧ BAt src K r1 s1 ∧
        s1.lastIntValue = (mvHex ds : Nat)
      else BAt src K r s1 ∧ ¬∃ ds r1, r = ds ++ r1 ∧ ds.length = k ∧ ∀ d ∈ ds, HexDigit d) :=
  eatFixedHexDigits_at BAt.like k hk r s h

theorem eatHexDigitsLoop_wb : ∀ (n : Nat) (r : List Nat) (s : St), BAt src K r s →
    Wp (eatHexDigitsLoop n s) (fun _ s1 => ∃ ds r1, r = ds ++ r1 ∧ (∀ d ∈ ds, HexDigit d) ∧
      (∀ d, r1.head? = some d → ¬HexDigit d) ∧ BAt src K r1 s1 ∧
      s1 = (s.setPos src (s.reader.index + ds.length)).withInt (accHex s.lastIntValue ds))
  | 0, _, _, _ => Wp.outOfFuel
  | n + 1, r, s, h => by
    have ih := eatHexDigitsLoop_wb n
    unfold eatHexDigitsLoop
    rx6_auto
    · rename_i x r' hn d hd hat a s1 ds r1 hr hds hnx hat1 hs1
      subst hs1
      have hx : isAsciiHexdigit x = true := by simpa using hn
      rw [toDigit16_eq hx] at hd
      cases hd
      refine ⟨x :: ds, r1, by rw [hr]; rfl, List.forall_mem_cons.mpr ⟨hexDigit_of_isAsciiHexdigit hx, hds⟩, hnx, hat1, ?_⟩
      st_norm
      rw [accHex_cons, List.length_cons, Nat.add_assoc, Nat.add_comm 1]
    · rename_i x r' hc
      refine ⟨[], x :: r', rfl, forall_mem_nil, ?_, h, h.run_nil⟩
      intro d hd; cases hd; exact not_hexDigit_of hc
    · exact ⟨[], [], rfl, forall_mem_nil, forall_head_nil, h, h.run_nil⟩

/-- `eat_hex_digits`: the maximal run of hexadecimal digits; `true` iff it is non-empty -/
theorem eatHexDigits_wb (n : Nat) (r : List Nat) (s : St) (h : BAt src K r s) :
    Wp (eatHexDigits n s) (fun b s1 => Keep s s1 ∧ ∃ ds r1, r = ds ++ r1 ∧ (∀ d ∈ ds, HexDigit d) ∧
      (∀ d, r1.head? = some d → ¬HexDigit d) ∧ BAt src K r1 s1 ∧ s1.lastIntValue = satI (mvHex ds) ∧
      (b = true ↔ ds ≠ [])) := by
  unfold eatHexDigits
  rx6_auto
  rename_i a s1 ds r1 hr hds hnx hat1 hs1
  subst hs1
  refine ⟨⟨rfl, rfl, rfl⟩, ds, r1, hr, hds, hnx, hat1, ?_, ?_⟩
  · st_norm
    show accHex 0 ds = _
    have : (0 : Int) = satI 0 := rfl
    rw [this, accHex_satI]; rfl
  · st_norm
    cases ds <;> simp

theorem eatRegexpUnicodeCodepointEscape_wb (n : Nat) (r : List Nat) (s : St) (h : BAt src K r s) :
    Wp (eatRegexpUnicodeCodepointEscape n s) (fun b s1 => Keep s s1 ∧
      if b = true then ∃ ds r1, r = ch '{' :: (ds ++ ch '}' :: r1) ∧ ds ≠ [] ∧ (∀ d ∈ ds, HexDigit d) ∧
        mvHex ds ≤ 0x10FFFF ∧ BAt src K r1 s1 ∧ s1.lastIntValue = (mvHex ds : Nat)
      else BAt src K r s1) := by
  unfold eatRegexpUnicodeCodepointEscape
  rx6_auto
  all_goals (try rx6_false)
  rename_i r' hat0 s1 hk ds hds hv hne r1 hat1 hr hnx hat2 hvalid
  rx6_true
  have hv' : s1.lastIntValue = satI (mvHex ds) := hv
  have hle : mvHex ds ≤ 0x10FFFF ∧ satI (mvHex ds) = (mvHex ds : Nat) := by
    have : isValidUnicode s1.lastIntValue = true := hvalid
    unfold isValidUnicode at this
    have h1 : s1.lastIntValue ≤ 0x10ffff := of_decide_eq_true this
    rw [hv'] at h1
    unfold satI i64Max at h1 ⊢
    split at h1 <;> constructor <;> omega
  refine ⟨ds, r1, by rw [hr], hne.mp trivial, hds, hle.1, hat1, ?_⟩
  show s1.lastIntValue = _
  rw [hv', hle.2]

theorem eatRegexpUnicodeSurrogatePairEscape_wb (r : List Nat) (s : St) (h : BAt src K r s) :
    Wp (eatRegexpUnicodeSurrogatePairEscape s) (fun b s1 => Keep s s1 ∧
      if b = true then ∃ r1 lead trail, PairText r r1 lead trail ∧ BAt src K r1 s1 ∧
        s1.lastIntValue = (((lead - 0xD800) * 0x400 + (trail - 0xDC00) + 0x10000 : Nat) : Int)
      else BAt src K r s1 ∧ ¬∃ r1 lead trail, PairText r r1 lead trail) :=
  eatRegexpUnicodeSurrogatePairEscape_at BAt.like r s h

end DL.Rx
