import DL.Lemmas.RxSpecName2

/-! # Soundness w.r.t. the grammar: `AtomEscape`, group specifiers, the bookkeeping of names, the non-recursive atoms -/
namespace DL.Rx
open DL.RxSpec DL.Gen.Unicode
attribute [local irreducible] isScalar
variable {src : List Nat} {N : Nat} {qok : Nat → Nat → Prop}

/-- how a phrase with attributes `a` changes the name registers: its group names are appended (and stay
duplicate-free), its `\k` references are recorded, nothing is forgotten -/
structure Track (s s1 : St) (a : Attr) : Prop where
  gn : s1.groupNames = s.groupNames ++ groupNames a.groups
  nodup : s.groupNames.Nodup → s1.groupNames.Nodup
  mono : ∀ x ∈ s.backreferenceNames, x ∈ s1.backreferenceNames
  refs : ∀ x ∈ a.refs, x ∈ s1.backreferenceNames

theorem Track.ofKeepN {s s1 : St} (h : KeepN s s1) : Track s s1 Attr.nil :=
  ⟨by rw [h.gn]; exact (List.append_nil _).symm, fun hn => by rw [h.gn]; exact hn, fun x hx => by rw [h.bn]; exact hx,
    fun x hx => nomatch hx⟩

theorem Track.pre {s s1 s2 : St} {a : Attr} (hk : KeepN s s1) (h : Track s1 s2 a) : Track s s2 a :=
  ⟨by rw [h.gn, hk.gn], fun hn => h.nodup (by rw [hk.gn]; exact hn), fun x hx => h.mono x (by rw [hk.bn]; exact hx),
    h.refs⟩

theorem groupNames_append (g1 g2 : List (Option Name)) : groupNames (g1 ++ g2) = groupNames g1 ++ groupNames g2 := by
  unfold groupNames; rw [List.filterMap_append]

theorem Track.trans {s s1 s2 : St} {a1 a2 : Attr} (h1 : Track s s1 a1) (h2 : Track s1 s2 a2) :
    Track s s2 (a1 ++ a2) := by
  refine ⟨?_, fun hn => h2.nodup (h1.nodup hn), fun x hx => h2.mono x (h1.mono x hx), ?_⟩
  · show s2.groupNames = s.groupNames ++ groupNames (a1.groups ++ a2.groups)
    rw [h2.gn, h1.gn, groupNames_append, List.append_assoc]
  · intro x hx
    have hx' : x ∈ a1.refs ++ a2.refs := hx
    rcases List.mem_append.mp hx' with hx | hx
    · exact h2.mono x (h1.refs x hx)
    · exact h2.refs x hx

theorem Attr.nil_append (a : Attr) : Attr.nil ++ a = a := by
  cases a; rfl
theorem Attr.append_nil (a : Attr) : a ++ Attr.nil = a := by
  cases a with
  | mk g r => show Attr.mk (g ++ []) (r ++ []) = _; rw [List.append_nil, List.append_nil]

/-- the specification of a production that may declare group names: `true` with a `G` read from `r` and its names
tracked, or `false` with the reader at `r` -/
abbrev Tracked (src : List Nat) (N : Nat) (G : List Nat → Attr → Prop) (r : List Nat) (s : St) (b : Bool) (s1 : St) :
    Prop :=
  if b = true then ∃ r1 t, UAt src N r1 s1 ∧ G r1 t ∧ Track s s1 t else UAt src N r s1 ∧ KeepN s s1

/-- ordered choice, one alternative at a time: the alternatives share the specification, the names tracked from the
start of the choice -/
theorem Wp.orM_track {a b : M Bool} {r : List Nat} {s : St} {G : List Nat → Attr → Prop}
    (ha : Wp (a s) (Tracked src N G r s)) (hb : ∀ s1, KeepN s s1 → UAt src N r s1 → Wp (b s1) (Tracked src N G r s1)) :
    Wp ((a <or> b) s) (Tracked src N G r s) := by
  refine Wp.bind (ha.mono ?_)
  rintro x s1 hx
  cases x
  · obtain ⟨h1, k1⟩ := (if_neg Bool.false_ne_true).mp hx
    refine (hb s1 k1 h1).mono fun y s2 hy => ?_
    cases y
    · obtain ⟨h2, k2⟩ := (if_neg Bool.false_ne_true).mp hy
      exact (if_neg Bool.false_ne_true).mpr ⟨h2, k1.trans k2⟩
    · obtain ⟨r1, t, h2, hg, ht⟩ := (if_pos rfl).mp hy
      exact (if_pos rfl).mpr ⟨r1, t, h2, hg, ht.pre k1⟩
  · exact hx

/-- an alternative that declares no names, in the form `Wp.orM_track` takes -/
theorem Wp.track_nil {m : M Bool} {r : List Nat} {s : St} {H : St → Prop} {G : List Nat → Attr → Prop}
    (h : Wp (m s) (fun x s1 => KeepN s s1 ∧ if x = true then H s1 else UAt src N r s1))
    (hG : ∀ s1, H s1 → ∃ r1, UAt src N r1 s1 ∧ G r1 Attr.nil) :
    Wp (m s) (Tracked src N G r s) := by
  refine h.mono fun x s1 hx => ?_
  cases x
  · exact (if_neg Bool.false_ne_true).mpr ⟨(if_neg Bool.false_ne_true).mp hx.2, hx.1⟩
  · obtain ⟨r1, hat, hg⟩ := hG s1 ((if_pos rfl).mp hx.2)
    exact (if_pos rfl).mpr ⟨r1, Attr.nil, hat, hg, .ofKeepN hx.1⟩

theorem consumeKGroupName_wp (n : Nat) (r : List Nat) (s : St) (h : UAt src N r s) :
    Wp (consumeKGroupName n s) (fun b s1 =>
      if b = true then ∃ r1 a, UAt src N r1 s1 ∧ AtomEscape N r r1 a ∧ Track s s1 a
      else UAt src N r s1 ∧ KeepN s s1) := by
  unfold consumeKGroupName
  rx4_auto
  · rename_i m hat0 s1 hk r1 nm hat1 hgn hstr
    rw [if_pos rfl]
    refine ⟨r1, ⟨[], [nm]⟩, by rx4_at, AtomEscape.named m r1 nm hgn, ?_⟩
    refine ⟨?_, fun hn => ?_, fun x hx => ?_, fun x hx => ?_⟩
    · show s1.groupNames = s.groupNames ++ []
      rw [hk.gn, List.append_nil]; rfl
    · show s1.groupNames.Nodup
      rw [hk.gn]; exact hn
    · show x ∈ (if s1.backreferenceNames.contains s1.lastStrValue then s1.backreferenceNames
        else s1.backreferenceNames ++ [s1.lastStrValue])
      have hx' : x ∈ s1.backreferenceNames := by rw [hk.bn]; exact hx
      split
      · exact hx'
      · exact List.mem_append_left _ hx'
    · show x ∈ (if s1.backreferenceNames.contains s1.lastStrValue then s1.backreferenceNames
        else s1.backreferenceNames ++ [s1.lastStrValue])
      have hxn : x = nm := by simpa using hx
      subst hxn
      rw [hstr]
      split
      · rename_i hc; exact List.contains_iff_mem.mp hc
      · exact List.mem_append_right _ (List.mem_singleton.mpr rfl)
  · rw [if_neg (by decide)]
    exact ⟨h, KeepN.refl s⟩

theorem consumeGroupSpecifier_wp (n : Nat) (r : List Nat) (s : St) (h : UAt src N r s) :
    Wp (consumeGroupSpecifier n s) (fun b s1 =>
      if b = true then ∃ r1 nm, UAt src N r1 s1 ∧ GroupSpecifier r r1 (some nm) ∧ Track s s1 ⟨[some nm], []⟩
      else UAt src N r s1 ∧ KeepN s s1) := by
  unfold consumeGroupSpecifier
  rx4_auto
  · rename_i m hat0 s1 hk r1 nm hat1 hgn hstr hc
    rw [if_pos rfl]
    refine ⟨r1, nm, by rx4_at, GroupSpecifier.named m r1 nm hgn, ?_⟩
    have hnc : ¬ nm ∈ s1.groupNames := by
      intro hm
      rw [← hstr] at hm
      have : s1.groupNames.contains s1.lastStrValue = true := List.contains_iff_mem.mpr hm
      rw [this] at hc; cases hc
    refine ⟨?_, fun hn => ?_, fun x hx => ?_, fun x hx => nomatch hx⟩
    · show s1.groupNames ++ [s1.lastStrValue] = s.groupNames ++ [nm]
      rw [hk.gn, hstr]; rfl
    · show (s1.groupNames ++ [s1.lastStrValue]).Nodup
      rw [hstr]
      refine List.nodup_append.mpr ⟨by rw [hk.gn]; exact hn, (List.nodup_cons.mpr ⟨List.not_mem_nil, List.nodup_nil⟩), ?_⟩
      intro a ha b hb
      have : b = nm := by simpa using hb
      subst this
      intro hab; subst hab; exact hnc ha
    · show x ∈ s1.backreferenceNames
      rw [hk.bn]; exact hx
  · rw [if_neg (by decide)]
    exact ⟨h, KeepN.refl s⟩

theorem consumeAtomEscape_wp (hN : N < 2 ^ 62) (n : Nat) (r : List Nat) (s : St) (h : UAt src N r s) :
    Wp (consumeAtomEscape n s) (fun b s1 =>
      if b = true then ∃ r1 a, UAt src N r1 s1 ∧ AtomEscape N r r1 a ∧ Track s s1 a
      else UAt src N r s1 ∧ KeepN s s1) := by
  have halts : Wp ((consumeBackreference n <or> consumeCharacterClassEscape n <or> consumeCharacterEscape n <or>
      ((do pure (← getSt).nFlag) <and> consumeKGroupName n)) s) (Tracked src N (AtomEscape N r) r s) := by
    refine .orM_track (.track_nil ((consumeBackreference_wp hN n r s h).mono fun _ _ hq => ⟨hq.1.toN, hq.2⟩)
      fun _ hq => hq) fun s1 _ h1 => ?_
    refine .orM_track (.track_nil (consumeCharacterClassEscape_wp n r s1 h1)
      fun _ ⟨r1, hat, hc, _⟩ => ⟨r1, hat, .characterClass _ _ hc⟩) fun s2 _ h2 => ?_
    refine .orM_track (.track_nil ((consumeCharacterEscape_wp n r s2 h2).mono fun _ _ hq => ⟨hq.1.toN, hq.2⟩)
      fun _ ⟨r1, v, hat, hc, _⟩ => ⟨r1, hat, .character _ _ v hc⟩) fun s3 _ h3 => ?_
    rx4_auto
    exact ‹_›
  unfold consumeAtomEscape
  refine Wp.call halts fun b s1 hb => ?_
  cases b
  · obtain ⟨h1, _⟩ := (if_neg Bool.false_ne_true).mp hb
    rx4_auto
  · exact hb

theorem consumeReverseSolidusAtomEscape_wp (hN : N < 2 ^ 62) (n : Nat) (r : List Nat) (s : St) (h : UAt src N r s) :
    Wp (consumeReverseSolidusAtomEscape n s) (fun b s1 =>
      if b = true then ∃ r1 a, UAt src N r1 s1 ∧ Derives qok N .Atom r r1 a ∧ Track s s1 a
      else UAt src N r s1 ∧ KeepN s s1) := by
  unfold consumeReverseSolidusAtomEscape
  rx4_auto
  · rename_i m hat0 s1 hat1 hk hat2
    rw [if_neg (by decide)]
    exact ⟨hat2, by rx4_keep⟩
  · rename_i m hat0 s1 r1 a hat1 hae htr
    rw [if_pos rfl]
    exact ⟨r1, a, hat1, Derives.atomEscape m r1 a hae, Track.pre (s1 := s.setPos src (s.reader.index + 1)) ⟨rfl, rfl⟩ htr⟩
  · rw [if_neg (by decide)]
    exact ⟨h, KeepN.refl s⟩

/-- the part of the source that remains is part of the source -/
theorem UAt.mem_src {r : List Nat} {s : St} (h : UAt src N r s) {x : Nat} (hx : x ∈ r) : x ∈ src := by
  rw [← h.rest] at hx
  exact List.mem_of_mem_drop hx

theorem consumePatternCharacter_wp (hsrc : ∀ x ∈ src, x ≤ 0x10FFFF) (r : List Nat) (s : St) (h : UAt src N r s) :
    Wp (consumePatternCharacter s) (fun b s1 => KeepN s s1 ∧
      if b = true then ∃ x r1, r = x :: r1 ∧ PatternCharacter x ∧ UAt src N r1 s1 else UAt src N r s1) := by
  unfold consumePatternCharacter
  rx4_auto
  all_goals (try rx4_false)
  rename_i x r1 hc hat
  rx4_true
  refine ⟨x, r1, rfl, ⟨hsrc x (h.mem_src List.mem_cons_self), ?_⟩, hat⟩
  intro hs
  rw [(syntaxCharacter_iff x).mpr hs] at hc
  cases hc

end DL.Rx
