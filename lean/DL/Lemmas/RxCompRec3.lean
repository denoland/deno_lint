import DL.Lemmas.RxCompAtom

/-! # Completeness: the recursive productions — follow sets, name bookkeeping, the list view of `Alternative`; where the recursive functions answer `false`; the single steps -/
namespace DL.Rx
open DL.RxSpec DL.Gen.Unicode
attribute [local irreducible] isScalar
variable {src : List Nat} {N : Nat}

/-- the group names of the phrase are new and pairwise different -/
def ND (g : List Name) (a : Attr) : Prop := (g ++ groupNames a.groups).Nodup

theorem ND.nil (g : List Name) (h : g.Nodup) : ND g Attr.nil := by
  show (g ++ []).Nodup; rw [List.append_nil]; exact h

theorem ND.left {g : List Name} {a b : Attr} (h : ND g (a ++ b)) : ND g a := by
  have h' : (g ++ groupNames (a.groups ++ b.groups)).Nodup := h
  rw [groupNames_append, ← List.append_assoc] at h'
  exact (List.nodup_append.mp h').1

theorem ND.right {g g1 : List Name} {a b : Attr} (h : ND g (a ++ b)) (hg : g1 = g ++ groupNames a.groups) : ND g1 b := by
  have h' : (g ++ groupNames (a.groups ++ b.groups)).Nodup := h
  rw [groupNames_append, ← List.append_assoc] at h'
  subst hg; exact h'

theorem ND.base {g : List Name} {a : Attr} (h : ND g a) : g.Nodup := (List.nodup_append.mp h).1

/-- the name of a named group is new -/
theorem ND.new {g : List Name} {nm : Name} {a : Attr} (h : ND g (⟨[some nm], []⟩ ++ a)) : ¬nm ∈ g := by
  have h' : (g ++ groupNames (some nm :: a.groups)).Nodup := h
  have h'' : (g ++ nm :: groupNames a.groups).Nodup := h'
  intro hm
  exact (List.nodup_append.mp h'').2.2 nm hm nm (List.mem_cons_self) rfl

def AltFollow (r : List Nat) : Prop := r = [] ∨ r.head? = some (ch '|') ∨ r.head? = some (ch ')')
def DFollow (r : List Nat) : Prop := r = [] ∨ r.head? = some (ch ')')

theorem NoQ.nil : NoQ [] := ⟨nil_head_ne _, nil_head_ne _, nil_head_ne _, nil_head_ne _⟩

theorem NoQ.of_head {r : List Nat} {x : Nat} (h : r.head? = some x)
    (hx : x ≠ ch '*' ∧ x ≠ ch '+' ∧ x ≠ ch '?' ∧ x ≠ ch '{') : NoQ r := by
  cases r with
  | nil => cases h
  | cons y m =>
    cases h
    exact ⟨head_ne_of_ne hx.1 _, head_ne_of_ne hx.2.1 _, head_ne_of_ne hx.2.2.1 _, head_ne_of_ne hx.2.2.2 _⟩

theorem AltFollow.noQ {r : List Nat} (h : AltFollow r) : NoQ r := by
  rcases h with rfl | h | h
  · exact NoQ.nil
  · exact NoQ.of_head h (by decide)
  · exact NoQ.of_head h (by decide)

theorem DFollow.alt {r : List Nat} (h : DFollow r) : AltFollow r := h.imp id .inr

/-- a term, an assertion, an atom does not start with a quantifier character; an alternative / a disjunction does
not, unless it is empty and what follows does -/
theorem derives_noQ {qok : Nat → Nat → Prop} {sym : Sym} {i r : List Nat} {a : Attr}
    (h : Derives qok N sym i r a) (hr : NoQ r ∨ isTAA sym = true) : NoQ i :=
  ⟨derives_head (by unfold SyntaxCharacter; decide) (by decide) h (hr.imp (·.1) id),
    derives_head (by unfold SyntaxCharacter; decide) (by decide) h (hr.imp (·.2.1) id),
    derives_head (by unfold SyntaxCharacter; decide) (by decide) h (hr.imp (·.2.2.1) id),
    derives_head (by unfold SyntaxCharacter; decide) (by decide) h (hr.imp (·.2.2.2) id)⟩

/-- a term is not empty -/
theorem term_cons {qok : Nat → Nat → Prop} {sym : Sym} {i r : List Nat} {a : Attr}
    (h : Derives qok N sym i r a) : isTAA sym = true → ∃ x m, i = x :: m := by
  induction h with
  | disjOne | disjMore | altEmpty | altSnoc => exact fun h => by cases h
  | termAssertion i r a _ ih | termAtom i r a _ ih => exact fun _ => ih rfl
  | termQuantified i m r a _ _ ih => exact fun _ => ih rfl
  | lookahead i m r a hl _ _ | negativeLookahead i m r a hl _ _ | lookbehind i m r a hl _ _
  | negativeLookbehind i m r a hl _ _ | nonCapturing i m r a hl _ _ => exact fun _ => ⟨_, _, hl⟩
  | characterClass i r hc => intro _; cases hc <;> exact ⟨_, _, rfl⟩
  | _ => exact fun _ => ⟨_, _, rfl⟩

/-- an `Alternative` as the list of its terms, each with a property `P` (the induction hypothesis) -/
inductive TermsP (P : List Nat → List Nat → Attr → Prop) : List Nat → List Nat → Attr → Prop
  | nil (r : List Nat) : TermsP P r r Attr.nil
  | cons (i m r : List Nat) (a₁ a₂ : Attr) : Derives qokSat N .Term i m a₁ → P i m a₁ → TermsP P m r a₂ →
      TermsP P i r (a₁ ++ a₂)

theorem TermsP.snoc {P : List Nat → List Nat → Attr → Prop} {i m r : List Nat} {a₁ a₂ : Attr}
    (h : TermsP (N := N) P i m a₁) (ht : Derives qokSat N .Term m r a₂) (hp : P m r a₂) : TermsP (N := N) P i r (a₁ ++ a₂) := by
  induction h with
  | nil r0 =>
    rw [Attr.nil_append, ← Attr.append_nil a₂]
    exact TermsP.cons _ _ _ _ _ ht hp (TermsP.nil _)
  | cons i0 m0 r0 b₁ b₂ ht0 hp0 _ ih =>
    rw [Attr.append_assoc]
    exact TermsP.cons _ _ _ _ _ ht0 hp0 (ih ht hp)

theorem TermsP.noQ {P : List Nat → List Nat → Attr → Prop} {i r : List Nat} {a : Attr}
    (h : TermsP (N := N) P i r a) (hr : NoQ r) : NoQ i := by
  cases h with
  | nil => exact hr
  | cons _ m _ a₁ a₂ ht _ _ => exact derives_noQ ht (.inr rfl)

/-- the text does not start like an `Assertion` -/
def NAS (i : List Nat) : Prop :=
  i.head? ≠ some (ch '^') ∧ i.head? ≠ some (ch '$') ∧ (¬∃ r', i = ch '\\' :: ch 'B' :: r') ∧
  (¬∃ r', i = ch '\\' :: ch 'b' :: r') ∧
  ((¬∃ r', i = ch '(' :: ch '?' :: r') ∨
   (∃ r', i = ch '(' :: ch '?' :: r' ∧ r'.head? ≠ some (ch '=') ∧ r'.head? ≠ some (ch '!') ∧ r'.head? ≠ some (ch '<')) ∨
   (∃ r', i = ch '(' :: ch '?' :: ch '<' :: r' ∧ r'.head? ≠ some (ch '=') ∧ r'.head? ≠ some (ch '!')))

theorem consumeAssertion_wcn (n : Nat) (i : List Nat) (s : St) (h : UAt src N i s) (hn : NAS i) :
    Wc (consumeAssertion n s) (fun b s1 => b = false ∧ UAt src N i s1 ∧ KeepN s s1) := by
  obtain ⟨h1, h2, h3, h4, h5⟩ := hn
  cases n with
  | zero => exact Wc.outOfFuel
  | succ n =>
    unfold consumeAssertion
    rcases h5 with h5 | ⟨r', rfl, h6, h7, h8⟩ | ⟨r', rfl, h6, h7⟩
    all_goals rx5_autos
    all_goals first | exact ⟨rfl, by rx4_at, ⟨rfl, rfl⟩⟩ | (rx5_fin; done)

theorem consumeUncapturingGroup_wcn (n : Nat) (i : List Nat) (s : St) (h : UAt src N i s)
    (hn : ¬∃ r', i = ch '(' :: ch '?' :: ch ':' :: r') :
    Wc (consumeUncapturingGroup n s) (fun b s1 => b = false ∧ s1 = s) := by
  cases n with
  | zero => exact Wc.outOfFuel
  | succ n =>
    unfold consumeUncapturingGroup
    rx5_autos
    exact ⟨rfl, rfl⟩

theorem consumeCapturingGroup_wcn (n : Nat) (i : List Nat) (s : St) (h : UAt src N i s)
    (hn : i.head? ≠ some (ch '(')) :
    Wc (consumeCapturingGroup n s) (fun b s1 => b = false ∧ s1 = s) := by
  cases n with
  | zero => exact Wc.outOfFuel
  | succ n =>
    unfold consumeCapturingGroup
    rx5_autos
    exact ⟨rfl, rfl⟩

/-- the text does not start like an `Atom`: it is empty or starts with a syntax character other than `. \ [ (` -/
def NAT (i : List Nat) : Prop :=
  (∀ x, i.head? = some x → SyntaxCharacter x) ∧ i.head? ≠ some (ch '.') ∧ i.head? ≠ some (ch '\\') ∧
  i.head? ≠ some (ch '[') ∧ i.head? ≠ some (ch '(')

theorem consumeAtom_wcn (n : Nat) (i : List Nat) (s : St) (h : UAt src N i s) (hn : NAT i) :
    Wc (consumeAtom n s) (fun b s1 => b = false ∧ s1 = s) := by
  obtain ⟨h1, h2, h3, h4, h5⟩ := hn
  have h6 : ¬∃ r', i = ch '(' :: ch '?' :: ch ':' :: r' := no_eat3_head h5
  cases n with
  | zero => exact Wc.outOfFuel
  | succ n =>
    unfold consumeAtom
    rx5_autos
    exact ⟨by assumption, rfl⟩

theorem consumeTerm_wcn (n : Nat) (i : List Nat) (s : St) (h : UAt src N i s) (ha : NAS i) (hn : NAT i) :
    Wc (consumeTerm n s) (fun b s1 => b = false ∧ UAt src N i s1 ∧ KeepN s s1) := by
  cases n with
  | zero => exact Wc.outOfFuel
  | succ n =>
    unfold consumeTerm
    rx5_autos
    exact ⟨rfl, ‹UAt src N i _›, ‹KeepN s _›⟩

theorem NAS.of_ne {x : Nat} {m : List Nat} (h : x ≠ ch '^' ∧ x ≠ ch '$' ∧ x ≠ ch '\\' ∧ x ≠ ch '(') : NAS (x :: m) :=
  ⟨head_ne_of_ne h.1 _, head_ne_of_ne h.2.1 _, no_eat2_ne1 h.2.2.1, no_eat2_ne1 h.2.2.1, .inl (no_eat2_ne1 h.2.2.2)⟩

theorem NAS.nil : NAS [] := ⟨nil_head_ne _, nil_head_ne _, no_eat2_nil, no_eat2_nil, .inl no_eat2_nil⟩

/-- an `AtomEscape` does not start with `b` or `B` -/
theorem atomEscape_head {m r : List Nat} {a : Attr} (h : AtomEscape N m r a) :
    m.head? ≠ some (ch 'B') ∧ m.head? ≠ some (ch 'b') := by
  have key : ∀ (x : Nat) (t : List Nat), (x ≠ ch 'B' ∧ x ≠ ch 'b') →
      (x :: t).head? ≠ some (ch 'B') ∧ (x :: t).head? ≠ some (ch 'b') :=
    fun x t hx => ⟨head_ne_of_ne hx.1 _, head_ne_of_ne hx.2 _⟩
  cases h with
  | decimal _ _ v hd _ =>
    obtain ⟨ds, rfl, ⟨d, ds', rfl, hnz⟩, _⟩ := hd
    have h' : 0x31 ≤ d ∧ d ≤ 0x39 := hnz
    refine key _ _ ⟨?_, ?_⟩ <;> (intro e; rw [e] at h'; revert h'; decide)
  | characterClass _ _ hc =>
    cases hc with
    | simple x _ hx =>
      simp only [List.mem_cons, List.not_mem_nil, or_false] at hx
      rcases hx with rfl | rfl | rfl | rfl | rfl | rfl <;> exact key _ _ (by decide)
    | property x t _ hx _ => rcases hx with rfl | rfl <;> exact key _ _ (by decide)
  | character _ _ v hc =>
    cases hc with
    | unicode _ _ _ hu => obtain ⟨t, rfl⟩ := rues_head hu; exact key _ _ (by decide)
    | identity _ _ hx =>
      refine key _ _ ?_
      rcases hx with hx | hx
      · unfold SyntaxCharacter at hx
        simp only [List.mem_cons, List.not_mem_nil, or_false] at hx
        rcases hx with h | h | h | h | h | h | h | h | h | h | h | h | h | h <;> subst h <;> decide
      · subst hx; decide
    | _ => exact key _ _ (by decide)
  | named t _ nm _ => exact key _ _ (by decide)

theorem atom_nas {i r : List Nat} {a : Attr} (h : Derives qokSat N .Atom i r a) : NAS i := by
  cases h with
  | patternCharacter x _ hx =>
    refine NAS.of_ne ⟨?_, ?_, ?_, ?_⟩ <;> (intro e; subst e; exact hx.2 (by unfold SyntaxCharacter; decide))
  | dot _ => exact NAS.of_ne (by decide)
  | atomEscape m _ _ hae =>
    obtain ⟨hB, hb⟩ := atomEscape_head hae
    refine ⟨head_ne_of_ne (by decide) _, head_ne_of_ne (by decide) _, ?_, ?_, .inl (no_eat2_ne1 (by decide))⟩
    · rintro ⟨r', e⟩
      exact hB (by rw [(List.cons.inj e).2]; rfl)
    · rintro ⟨r', e⟩
      exact hb (by rw [(List.cons.inj e).2]; rfl)
  | characterClass _ _ hc => cases hc <;> exact NAS.of_ne (by decide)
  | group m₁ m₂ _ name a' hg hd =>
    refine ⟨head_ne_of_ne (by decide) _, head_ne_of_ne (by decide) _, no_eat2_ne1 (by decide), no_eat2_ne1 (by decide), ?_⟩
    cases hg with
    | empty _ =>
      refine .inl ?_
      rintro ⟨r', e⟩
      have hq : m₁.head? ≠ some (c '?') :=
        derives_head (by unfold SyntaxCharacter; decide) (by decide) hd (.inl (head_cons_ne (by decide) _))
      exact hq (by rw [(List.cons.inj e).2]; rfl)
    | named m _ nm hgn =>
      obtain ⟨m', rfl, hname⟩ := hgn
      obtain ⟨e1, e2⟩ := idName_head hname
      exact .inr (.inr ⟨m', rfl, e1, e2⟩)
  | nonCapturing _ m _ _ hl _ =>
    have e : i = ch '(' :: ch '?' :: ch ':' :: m := hl
    subst e
    refine ⟨head_ne_of_ne (by decide) _, head_ne_of_ne (by decide) _, no_eat2_ne1 (by decide), no_eat2_ne1 (by decide), ?_⟩
    exact .inr (.inl ⟨_, rfl, head_ne_of_ne (by decide) _, head_ne_of_ne (by decide) _, head_ne_of_ne (by decide) _⟩)

/-- what may follow an `Alternative` starts neither an assertion nor an atom -/
theorem AltFollow.nas {r : List Nat} (h : AltFollow r) : NAS r := by
  rcases h with rfl | h | h
  · exact NAS.nil
  · cases r with
    | nil => cases h
    | cons x m => cases h; exact NAS.of_ne (by decide)
  · cases r with
    | nil => cases h
    | cons x m => cases h; exact NAS.of_ne (by decide)

theorem AltFollow.nat {r : List Nat} (h : AltFollow r) : NAT r := by
  have key : ∀ (x : Nat) (m : List Nat), (SyntaxCharacter x ∧ x ≠ ch '.' ∧ x ≠ ch '\\' ∧ x ≠ ch '[' ∧ x ≠ ch '(') →
      NAT (x :: m) := fun x m hx =>
    ⟨fun y hy => (by cases hy; exact hx.1), head_ne_of_ne hx.2.1 _, head_ne_of_ne hx.2.2.1 _, head_ne_of_ne hx.2.2.2.1 _,
      head_ne_of_ne hx.2.2.2.2 _⟩
  rcases h with rfl | h | h
  · exact ⟨fun x hx => (by cases hx), nil_head_ne _, nil_head_ne _, nil_head_ne _, nil_head_ne _⟩
  · cases r with
    | nil => cases h
    | cons x m => cases h; exact key _ _ (by unfold SyntaxCharacter; decide)
  · cases r with
    | nil => cases h
    | cons x m => cases h; exact key _ _ (by unfold SyntaxCharacter; decide)

theorem TrackC.move (s0 s1 : St) {s s2 : St} {a : Attr} (h : TrackC s0 s1 a)
    (e1 : s0.groupNames = s.groupNames) (e2 : s0.backreferenceNames = s.backreferenceNames)
    (e3 : s2.groupNames = s1.groupNames) (e4 : s2.backreferenceNames = s1.backreferenceNames) : TrackC s s2 a :=
  ⟨by rw [e3, h.gn, e1], fun x => by rw [e4, h.bn, e2]⟩

/-- transport a `TrackC` fact over moves of the reader -/
macro "rx5_track" : tactic => `(tactic| first
  | assumption
  | (refine TrackC.move ?_ ?_ ?h ?e1 ?e2 ?e3 ?e4; rotate_left 2; assumption; all_goals rfl))

/-- more side conditions: the bookkeeping of new group names -/
macro_rules
  | `(tactic| rx5_side) => `(tactic| first
    | exact ND.left ‹ND _ (_ ++ _)›
    | exact ND.right ‹ND _ (_ ++ _)› (TrackC.gn ‹TrackC _ _ _›)
    | exact ND.right ‹ND _ (_ ++ _)› (TrackC.gn (by rx5_track))
    | exact AltFollow.noQ ‹AltFollow _›
    | exact DFollow.alt ‹DFollow _›
    | (rw [KeepN.gn ‹KeepN _ _›]; assumption)
    | rx5_ne2
    | rx5_ne3
    | assumption)

def PT (src : List Nat) (N : Nat) (i r : List Nat) (a : Attr) : Prop :=
  ∀ n s, UAt src N i s → NoQ r → ND s.groupNames a →
    Wc (consumeTerm n s) (fun b s1 => b = true ∧ UAt src N r s1 ∧ TrackC s s1 a)

def PA (src : List Nat) (N : Nat) (i r : List Nat) (a : Attr) : Prop :=
  ∀ n s, UAt src N i s → ND s.groupNames a →
    Wc (consumeAssertion n s) (fun b s1 => b = true ∧ UAt src N r s1 ∧ TrackC s s1 a)

def PAt (src : List Nat) (N : Nat) (i r : List Nat) (a : Attr) : Prop :=
  ∀ n s, UAt src N i s → ND s.groupNames a →
    Wc (consumeAtom n s) (fun b s1 => b = true ∧ UAt src N r s1 ∧ TrackC s s1 a)

def PD (src : List Nat) (N : Nat) (i r : List Nat) (a : Attr) : Prop :=
  ∀ n s, UAt src N i s → DFollow r → ND s.groupNames a →
    Wc ((consumeAlternative n >>= fun _ => consumeDisjunctionLoop n) s) (fun _ s1 => UAt src N r s1 ∧ TrackC s s1 a)

theorem alt_loop {i r : List Nat} {a : Attr} (h : TermsP (N := N) (PT src N) i r a) (hf : AltFollow r) :
    ∀ n s, UAt src N i s → ND s.groupNames a →
      Wc (consumeAlternative n s) (fun _ s1 => UAt src N r s1 ∧ TrackC s s1 a) := by
  induction h with
  | nil r =>
    intro n s hat hnd
    cases n with
    | zero => exact Wc.outOfFuel
    | succ n =>
      have hterm := fun s (h : UAt src N r s) => consumeTerm_wcn (src := src) (N := N) n r s h hf.nas hf.nat
      unfold consumeAlternative
      rx5_autos
      · exact ⟨‹UAt src N _ _›, TrackC.ofKeepN ‹KeepN s _›⟩
      · exact ⟨hat, TrackC.ofKeepN (KeepN.refl _)⟩
  | cons i m r a₁ a₂ ht hp hrest ih =>
    intro n s hat hnd
    have ih' := ih hf
    unfold PT at hp
    have hq : NoQ m := hrest.noQ hf.noQ
    obtain ⟨x, i', rfl⟩ := term_cons ht rfl
    cases n with
    | zero => exact Wc.outOfFuel
    | succ n =>
      unfold consumeAlternative
      rx5_autos
      exact ⟨‹UAt src N r _›, TrackC.trans ‹TrackC s _ a₁› ‹TrackC _ _ a₂›⟩

/-- the specification of `consume_disjunction` that the callers use -/
def PDj (src : List Nat) (N : Nat) (i r : List Nat) (a : Attr) : Prop :=
  ∀ n s, UAt src N i s → ND s.groupNames a →
    Wc (consumeDisjunction n s) (fun _ s1 => UAt src N r s1 ∧ TrackC s s1 a)

theorem disj_of_body {i r : List Nat} {a : Attr} (hd : PD src N i r a) (hf : DFollow r) : PDj src N i r a := by
  intro n s hat hnd
  cases n with
  | zero => exact Wc.outOfFuel
  | succ n =>
    have e : consumeDisjunction (n + 1) = ((consumeAlternative n >>= fun _ => consumeDisjunctionLoop n) >>= fun _ => do
        if ← consumeQuantifier n true then fail "Nothing to repeat"
        else if ← eat '{' then fail "Lone quantifier brackets"
        else pure ()) := by
      conv => lhs; unfold consumeDisjunction
      rw [bind_assoc']
    rw [e]
    refine Wc.call (hd n s hat hf hnd) (fun _ s1 hpost => ?_)
    obtain ⟨hat1, htr⟩ := hpost
    have hnq : NoQ r := hf.alt.noQ
    have hq := fun s (h : UAt src N r s) => consumeQuantifier_wcn (src := src) (N := N) n true r s h hnq
    have h4 := hnq.2.2.2
    rx5_autos
    exact ⟨‹UAt src N r _›, htr⟩

theorem TrackC.none {s s1 : St} (h : KeepN s s1) : TrackC s s1 ⟨[none], []⟩ :=
  ⟨by rw [h.gn]; exact (List.append_nil _).symm, fun x => by
    rw [h.bn]; exact ⟨.inl, fun h => h.elim id (fun h => nomatch h)⟩⟩

theorem ND.right_none {g : List Name} {a : Attr} (h : ND g (⟨[none], []⟩ ++ a)) : ND g a := h

theorem ND.right_some {g g1 : List Name} {nm : Name} {a : Attr} (h : ND g (⟨[some nm], []⟩ ++ a))
    (hg : g1 = g ++ [nm]) : ND g1 a := ND.right h hg

theorem uncapturing_wc {m r : List Nat} {a : Attr} (hdj : PDj src N m (ch ')' :: r) a) :
    ∀ n s, UAt src N (ch '(' :: ch '?' :: ch ':' :: m) s → ND s.groupNames a →
      Wc (consumeUncapturingGroup n s) (fun b s1 => b = true ∧ UAt src N r s1 ∧ TrackC s s1 a) := by
  intro n s hat hnd
  unfold PDj at hdj
  cases n with
  | zero => exact Wc.outOfFuel
  | succ n =>
    unfold consumeUncapturingGroup
    rx5_autos
    exact ⟨rfl, by rx4_at, by rx5_track⟩

theorem capturing_named_wc {m m₂ r : List Nat} {nm : Name} {a : Attr} (hg : GroupName m m₂ nm)
    (hdj : PDj src N m₂ (ch ')' :: r) a) :
    ∀ n s, UAt src N (ch '(' :: ch '?' :: m) s → ND s.groupNames (⟨[some nm], []⟩ ++ a) →
      Wc (consumeCapturingGroup n s) (fun b s1 => b = true ∧ UAt src N r s1 ∧ TrackC s s1 (⟨[some nm], []⟩ ++ a)) := by
  intro n s hat hnd
  unfold PDj at hdj
  have hnew : ¬nm ∈ s.groupNames := ND.new hnd
  cases n with
  | zero => exact Wc.outOfFuel
  | succ n =>
    unfold consumeCapturingGroup
    rx5_autos
    rename_i t1 _ _ _ t2 _
    exact ⟨rfl, by rx4_at, TrackC.move _ _ (TrackC.trans t1 t2) rfl rfl rfl rfl⟩

theorem capturing_empty_wc {m r : List Nat} {a : Attr} (hq : m.head? ≠ some (ch '?'))
    (hdj : PDj src N m (ch ')' :: r) a) :
    ∀ n s, UAt src N (ch '(' :: m) s → ND s.groupNames (⟨[none], []⟩ ++ a) →
      Wc (consumeCapturingGroup n s) (fun b s1 => b = true ∧ UAt src N r s1 ∧ TrackC s s1 (⟨[none], []⟩ ++ a)) := by
  intro n s hat hnd
  unfold PDj at hdj
  have hnd' : ND s.groupNames a := ND.right_none hnd
  cases n with
  | zero => exact Wc.outOfFuel
  | succ n =>
    unfold consumeCapturingGroup
    rx5_autos
    rename_i t1 _
    exact ⟨rfl, by rx4_at, TrackC.move _ _
      (TrackC.trans (TrackC.none (⟨rfl, rfl⟩ : KeepN s (s.setPos src (s.reader.index + 1)))) t1) rfl rfl rfl rfl⟩

end DL.Rx
