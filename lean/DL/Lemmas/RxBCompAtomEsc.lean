import DL.Lemmas.RxBCompName
import DL.Lemmas.RxCompAtomEsc

/-! # Annex B (no `u` flag), completeness: class escapes, back references, `\k<…>`, group specifiers,
`AtomEscape[~U, N]`, and `\ AtomEscape` as an atom -/
namespace DL.Rx
open DL.RxSpec DL.Gen.Unicode

attribute [local irreducible] isScalar
variable {src : List Nat} {K : Bool × Nat}

theorem consumeBackreference_wd (n : Nat) (r r1 : List Nat) (v : Nat) (s : St) (h : BAt src K r s)
    (hD : DecimalEscape r r1 v) (hv : v ≤ K.2) :
    Wc (consumeBackreference n s) (fun b s1 => b = true ∧ BAt src K r1 s1 ∧ Keep s s1) := by
  unfold consumeBackreference
  rx7_auto
  case pos => rx7_fin
  rename_i hn _
  have hat := ‹BAt src K r1 _›
  have hv1 := ‹_ = satI v›
  exfalso; apply hn
  rw [hv1, hat.ncp]
  have : satI v ≤ (v : Int) := by unfold satI; split <;> omega
  omega

theorem consumeBackreference_wdn (n : Nat) (r : List Nat) (s : St) (h : BAt src K r s)
    (hn : ∀ d, r.head? = some d → ¬NonZeroDigit d) :
    Wc (consumeBackreference n s) (fun b s1 => b = false ∧ s1 = s.withInt 0) := by
  unfold consumeBackreference
  rx7_auto
  exact ⟨rfl, ‹_ = s.withInt 0›⟩

/-- a decimal escape beyond the number of groups is no back reference (without the `u` flag that is not an error) -/
theorem consumeBackreference_wdm (hN : K.2 < 2 ^ 62) (n : Nat) (r r1 : List Nat) (v : Nat) (s : St) (h : BAt src K r s)
    (hD : DecimalEscape r r1 v) (hv : ¬v ≤ K.2) :
    Wc (consumeBackreference n s) (fun b s1 => b = false ∧ BAt src K r s1 ∧ Keep s s1) := by
  unfold consumeBackreference
  rx7_auto
  case pos =>
    rename_i hc
    have hat := ‹BAt src K r1 _›
    have hv1 := ‹_ = satI v›
    rw [hv1, hat.ncp] at hc
    exact absurd (le_of_satI_le (N := K.2) hN hc) hv
  rx7_fin

theorem consumeCharacterClassEscape_wd (n : Nat) (r r1 : List Nat) (s : St) (h : BAt src K r s)
    (hD : RxSpecB.CharacterClassEscape r r1) :
    Wc (consumeCharacterClassEscape n s) (fun b s1 => b = true ∧ BAt src K r1 s1 ∧ s1.lastIntValue = -1 ∧ KeepN s s1) := by
  refine (consumeCharacterClassEscape_wcb n r s h).mono fun b s1 ⟨k, hb⟩ => ?_
  cases b
  · exact absurd ⟨r1, hD⟩ ((if_neg Bool.false_ne_true).mp hb).2
  · obtain ⟨r1', h1, ⟨x', e', -⟩, hv⟩ := (if_pos rfl).mp hb
    obtain ⟨x, rfl, -⟩ := hD
    cases e'
    exact ⟨rfl, h1, hv, k⟩

theorem consumeCharacterClassEscape_wdn (n : Nat) (r : List Nat) (s : St) (h : BAt src K r s)
    (hn : ¬∃ r', RxSpecB.CharacterClassEscape r r') :
    Wc (consumeCharacterClassEscape n s) (fun b s1 => b = false ∧ s1 = s) := by
  refine (consumeCharacterClassEscape_wcb n r s h).mono fun b s1 ⟨_, hb⟩ => ?_
  cases b
  · exact ⟨rfl, ((if_neg Bool.false_ne_true).mp hb).1⟩
  · obtain ⟨r1, -, hc, -⟩ := (if_pos rfl).mp hb
    exact absurd ⟨r1, hc⟩ hn

theorem no_cce_cons {x : Nat} (m : List Nat) (hx : x ∉ [c 'd', c 'D', c 's', c 'S', c 'w', c 'W']) :
    ¬∃ r', RxSpecB.CharacterClassEscape (x :: m) r' :=
  fun ⟨_, _, e, hy⟩ => hx ((List.cons.inj e).1 ▸ hy)

theorem consumeKGroupName_wd (n : Nat) (m r1 : List Nat) (nm : List Nat) (s : St) (h : BAt src K (ch 'k' :: m) s)
    (hD : RxSpecB.GroupName m r1 nm) :
    Wc (consumeKGroupName n s) (fun b s1 => b = true ∧ BAt src K r1 s1 ∧ TrackC s s1 ⟨[], [nm]⟩) := by
  unfold consumeKGroupName
  rx7_auto
  rename_i s1 _ hat hstr hk
  refine ⟨rfl, by rx6_at, ?_, fun x => ?_⟩
  · show s1.groupNames = s.groupNames ++ []
    rw [hk.gn, List.append_nil]; rfl
  · show x ∈ (if s1.backreferenceNames.contains s1.lastStrValue then s1.backreferenceNames
        else s1.backreferenceNames ++ [s1.lastStrValue]) ↔ x ∈ s.backreferenceNames ∨ x ∈ [nm]
    have e : s1.backreferenceNames = s.backreferenceNames := hk.bn
    rw [hstr, e]
    split
    · rename_i hc
      have := List.contains_iff_mem.mp hc
      constructor
      · exact .inl
      · rintro (hx | hx)
        · exact hx
        · have : x = nm := by simpa using hx
          subst this; assumption
    · rw [List.mem_append]

theorem consumeKGroupName_wdn (n : Nat) (r : List Nat) (s : St) (h : BAt src K r s) (hn : r.head? ≠ some (ch 'k')) :
    Wc (consumeKGroupName n s) (fun b s1 => b = false ∧ s1 = s) := by
  unfold consumeKGroupName
  rx7_auto
  exact ⟨rfl, rfl⟩

theorem consumeGroupSpecifier_wd (n : Nat) (m r1 : List Nat) (nm : List Nat) (s : St) (h : BAt src K (ch '?' :: m) s)
    (hD : RxSpecB.GroupName m r1 nm) (hnew : ¬nm ∈ s.groupNames) :
    Wc (consumeGroupSpecifier n s) (fun b s1 => b = true ∧ BAt src K r1 s1 ∧ TrackC s s1 ⟨[some nm], []⟩) := by
  unfold consumeGroupSpecifier
  rx7_auto
  case neg =>
    rename_i s1 _ hat hstr hk hn
    apply hn
    have e : s1.groupNames = s.groupNames := hk.gn
    rw [hstr, e]
    have : s.groupNames.contains nm = false := by
      cases hc : s.groupNames.contains nm
      · rfl
      · exact absurd (List.contains_iff_mem.mp hc) hnew
    rw [this]; rfl
  rename_i s1 _ hat hstr hk hc
  refine ⟨rfl, by rx6_at, ?_, fun x => ?_⟩
  · show s1.groupNames ++ [s1.lastStrValue] = s.groupNames ++ [nm]
    rw [hk.gn, hstr]; rfl
  · show x ∈ s1.backreferenceNames ↔ x ∈ s.backreferenceNames ∨ x ∈ []
    have e : s1.backreferenceNames = s.backreferenceNames := hk.bn
    rw [e]
    exact ⟨.inl, fun h => h.elim id (fun h => nomatch h)⟩

theorem consumeGroupSpecifier_wdn (n : Nat) (r : List Nat) (s : St) (h : BAt src K r s) (hn : r.head? ≠ some (ch '?')) :
    Wc (consumeGroupSpecifier n s) (fun b s1 => b = false ∧ s1 = s) := by
  unfold consumeGroupSpecifier
  rx7_auto
  exact ⟨rfl, rfl⟩

theorem decimalEscape_exists {d : Nat} (m : List Nat) (hnz : NonZeroDigit d) : ∃ r' v', DecimalEscape (d :: m) r' v' := by
  obtain ⟨ds, r1, e, hds, hstop⟩ := exists_run DecimalDigit m
  refine ⟨r1, mvDec (d :: ds), d :: ds, by rw [e]; rfl, ⟨d, ds, rfl, hnz⟩, ?_, hstop, rfl⟩
  intro x hx
  rcases List.mem_cons.mp hx with rfl | hx
  · have h' : 0x31 ≤ x ∧ x ≤ 0x39 := hnz
    show 0x30 ≤ x ∧ x ≤ 0x39; omega
  · exact hds x hx

theorem consumeAtomEscape_wd (hN : K.2 < 2 ^ 62) (n : Nat) (r r1 : List Nat) (a : Attr) (s : St) (h : BAt src K r s)
    (hD : RxSpecB.AtomEscape K.1 K.2 r r1 a) :
    Wc (consumeAtomEscape n s) (fun b s1 => b = true ∧ BAt src K r1 s1 ∧ TrackC s s1 a) := by
  cases hD with
  | decimal _ _ v hd hv =>
    unfold consumeAtomEscape
    rx7_autos
    exact ⟨rfl, by rx6_at, TrackC.ofKeepN (by rx6_keep)⟩
  | characterClass _ _ hc =>
    have hnz : ∀ d, r.head? = some d → ¬NonZeroDigit d := by
      obtain ⟨x, rfl, hx⟩ := hc
      simp only [List.mem_cons, List.not_mem_nil, or_false] at hx
      rcases hx with rfl | rfl | rfl | rfl | rfl | rfl <;> exact head_not_nonZero (by decide)
    unfold consumeAtomEscape
    rx7_autos
    exact ⟨rfl, by rx6_at, TrackC.ofKeepN (by rx6_keep)⟩
  | character _ _ v hc hnd hnc =>
    by_cases hz : ∃ d m, r = d :: m ∧ NonZeroDigit d
    · obtain ⟨d, m, rfl, hnz⟩ := hz
      obtain ⟨r', v', hde⟩ := decimalEscape_exists m hnz
      have hv' : ¬v' ≤ K.2 := fun hle => hnd ⟨r', v', hde, hle⟩
      have hbr := fun s h => consumeBackreference_wdm (src := src) (K := K) hN n _ r' v' s h hde hv'
      unfold consumeAtomEscape
      rx7_autos
      exact ⟨rfl, by rx6_at, TrackC.ofKeepN (by rx6_keep)⟩
    · have hnz : ∀ d, r.head? = some d → ¬NonZeroDigit d := by
        intro d hd hnz
        cases r with
        | nil => cases hd
        | cons x m => cases hd; exact hz ⟨d, m, rfl, hnz⟩
      unfold consumeAtomEscape
      rx7_autos
      exact ⟨rfl, by rx6_at, TrackC.ofKeepN (by rx6_keep)⟩
  | named m _ nm hnf hg =>
    have hnz : ∀ d, (ch 'k' :: m).head? = some d → ¬NonZeroDigit d := head_not_nonZero (by decide)
    have hfree := no_cce_cons (x := ch 'k') m (by decide)
    unfold consumeAtomEscape
    rx7_autos
    have hk := ‹Keep (s.withInt 0) _›
    exact ⟨rfl, ‹BAt src K r1 _›, TrackC.pre (s1 := _) ⟨hk.gn, hk.bn⟩ ‹TrackC _ _ _›⟩

/-- `\c` not followed by a letter is no `AtomEscape` -/
theorem consumeAtomEscape_wdn (n : Nat) (m : List Nat) (s : St) (h : BAt src K (ch 'c' :: m) s)
    (hn : ∀ l, m.head? = some l → ¬ControlLetter l) :
    Wc (consumeAtomEscape n s) (fun b s1 => b = false ∧ BAt src K (ch 'c' :: m) s1 ∧ KeepN s s1) := by
  have hnz : ∀ d, (ch 'c' :: m).head? = some d → ¬NonZeroDigit d := head_not_nonZero (by decide)
  have hfree := no_cce_cons (x := ch 'c') m (by decide)
  have hce := fun s h => consumeCharacterEscape_wdn (src := src) (K := K) n m s h hn
  unfold consumeAtomEscape
  rx7_autos
  all_goals (
    have hk := ‹Keep (s.withInt 0) _›
    exact ⟨rfl, ‹BAt src K (ch 'c' :: m) _›, ⟨hk.gn, hk.bn⟩⟩)

theorem consumeReverseSolidusAtomEscape_wd (hN : K.2 < 2 ^ 62) (n : Nat) (m r1 : List Nat) (a : Attr) (s : St)
    (h : BAt src K (ch '\\' :: m) s) (hD : RxSpecB.AtomEscape K.1 K.2 m r1 a) :
    Wc (consumeReverseSolidusAtomEscape n s) (fun b s1 => b = true ∧ BAt src K r1 s1 ∧ TrackC s s1 a) := by
  have hae := fun s h => consumeAtomEscape_wd (src := src) (K := K) hN n m r1 a s h hD
  unfold consumeReverseSolidusAtomEscape
  rx7_autos
  exact ⟨rfl, ‹BAt src K r1 _›, TrackC.pre (s1 := s.setPos src (s.reader.index + 1)) ⟨rfl, rfl⟩ ‹TrackC _ _ a›⟩

theorem consumeReverseSolidusAtomEscape_wdn (n : Nat) (r : List Nat) (s : St) (h : BAt src K r s)
    (hn : r.head? ≠ some (ch '\\')) :
    Wc (consumeReverseSolidusAtomEscape n s) (fun b s1 => b = false ∧ s1 = s) := by
  unfold consumeReverseSolidusAtomEscape
  rx7_autos
  exact ⟨rfl, rfl⟩

/-- `\c` not followed by a letter is no `\ AtomEscape` -/
theorem consumeReverseSolidusAtomEscape_wdm (n : Nat) (m : List Nat) (s : St) (h : BAt src K (ch '\\' :: ch 'c' :: m) s)
    (hn : ∀ l, m.head? = some l → ¬ControlLetter l) :
    Wc (consumeReverseSolidusAtomEscape n s) (fun b s1 => b = false ∧ BAt src K (ch '\\' :: ch 'c' :: m) s1 ∧ KeepN s s1) := by
  have hae := fun s h => consumeAtomEscape_wdn (src := src) (K := K) n m s h hn
  unfold consumeReverseSolidusAtomEscape
  rx7_autos
  rename_i hk _
  exact ⟨rfl, by assumption, ⟨hk.gn, hk.bn⟩⟩

end DL.Rx
