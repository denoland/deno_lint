import DL.Lemmas.RxSpecName2

/-! # Completeness: the binary search over the (sorted) range tables finds every member -/
namespace DL.Rx
open DL.RxSpec DL.Gen.Unicode

/-- the ranges are non-empty, disjoint and increasing -/
def sortedPairs : List Nat → Bool
  | lo :: hi :: rest =>
    decide (lo ≤ hi) && (match rest with | lo' :: _ => decide (hi < lo') | [] => true) && sortedPairs rest
  | _ => true

theorem sortedPairs_cons {a b : Nat} {rest : List Nat} (h : sortedPairs (a :: b :: rest) = true) :
    a ≤ b ∧ (∀ x, rest.head? = some x → b < x) ∧ sortedPairs rest = true := by
  simp only [sortedPairs, Bool.and_eq_true, decide_eq_true_eq] at h
  refine ⟨h.1.1, ?_, h.2⟩
  intro x hx
  cases rest with
  | nil => cases hx
  | cons y t => cases hx; simpa using h.1.2

theorem idx_succ (i : Nat) : 2 * (i + 1) = 2 * i + 1 + 1 ∧ 2 * (i + 1) + 1 = 2 * i + 1 + 1 + 1 := by omega

/-- the first lower bound is the least -/
theorem sorted_first_le : ∀ (l : List Nat) (j x lo : Nat), sortedPairs l = true → l.head? = some x → l[2 * j]? = some lo →
    x ≤ lo
  | [], _, _, _, _, h, _ => by cases h
  | [_], 0, _, _, _, h, h0 => by simp at h h0; omega
  | [_], j + 1, _, _, _, _, h0 => by
    rw [(idx_succ j).1] at h0; simp at h0
  | a :: b :: rest, 0, x, lo, _, h, h0 => by simp at h h0; omega
  | a :: b :: rest, j + 1, x, lo, hs, h, h0 => by
    obtain ⟨hab, hnext, hrest⟩ := sortedPairs_cons hs
    rw [(idx_succ j).1] at h0
    simp only [List.getElem?_cons_succ] at h0
    have hx : x = a := by simpa using h.symm
    cases rest with
    | nil => simp at h0
    | cons y t =>
      have := sorted_first_le (y :: t) j y lo hrest rfl h0
      have := hnext y rfl
      omega

theorem sorted_lo_le_hi : ∀ (l : List Nat) (i lo hi : Nat), sortedPairs l = true → l[2 * i]? = some lo →
    l[2 * i + 1]? = some hi → lo ≤ hi
  | [], _, _, _, _, h, _ => by simp at h
  | [_], i, _, _, _, _, h => by simp at h
  | a :: b :: rest, 0, lo, hi, hs, h0, h1 => by
    simp at h0 h1; subst h0 h1; exact (sortedPairs_cons hs).1
  | a :: b :: rest, i + 1, lo, hi, hs, h0, h1 => by
    rw [(idx_succ i).1] at h0; rw [(idx_succ i).2] at h1
    simp only [List.getElem?_cons_succ] at h0 h1
    exact sorted_lo_le_hi rest i lo hi (sortedPairs_cons hs).2.2 h0 h1

/-- an earlier range ends before a later one starts -/
theorem sorted_lt : ∀ (l : List Nat) (i j hi lo : Nat), sortedPairs l = true → i < j → l[2 * i + 1]? = some hi →
    l[2 * j]? = some lo → hi < lo
  | [], _, _, _, _, _, _, h, _ => by simp at h
  | [_], _, _, _, _, _, _, h, _ => by simp at h
  | a :: b :: rest, 0, j + 1, hi, lo, hs, _, h1, h0 => by
    obtain ⟨_, hnext, hrest⟩ := sortedPairs_cons hs
    rw [(idx_succ j).1] at h0
    simp only [List.getElem?_cons_succ] at h0
    simp at h1; subst h1
    cases rest with
    | nil => simp at h0
    | cons y t =>
      have := sorted_first_le (y :: t) j y lo hrest rfl h0
      have := hnext y rfl
      omega
  | a :: b :: rest, i + 1, j + 1, hi, lo, hs, hij, h1, h0 => by
    rw [(idx_succ j).1] at h0; rw [(idx_succ i).2] at h1
    simp only [List.getElem?_cons_succ] at h0 h1
    exact sorted_lt rest i j hi lo (sortedPairs_cons hs).2.2 (by omega) h1 h0

/-- `m` answers `true` whenever `p` holds (unless it runs out of fuel); it does not touch the state -/
def Yes (m : M Bool) (p : Prop) : Prop := p → ∀ s, m s = .ok true s ∨ m s = .outOfFuel s

theorem isInRangeLoop_yes (cp : Nat) (t : Array Nat) (hs : sortedPairs t.toList = true) :
    ∀ n l r, r ≤ t.size / 2 →
      Yes (isInRangeLoop cp t n l r) (∃ k lo hi, l ≤ k ∧ k < r ∧ t[2 * k]? = some lo ∧ t[2 * k + 1]? = some hi ∧ lo ≤ cp ∧ cp ≤ hi)
  | 0, _, _, _ => fun _ _ => .inr rfl
  | n + 1, l, r, hr => by
    rintro ⟨k, lo, hi, hlk, hkr, h0, h1, hlo, hhi⟩ s
    have i0 : 2 * ((l + r) / 2) < t.size := by omega
    have i1 : 2 * ((l + r) / 2) + 1 < t.size := by omega
    have key : isInRangeLoop cp t (n + 1) l r =
        (if cp < t[2 * ((l + r) / 2)] then isInRangeLoop cp t n l ((l + r) / 2)
         else if cp > t[2 * ((l + r) / 2) + 1] then isInRangeLoop cp t n ((l + r) / 2 + 1) r else pure true) := by
      conv => lhs; unfold isInRangeLoop
      rw [if_pos (by omega)]
      dsimp only
      rw [Array.getElem?_eq_getElem i0, Array.getElem?_eq_getElem i1]
      rfl
    rw [key]
    have g0 : t.toList[2 * ((l + r) / 2)]? = some t[2 * ((l + r) / 2)] := by
      rw [Array.getElem?_toList]; exact Array.getElem?_eq_getElem i0
    have g1 : t.toList[2 * ((l + r) / 2) + 1]? = some t[2 * ((l + r) / 2) + 1] := by
      rw [Array.getElem?_toList]; exact Array.getElem?_eq_getElem i1
    rw [← Array.getElem?_toList] at h0 h1
    have hmm := sorted_lo_le_hi _ _ _ _ hs g0 g1
    by_cases c1 : cp < t[2 * ((l + r) / 2)]
    · rw [if_pos c1]
      refine isInRangeLoop_yes cp t hs n l _ (by omega) ⟨k, lo, hi, hlk, ?_, by rw [← Array.getElem?_toList]; exact h0,
        by rw [← Array.getElem?_toList]; exact h1, hlo, hhi⟩ s
      -- k < mid
      rcases Nat.lt_trichotomy k ((l + r) / 2) with hk | hk | hk
      · exact hk
      · subst hk; rw [g0] at h0; cases h0; omega
      · have := sorted_lt _ _ _ _ _ hs hk g1 h0; omega
    · rw [if_neg c1]
      by_cases c2 : cp > t[2 * ((l + r) / 2) + 1]
      · rw [if_pos c2]
        refine isInRangeLoop_yes cp t hs n _ r hr ⟨k, lo, hi, ?_, hkr, by rw [← Array.getElem?_toList]; exact h0,
          by rw [← Array.getElem?_toList]; exact h1, hlo, hhi⟩ s
        rcases Nat.lt_trichotomy k ((l + r) / 2) with hk | hk | hk
        · have := sorted_lt _ _ _ _ _ hs hk h1 g0; omega
        · subst hk; rw [g1] at h1; cases h1; omega
        · omega
      · rw [if_neg c2]; exact .inl rfl

theorem isInRange_yes (cp : Nat) (t : Array Nat) (hs : sortedPairs t.toList = true) :
    Yes (isInRange cp t) (InTable cp t) := by
  rintro ⟨k, lo, hi, h0, h1, hlo, hhi⟩ s
  have hk : k < t.size / 2 := by
    have : 2 * k + 1 < t.size := by
      rcases Nat.lt_or_ge (2 * k + 1) t.size with h | h
      · exact h
      · rw [Array.getElem?_eq_none h] at h1; cases h1
    omega
  exact isInRangeLoop_yes cp t hs _ 0 _ (Nat.le_refl _) ⟨k, lo, hi, Nat.zero_le _, hk, h0, h1, hlo, hhi⟩ s

set_option maxRecDepth 100000 in
theorem largeIdStart_sorted : sortedPairs largeIdStartRanges.toList = true := by decide +kernel
set_option maxRecDepth 100000 in
theorem largeIdContinue_sorted : sortedPairs largeIdContinueRanges.toList = true := by decide +kernel

end DL.Rx

namespace DL.Rx
open DL.RxSpec DL.Gen.Unicode

theorem Yes.orM_left {a b : M Bool} {p : Prop} (ha : Yes a p) : Yes (a <or> b) p := by
  intro hp s
  show (orM a b) s = _ ∨ (orM a b) s = _
  unfold orM
  show M.bind a _ s = _ ∨ M.bind a _ s = _
  unfold M.bind
  rcases ha hp s with h | h <;> rw [h]
  · exact .inl rfl
  · exact .inr rfl

theorem Yes.orM_right {a b : M Bool} {p q : Prop} (ta : Tests a q) (hb : Yes b p) : Yes (a <or> b) p := by
  intro hp s
  show (orM a b) s = _ ∨ (orM a b) s = _
  unfold orM
  show M.bind a _ s = _ ∨ M.bind a _ s = _
  unfold M.bind
  rcases ta s with ⟨b', h, _⟩ | h <;> rw [h]
  · cases b'
    · exact hb hp s
    · exact .inl rfl
  · exact .inr rfl

theorem Yes.mono {m : M Bool} {p q : Prop} (h : Yes m p) (hqp : q → p) : Yes m q := fun hq => h (hqp hq)

theorem yes_pure_eq (cp v : Nat) : Yes (pure (cp == v)) (cp = v) := by
  intro h s; subst h; exact .inl (by rw [beq_self_eq_true]; rfl)

theorem isIdStart_yes (cp : Nat) : Yes (isIdStart cp) (UnicodeIDStart cp) := by
  intro hp s
  have hcl : ControlLetter cp ↔ (0x61 ≤ cp ∧ cp ≤ 0x7a) ∨ (0x41 ≤ cp ∧ cp ≤ 0x5a) := Iff.rfl
  have hge : InTable cp largeIdStartRanges → 128 ≤ cp := inTable_ge largeIdStart_ge
  unfold isIdStart
  by_cases c1 : cp < 0x41
  · rcases hp with hp | hp
    · rw [hcl] at hp; omega
    · have := hge hp; omega
  rw [if_neg c1]
  by_cases c2 : cp < 0x5b
  · rw [if_pos c2]; exact .inl rfl
  rw [if_neg c2]
  by_cases c3 : cp < 0x61
  · rcases hp with hp | hp
    · rw [hcl] at hp; omega
    · have := hge hp; omega
  rw [if_neg c3]
  by_cases c4 : cp < 0x7b
  · rw [if_pos c4]; exact .inl rfl
  rw [if_neg c4]
  rcases hp with hp | hp
  · rw [hcl] at hp; omega
  · exact isInRange_yes cp _ largeIdStart_sorted hp s

theorem isIdContinue_yes (cp : Nat) : Yes (isIdContinue cp) (UnicodeIDContinue cp) := by
  intro hp s
  have hcl : ControlLetter cp ↔ (0x61 ≤ cp ∧ cp ≤ 0x7a) ∨ (0x41 ≤ cp ∧ cp ≤ 0x5a) := Iff.rfl
  have hdd : DecimalDigit cp ↔ 0x30 ≤ cp ∧ cp ≤ 0x39 := Iff.rfl
  have hus : cp = c '_' ↔ cp = 0x5f := Iff.rfl
  have hge : InTable cp largeIdStartRanges → 128 ≤ cp := inTable_ge largeIdStart_ge
  have hge' : InTable cp largeIdContinueRanges → 128 ≤ cp := inTable_ge largeIdContinue_ge
  have low : cp < 128 → (0x61 ≤ cp ∧ cp ≤ 0x7a) ∨ (0x41 ≤ cp ∧ cp ≤ 0x5a) ∨ (0x30 ≤ cp ∧ cp ≤ 0x39) ∨ cp = 0x5f := by
    intro hlt
    rcases hp with (hp | hp) | hp | hp | hp
    · rw [hcl] at hp; omega
    · have := hge hp; omega
    · rw [hdd] at hp; omega
    · rw [hus] at hp; omega
    · have := hge' hp; omega
  unfold isIdContinue
  by_cases c1 : cp < 0x30
  · have := low (by omega); omega
  rw [if_neg c1]
  by_cases c2 : cp < 0x3a
  · rw [if_pos c2]; exact .inl rfl
  rw [if_neg c2]
  by_cases c3 : cp < 0x41
  · have := low (by omega); omega
  rw [if_neg c3]
  by_cases c4 : (cp < 0x5b || cp == 0x5f) = true
  · rw [if_pos c4]; exact .inl rfl
  rw [if_neg c4]
  have c4' : ¬cp < 0x5b ∧ cp ≠ 0x5f := by
    simp only [Bool.or_eq_true, decide_eq_true_eq, beq_iff_eq, not_or] at c4
    exact c4
  by_cases c5 : cp < 0x61
  · have := low (by omega); omega
  rw [if_neg c5]
  by_cases c6 : cp < 0x7b
  · rw [if_pos c6]; exact .inl rfl
  rw [if_neg c6]
  have hbig : ¬cp < 128 := fun hlt => by have := low hlt; omega
  rcases hp with (hp | hp) | hp | hp | hp
  · rw [hcl] at hp; omega
  · exact Yes.orM_left (isInRange_yes cp _ largeIdStart_sorted) hp s
  · rw [hdd] at hp; omega
  · rw [hus] at hp; omega
  · exact Yes.orM_right (isInRange_tests cp _) (isInRange_yes cp _ largeIdContinue_sorted) hp s

theorem isRegexpIdentifierStart_yes (cp : Nat) : Yes (isRegexpIdentifierStart cp) (IdentifierStartChar cp) := by
  intro hp
  unfold isRegexpIdentifierStart
  rcases hp with hp | hp | hp
  · exact Yes.orM_left (isIdStart_yes cp) hp
  · exact Yes.orM_right (isIdStart_spec cp) (Yes.orM_left (yes_pure_eq cp _)) hp
  · exact Yes.orM_right (isIdStart_spec cp) (Yes.orM_right (tests_eq' cp _ True fun _ => trivial) (yes_pure_eq cp _)) hp

theorem isRegexpIdentifierPart_yes (cp : Nat) : Yes (isRegexpIdentifierPart cp) (IdentifierPartChar cp) := by
  intro hp
  unfold isRegexpIdentifierPart
  have t := fun v => tests_eq' cp v True fun _ => trivial
  rcases hp with hp | hp | hp | hp
  · exact Yes.orM_left (isIdContinue_yes cp) hp
  · exact Yes.orM_right (isIdContinue_spec cp) (Yes.orM_left (yes_pure_eq cp _)) hp
  · exact Yes.orM_right (isIdContinue_spec cp) (Yes.orM_right (t _) (Yes.orM_right (t _) (Yes.orM_left (yes_pure_eq cp _)))) hp
  · exact Yes.orM_right (isIdContinue_spec cp) (Yes.orM_right (t _) (Yes.orM_right (t _) (Yes.orM_right (t _) (yes_pure_eq cp _)))) hp

end DL.Rx
