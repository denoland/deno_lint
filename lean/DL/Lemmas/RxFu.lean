import DL.Model.Regex

/-!
# Fuel adequacy of the validator: the progress logic

`A E i ne s`: the reader's `end` is `E`, the look-ahead buffer does not reach beyond it
(`index + cps.len() ≤ end`), the position is at least `i`, and (if `ne`) the look-ahead buffer is non-empty.
`Fu E i ne m Q`: started in such a state, `m` does not run out of fuel, and on `ok a` the position is at least `Q a`
(`err` and `panic` outcomes carry no obligation: the former ends the validation, the latter is excluded by
`C12NoPanic`).
-/
namespace DL.Rx

structure A (E i : Nat) (ne : Bool) (s : St) : Prop where
  end_ : s.reader.end_ = E
  look : s.reader.index + s.reader.cps.length ≤ E
  pos : i ≤ s.reader.index
  nonempty : ne = true → s.reader.cps ≠ []

def Post (E : Nat) {α : Type} (Q : α → Nat) : Res α → Prop
  | .ok a s => A E (Q a) false s
  | .outOfFuel _ => False
  | _ => True

def Fu (E i : Nat) (ne : Bool) {α : Type} (m : M α) (Q : α → Nat) : Prop :=
  ∀ s, A E i ne s → Post E Q (m s)

variable {E : Nat} {α β : Type}

theorem A.weaken {i j : Nat} {ne : Bool} {s : St} (h : A E i ne s) (hj : j ≤ i) : A E j false s :=
  ⟨h.end_, h.look, Nat.le_trans hj h.pos, fun h => nomatch h⟩

theorem A.le {i : Nat} {ne : Bool} {s : St} (h : A E i ne s) : i ≤ E :=
  Nat.le_trans h.pos (Nat.le_trans (Nat.le_add_right _ _) h.look)

theorem Fu.pure {i : Nat} {ne : Bool} {Q : α → Nat} {a : α} (h : Q a ≤ i) : Fu E i ne (pure a : M α) Q :=
  fun _ hs => hs.weaken h

theorem Fu.bind {i : Nat} {ne : Bool} {R : α → Nat} {Q : β → Nat} {m : M α} {f : α → M β}
    (hm : Fu E i ne m R) (hf : ∀ a, Fu E (R a) false (f a) Q) : Fu E i ne (m >>= f) Q := by
  intro s hs
  have h1 := hm s hs
  show Post E Q (M.bind m f s)
  unfold M.bind
  cases h : m s with
  | ok a s' => rw [h] at h1; exact hf a s' h1
  | err _ _ => trivial
  | panic _ _ => trivial
  | outOfFuel _ => rw [h] at h1; exact h1

theorem Fu.pre {i j : Nat} {ne : Bool} {Q : α → Nat} {m : M α} (h : Fu E j false m Q) (hj : j ≤ i) :
    Fu E i ne m Q := fun s hs => h s (hs.weaken hj)

theorem Fu.post {i : Nat} {ne : Bool} {Q Q' : α → Nat} {m : M α} (h : Fu E i ne m Q) (hq : ∀ a, Q' a ≤ Q a) :
    Fu E i ne m Q' := by
  intro s hs
  have h1 := h s hs
  cases h2 : m s with
  | ok a s' => rw [h2] at h1; exact h1.weaken (hq a)
  | err _ _ => trivial
  | panic _ _ => trivial
  | outOfFuel _ => rw [h2] at h1; exact h1

/-- the position bound is at most `E`; makes `i ≤ E` available to arithmetic side conditions -/
theorem Fu.le {i : Nat} {ne : Bool} {Q : α → Nat} {m : M α} (h : i ≤ E → Fu E i ne m Q) : Fu E i ne m Q :=
  fun s hs => h hs.le s hs

theorem Fu.ite {i : Nat} {ne : Bool} {Q : α → Nat} {p : Prop} {_ : Decidable p} {a b : M α}
    (ha : p → Fu E i ne a Q) (hb : ¬p → Fu E i ne b Q) : Fu E i ne (if p then a else b) Q := by
  by_cases h : p
  · rw [if_pos h]; exact ha h
  · rw [if_neg h]; exact hb h

theorem Fu.fail {i : Nat} {ne : Bool} {Q : α → Nat} {msg : String} : Fu E i ne (fail msg : M α) Q := fun _ _ => trivial
theorem Fu.rustPanic {i : Nat} {ne : Bool} {Q : α → Nat} {why : String} : Fu E i ne (rustPanic why : M α) Q :=
  fun _ _ => trivial

end DL.Rx
