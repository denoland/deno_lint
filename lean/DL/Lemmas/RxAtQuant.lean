import DL.Lemmas.RxAtHex
import DL.Lemmas.RxCompQuant

/-!
# Decimal digit runs and the braced quantifier, for any `AtLike` predicate

`bracedBounds` can raise an error, so its specification has a third side: `Wx E (m s) Q` obliges `Q` of an `Ok` result
and `E` of the state of an `Err` result.  `Wp` and `Wc` are its instances with `E` trivial and `E` absurd.
-/
namespace DL.Rx
open DL.RxSpec

attribute [local irreducible] isScalar
variable {src : List Nat} {P : List Nat → St → Prop}

theorem eatDecimalDigitsLoop_at (hP : AtLike src P) : ∀ (n : Nat) (r : List Nat) (s : St), P r s →
    Wp (eatDecimalDigitsLoop n s) (fun _ s1 => ∃ ds r1, r = ds ++ r1 ∧ (∀ d ∈ ds, DecimalDigit d) ∧
      (∀ d, r1.head? = some d → ¬DecimalDigit d) ∧ P r1 s1 ∧
      s1 = (s.setPos src (s.reader.index + ds.length)).withInt (accDec s.lastIntValue ds))
  | 0, _, _, _ => Wp.outOfFuel
  | n + 1, r, s, h => by
    have stay : s = (s.setPos src (s.reader.index + 0)).withInt s.lastIntValue := by
      rw [Nat.add_zero, setPos_self (hP.rat h).inv]; rfl
    unfold eatDecimalDigitsLoop
    refine hP.bind_cpo0 h (fun hr => ?_) (fun x r' hr => ?_) <;> subst hr
    · exact Wp.pure ⟨[], [], rfl, forall_mem_nil, forall_head_nil, h, stay⟩
    refine Wp.ite (fun hc => ?_) (fun hn => ?_)
    · exact Wp.pure ⟨[], x :: r', rfl, forall_mem_nil, fun d hd => by cases hd; exact not_decimalDigit_of hc, h, stay⟩
    have hx : isAsciiDigit x = true := by simpa using hn
    refine hP.bind_cpo h (by decide) (Wp.bind_unwrap fun x' hx' => ?_)
    cases hx'
    refine Wp.bind_unwrap fun d hd => ?_
    rw [toDigit10_eq hx] at hd
    cases hd
    refine Wp.bind_getSt (Wp.bind_setInt (hP.bind_advance_cons (hP.withInt h _) fun h1 => ?_))
    refine (eatDecimalDigitsLoop_at hP n r' _ h1).mono ?_
    rintro _ s1 ⟨ds, r1, rfl, hds, hstop, h2, rfl⟩
    refine ⟨x :: ds, r1, rfl, List.forall_mem_cons.mpr ⟨decimalDigit_of_isAsciiDigit hx, hds⟩, hstop, h2, ?_⟩
    st_norm
    rw [accDec_cons, List.length_cons, Nat.add_assoc, Nat.add_comm 1]

/-- `eat_decimal_digits`: the maximal run of decimal digits; `true` iff it is non-empty.  The value read is in
`last_int_value`, the two bounds of a braced quantifier are untouched. -/
theorem eatDecimalDigits_at (hP : AtLike src P) (n : Nat) (r : List Nat) (s : St) (h : P r s) :
    Wp (eatDecimalDigits n s) (fun b s1 => ∃ ds r1, r = ds ++ r1 ∧ (∀ d ∈ ds, DecimalDigit d) ∧
      (∀ d, r1.head? = some d → ¬DecimalDigit d) ∧ P r1 s1 ∧ KeepN s s1 ∧
      s1.lastIntValue = satI (mvDec ds) ∧ s1.lastMinValue = s.lastMinValue ∧ s1.lastMaxValue = s.lastMaxValue ∧
      (b = true ↔ ds ≠ [])) := by
  unfold eatDecimalDigits
  refine Wp.bind_index (Wp.bind_setInt (Wp.call (eatDecimalDigitsLoop_at hP n r _ (hP.withInt h 0)) ?_))
  rintro _ s1 ⟨ds, r1, hr, hds, hstop, h1, rfl⟩
  refine Wp.bind_index (Wp.pure ⟨ds, r1, hr, hds, hstop, h1, ⟨rfl, rfl⟩, ?_, rfl, rfl, ?_⟩)
  · st_norm
    rw [accDec_zero]
  · st_norm
    cases ds <;> simp

/-- `eat_decimal_digits` on a known run of digits -/
theorem eatDecimalDigits_atc (hP : AtLike src P) (n : Nat) (ds r1 : List Nat) (s : St) (h : P (ds ++ r1) s)
    (hds : ∀ d ∈ ds, DecimalDigit d) (hstop : ∀ d, r1.head? = some d → ¬DecimalDigit d) :
    Wc (eatDecimalDigits n s) (fun b s1 => (b = true ↔ ds ≠ []) ∧ P r1 s1 ∧ KeepN s s1 ∧
      s1.lastIntValue = satI (mvDec ds) ∧ s1.lastMinValue = s.lastMinValue ∧ s1.lastMaxValue = s.lastMaxValue) := by
  refine (Wc.of_wp (eatDecimalDigits_at hP n _ s h) (NE.eatDecimalDigits n)).mono ?_
  rintro b s1 ⟨ds', r1', he, hds', hstop', h1, hq⟩
  obtain ⟨rfl, rfl⟩ := run_unique he hds hds' hstop hstop'
  exact ⟨hq.2.2.2.2, h1, hq.1, hq.2.1, hq.2.2.1, hq.2.2.2.1⟩

/-! ### three-sided specifications -/

/-- like `Wp`, with an obligation for the state of an `Err` result as well -/
def Wx (E : St → Prop) {α : Type} (r : Res α) (Q : α → St → Prop) : Prop :=
  match r with
  | .ok a s => Q a s
  | .err _ s => E s
  | _ => True

variable {E : St → Prop} {α β : Type}

theorem Wx.wp {r : Res α} {Q : α → St → Prop} (h : Wx E r Q) : Wp r Q := by
  cases r <;> first | exact h | trivial

/-- when the condition for an error is refuted, no error occurs -/
theorem Wx.wc {r : Res α} {Q : α → St → Prop} (h : Wx E r Q) (hE : ∀ s, ¬E s) : Wc r Q := by
  cases r <;> first | exact h | exact hE _ h | trivial

theorem Wx.pure {a : α} {s : St} {Q : α → St → Prop} (h : Q a s) : Wx E ((Pure.pure a : M α) s) Q := h

theorem Wx.fail {msg : String} {s : St} {Q : α → St → Prop} (h : E s) : Wx E ((fail msg : M α) s) Q := h

theorem Wx.ite {p : Prop} [Decidable p] {a b : M α} {s : St} {Q : α → St → Prop}
    (ha : p → Wx E (a s) Q) (hb : ¬p → Wx E (b s) Q) : Wx E ((if p then a else b) s) Q := by
  by_cases h : p
  · rw [if_pos h]; exact ha h
  · rw [if_neg h]; exact hb h

theorem Wx.bind_getSt {g : St → M β} {s : St} {Q : β → St → Prop} (h : Wx E (g s s) Q) : Wx E ((getSt >>= g) s) Q := h

theorem Wx.bind_modSt {f : St → St} {g : Unit → M β} {s : St} {Q : β → St → Prop} (h : Wx E (g () (f s)) Q) :
    Wx E ((modSt f >>= g) s) Q := h

theorem Wx.bind {m : M α} {g : α → M β} {s : St} {Q : β → St → Prop}
    (h : Wx E (m s) (fun a s1 => Wx E (g a s1) Q)) : Wx E ((m >>= g) s) Q := by
  show Wx E (M.bind m g s) Q
  unfold M.bind
  cases hm : m s <;> rw [hm] at h <;> first | exact h | trivial

/-- a callee that raises no error is described by its `Wp` specification -/
theorem Wx.call {m : M α} {g : α → M β} {s : St} {R : α → St → Prop} {Q : β → St → Prop}
    (hf : Wp (m s) R) (hne : NE m) (k : ∀ a s1, R a s1 → Wx E (g a s1) Q) : Wx E ((m >>= g) s) Q := by
  show Wx E (M.bind m g s) Q
  unfold M.bind
  cases hm : m s with
  | ok a s1 => rw [hm] at hf; exact k a s1 hf
  | err msg s1 => exact absurd hm (hne s msg s1)
  | panic _ _ => trivial
  | outOfFuel _ => trivial

/-! ### the text of a braced quantifier -/

theorem not_digit_comma : ¬DecimalDigit (ch ',') := by
  intro h; have h' : 0x30 ≤ ch ',' ∧ ch ',' ≤ 0x39 := h; revert h'; decide
theorem not_digit_rbrace : ¬DecimalDigit (ch '}') := by
  intro h; have h' : 0x30 ≤ ch '}' ∧ ch '}' ≤ 0x39 := h; revert h'; decide

theorem stop_cons {x : Nat} {m : List Nat} (hx : ¬DecimalDigit x) : ∀ d, (x :: m).head? = some d → ¬DecimalDigit d := by
  intro d hd; cases hd; exact hx

/-- the braced forms of `QuantifierPrefix` in terms of maximal digit runs: `lo }`, `lo ,}` or `lo , hi }` -/
def BracedForm (q : Nat → Nat → Prop) (m r : List Nat) : Prop :=
  ∃ ds m1, m = ds ++ m1 ∧ ds ≠ [] ∧ (∀ d ∈ ds, DecimalDigit d) ∧ (∀ d, m1.head? = some d → ¬DecimalDigit d) ∧
    (m1 = ch '}' :: r ∨ ∃ ds2 m3, m1 = ch ',' :: (ds2 ++ m3) ∧ (∀ d ∈ ds2, DecimalDigit d) ∧
      (∀ d, m3.head? = some d → ¬DecimalDigit d) ∧ m3 = ch '}' :: r ∧ (ds2 ≠ [] → q (mvDec ds) (mvDec ds2)))

theorem braced_iff {q : Nat → Nat → Prop} {m r : List Nat} :
    QuantifierPrefix q (c '{' :: m) r ↔ BracedForm q m r := by
  constructor
  · intro h
    generalize hi : c '{' :: m = i at h
    cases h with
    | star | plus | opt => cases hi
    | exact m' _ ds hrun =>
      cases hi
      exact ⟨ds, _, hrun.1, hrun.2.1, hrun.2.2, stop_cons not_digit_rbrace, .inl rfl⟩
    | atLeast m' _ ds hrun =>
      cases hi
      exact ⟨ds, _, hrun.1, hrun.2.1, hrun.2.2, stop_cons not_digit_comma,
        .inr ⟨[], _, rfl, forall_mem_nil, stop_cons not_digit_rbrace, rfl, fun h => absurd rfl h⟩⟩
    | range m₁ m₂ _ ds₁ ds₂ hr1 hr2 hq =>
      cases hi
      obtain ⟨rfl, hne2, hd2⟩ := hr2
      exact ⟨ds₁, _, hr1.1, hr1.2.1, hr1.2.2, stop_cons not_digit_comma,
        .inr ⟨ds₂, _, rfl, hd2, stop_cons not_digit_rbrace, rfl, fun _ => hq⟩⟩
  · rintro ⟨ds, m1, rfl, hne, hds, -, rfl | ⟨ds2, m3, rfl, hds2, -, rfl, hq⟩⟩
    · exact .exact _ r ds ⟨rfl, hne, hds⟩
    · by_cases h2 : ds2 = []
      · subst h2; exact .atLeast _ r ds ⟨rfl, hne, hds⟩
      · exact .range _ _ r ds ds2 ⟨rfl, hne, hds⟩ ⟨rfl, h2, hds2⟩ (hq h2)

/-- the text fixes the form: two readings of the same text agree on where it ends, and on the bounds -/
theorem BracedForm.unique {q q' : Nat → Nat → Prop} {m r r' : List Nat} (h : BracedForm q m r) (h' : BracedForm q' m r') :
    r = r' ∧ BracedForm (fun lo hi => q lo hi ∧ q' lo hi) m r := by
  obtain ⟨ds, m1, rfl, hne, hds, hstop, hm1⟩ := h
  obtain ⟨ds', m1', e, -, hds', hstop', hm1'⟩ := h'
  obtain ⟨rfl, rfl⟩ := run_unique e hds hds' hstop hstop'
  rcases hm1 with rfl | ⟨ds2, m3, rfl, hds2, hstop2, rfl, hq⟩
  · rcases hm1' with e | ⟨_, _, e, -⟩
    · cases e
      exact ⟨rfl, ds, _, rfl, hne, hds, hstop, .inl rfl⟩
    · cases e
  · rcases hm1' with e | ⟨ds2', m3', e, hds2', hstop2', rfl, hq'⟩
    · cases e
    · obtain ⟨rfl, e3⟩ := run_unique (List.cons.inj e).2 hds2 hds2' hstop2 hstop2'
      cases e3
      exact ⟨rfl, ds, _, rfl, hne, hds, hstop, .inr ⟨ds2, _, rfl, hds2, hstop2, rfl, fun h2 => ⟨hq h2, hq' h2⟩⟩⟩

theorem BracedForm.mono {q q' : Nat → Nat → Prop} {m r : List Nat} (hq : ∀ lo hi, q lo hi → q' lo hi)
    (h : BracedForm q m r) : BracedForm q' m r := by
  obtain ⟨ds, m1, e, hne, hds, hstop, hm1⟩ := h
  refine ⟨ds, m1, e, hne, hds, hstop, hm1.imp id ?_⟩
  rintro ⟨ds2, m3, e2, hds2, hstop2, e3, h2⟩
  exact ⟨ds2, m3, e2, hds2, hstop2, e3, fun hn => hq _ _ (h2 hn)⟩

/-- the bounds of a text of the form `lo , hi }` -/
theorem BracedForm.range_inv {q : Nat → Nat → Prop} {ds ds2 r r' : List Nat} (hds : ∀ d ∈ ds, DecimalDigit d)
    (hds2 : ∀ d ∈ ds2, DecimalDigit d) (hne2 : ds2 ≠ []) (h : BracedForm q (ds ++ ch ',' :: (ds2 ++ ch '}' :: r)) r') :
    q (mvDec ds) (mvDec ds2) := by
  obtain ⟨ds', m1, e, -, hds', hstop', hm1⟩ := h
  obtain ⟨rfl, rfl⟩ := run_unique e hds hds' (stop_cons not_digit_comma) hstop'
  rcases hm1 with e | ⟨ds2', m3, e, hds2', hstop2', rfl, hq⟩
  · cases e
  · obtain ⟨rfl, -⟩ := run_unique (List.cons.inj e).2 hds2 hds2' (stop_cons not_digit_rbrace) hstop2'
    exact hq hne2

/-- what the reader has seen when `bracedBounds` looks for the closing brace: the first bound, and either nothing more
or a comma and a second, possibly empty, run of digits -/
def BoundsSeen (m m3 : List Nat) (lo : Int) (s3 : St) : Prop :=
  ∃ ds, ds ≠ [] ∧ (∀ d ∈ ds, DecimalDigit d) ∧ (∀ d, m3.head? = some d → ¬DecimalDigit d) ∧ lo = satI (mvDec ds) ∧
    ((m = ds ++ m3 ∧ m3.head? ≠ some (ch ',') ∧ s3.lastMaxValue = lo) ∨
     ∃ ds2, m = ds ++ ch ',' :: (ds2 ++ m3) ∧ (∀ d ∈ ds2, DecimalDigit d) ∧
       s3.lastMaxValue = if ds2 = [] then i64Max else satI (mvDec ds2))

/-- the error that `bracedBounds` can raise: the text is of a braced form, with the bounds out of order -/
abbrev BoundsErr (noError : Bool) (m : List Nat) (_ : St) : Prop :=
  noError = false ∧ (∃ r1, BracedForm (fun _ _ => True) m r1) ∧ ¬∃ r1, BracedForm qokSat m r1

/-- what `bracedBounds` establishes -/
abbrev BoundsRead (P : List Nat → St → Prop) (noError : Bool) (m : List Nat) (s : St) (b : Bool) (s1 : St) : Prop :=
  KeepN s s1 ∧
    if b = true then ∃ r1, P r1 s1 ∧ BracedForm (fun lo hi => noError = false → qokSat lo hi) m r1
    else (∃ r', P r' s1) ∧ ¬∃ r', BracedForm (fun _ _ => True) m r'

/-- the closing brace and the order check, after the bounds -/
theorem boundsClose_at (hP : AtLike src P) (noError : Bool) {m m3 : List Nat} {s s3 : St} (h3 : P m3 s3)
    (k3 : KeepN s s3) (hseen : BoundsSeen m m3 s3.lastMinValue s3) :
    Wx (BoundsErr noError m) (boundsClose noError s3) (BoundsRead P noError m s) := by
  obtain ⟨ds, hne, hds, hstop3, hlo, hform⟩ := hseen
  unfold boundsClose
  refine hP.bind_eat h3 (fun r1 e h4 => ?_) fun hnb => ?_
  · subst e
    refine Wx.bind_getSt (Wx.ite (fun hc => Wx.fail ?_) fun hn => Wx.pure ⟨⟨k3.gn, k3.bn⟩, (if_pos rfl).mpr ⟨r1, h4, ?_⟩⟩)
    · -- out of order: the text is `lo , hi }` with both bounds present
      have hc := (Bool.and_eq_true _ _).mp hc
      have hno : noError = false := by simpa using hc.1
      have hlt : s3.lastMaxValue < s3.lastMinValue := of_decide_eq_true hc.2
      rcases hform with ⟨-, -, hmax⟩ | ⟨ds2, e, hds2, hmax⟩
      · rw [hmax] at hlt; exact absurd hlt (Int.lt_irrefl _)
      by_cases h2 : ds2 = []
      · rw [if_pos h2] at hmax; rw [hmax, hlo] at hlt; have := satI_le (mvDec ds); omega
      rw [if_neg h2] at hmax
      rw [e]
      refine ⟨hno, ⟨r1, ds, _, rfl, hne, hds, stop_cons not_digit_comma,
        .inr ⟨ds2, _, rfl, hds2, stop_cons not_digit_rbrace, rfl, fun _ => trivial⟩⟩, ?_⟩
      rintro ⟨r', hbf⟩
      have : satI (mvDec ds) ≤ satI (mvDec ds2) := hbf.range_inv hds hds2 h2
      omega
    · -- in order, or the order is not looked at
      rcases hform with ⟨e, -, -⟩ | ⟨ds2, e, hds2, hmax⟩
      · rw [e]
        exact ⟨ds, _, rfl, hne, hds, stop_cons not_digit_rbrace, .inl rfl⟩
      · rw [e]
        refine ⟨ds, _, rfl, hne, hds, stop_cons not_digit_comma,
          .inr ⟨ds2, _, rfl, hds2, stop_cons not_digit_rbrace, rfl, fun h2 hno => ?_⟩⟩
        rw [if_neg h2] at hmax
        have : ¬s3.lastMaxValue < s3.lastMinValue := fun hlt => hn (by rw [hno]; exact decide_eq_true hlt)
        show satI (mvDec ds) ≤ satI (mvDec ds2)
        omega
  · -- no closing brace
    refine Wx.pure ⟨k3, (if_neg Bool.false_ne_true).mpr ⟨⟨_, h3⟩, ?_⟩⟩
    rintro ⟨r', ds0, m0, e0, -, hds0, hstop0, hm0⟩
    rcases hform with ⟨e, hnc, -⟩ | ⟨ds2, e, hds2, -⟩
    · obtain ⟨rfl, rfl⟩ := run_unique (e ▸ e0) hds hds0 hstop3 hstop0
      rcases hm0 with e1 | ⟨_, _, e1, -⟩
      · exact hnb (e1 ▸ rfl)
      · exact hnc (e1 ▸ rfl)
    · obtain ⟨rfl, rfl⟩ := run_unique (e ▸ e0) hds hds0 (stop_cons not_digit_comma) hstop0
      rcases hm0 with e1 | ⟨ds2', m3', e1, hds2', hstop2', e3, -⟩
      · cases e1
      · obtain ⟨-, rfl⟩ := run_unique (List.cons.inj e1).2 hds2 hds2' hstop3 hstop2'
        exact hnb (e3 ▸ rfl)

/-- after `{`: the three braced forms.  A failing answer leaves the reader anywhere (the caller rewinds), and then the
text is not of a braced form; an error means that it is, with the bounds out of order. -/
theorem bracedBounds_at (hP : AtLike src P) (n : Nat) (noError : Bool) (m : List Nat) (s : St) (h : P m s) :
    Wx (BoundsErr noError m) (bracedBounds n noError s) (BoundsRead P noError m s) := by
  rw [bracedBounds_eq]
  refine Wx.call (eatDecimalDigits_at hP n m s h) (NE.eatDecimalDigits n) ?_
  rintro b s1 ⟨ds, m1, rfl, hds, hstop, h1, k1, hv1, -, -, hb⟩
  by_cases hne : ds = []
  · -- no digits
    subst hne
    cases b
    · refine Wx.pure ⟨k1, (if_neg Bool.false_ne_true).mpr ⟨⟨_, h1⟩, ?_⟩⟩
      rintro ⟨r', ds', m1', e, hne', hds', hstop', -⟩
      exact hne' (run_unique e hds hds' hstop hstop').1.symm
    · exact absurd rfl (hb.mp rfl)
  have hb : b = true := hb.mpr hne
  subst hb
  -- an optional `,` and second bound
  refine Wx.bind_modSt (hP.bind_eat (hP.reg h1 rfl ⟨rfl, rfl, rfl, rfl⟩) (fun m2 e h2 => ?_) fun hnc => ?_)
  · subst e
    refine Wx.call (eatDecimalDigits_at hP n m2 _ h2) (NE.eatDecimalDigits n) ?_
    rintro b2 s2 ⟨ds2, m3, rfl, hds2, hstop2, h3, k2, hv2, hmin2, -, hb2⟩
    have k2 : KeepN s s2 := ⟨k2.gn.trans k1.gn, k2.bn.trans k1.bn⟩
    have hlo : s2.lastMinValue = satI (mvDec ds) := hmin2.trans hv1
    refine Wx.ite (fun hc => ?_) fun hn => ?_
    · have hne2 : ds2 ≠ [] := hb2.mp hc
      exact Wx.bind_modSt (boundsClose_at hP noError (hP.reg h3 rfl ⟨rfl, rfl, rfl, rfl⟩) ⟨k2.gn, k2.bn⟩
        ⟨ds, hne, hds, hstop2, hlo, .inr ⟨ds2, rfl, hds2, by rw [if_neg hne2]; exact hv2⟩⟩)
    · have hnil : ds2 = [] := Decidable.byContradiction fun h2 => hn (hb2.mpr h2)
      exact Wx.bind_modSt (boundsClose_at hP noError (hP.reg h3 rfl ⟨rfl, rfl, rfl, rfl⟩) ⟨k2.gn, k2.bn⟩
        ⟨ds, hne, hds, hstop2, hlo, .inr ⟨ds2, rfl, hds2, by rw [if_pos hnil]⟩⟩)
  · exact boundsClose_at hP noError (hP.reg h1 rfl ⟨rfl, rfl, rfl, rfl⟩) ⟨k1.gn, k1.bn⟩
      ⟨ds, hne, hds, hstop, hv1, .inl ⟨rfl, hnc, rfl⟩⟩

end DL.Rx
