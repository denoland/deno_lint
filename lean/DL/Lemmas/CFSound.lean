import DL.Lemmas.CFInner
import DL.Lemmas.CFWrites

/-!
# Soundness invariant of the control-flow analyzer on the fragment `inF`

The invariant (`Pre`, `PostL`, `PostS` for statements of the flow; `PreK`, `PostK`, `PostI` for pure expressions and for
what is nested in functions), the rules that compose `PostL` from parts (`Inside` carries their side conditions, `Prefix`
the facts after a statement's flag and leading expressions), and the constructs proved with them alone: expression and
declaration statements, `break`, `continue`, `return`, `throw`, expression nodes and function scopes, blocks, `if`,
expression trees with statements nested in them (`exprL`, `blockKidL`, `kidsConsL`), labelled statements.
-/
namespace DL.CF

/-- `b` differs from `a` in `hoist` and `may_throw` at most: what an expression node, `return` or `throw` does by itself -/
structure SameCtl (a b : A) : Prop where
  info : b.info = a.info
  end_ : b.sc.end_ = a.sc.end_
  fb : b.sc.foundBreak = a.sc.foundBreak
  fc : b.sc.foundContinue = a.sc.foundContinue

theorem SameCtl.refl (a : A) : SameCtl a a := ⟨rfl, rfl, rfl, rfl⟩
theorem SameCtl.trans {a b c : A} (h1 : SameCtl a b) (h2 : SameCtl b c) : SameCtl a c :=
  ⟨h2.info.trans h1.info, h2.end_.trans h1.end_, h2.fb.trans h1.fb, h2.fc.trans h1.fc⟩

theorem exprEffect_same (k : EKind) (a : A) : SameCtl a (exprEffect k a) := by
  unfold exprEffect
  rcases h : a.sc.end_ with _ | ⟨r, t, i⟩ | _ | _ <;> cases k <;> simp [h] <;> exact ⟨rfl, by simp [h], rfl, rfl⟩

/-- Before a visit that may write the keys `ps`, at a program point that is reachable iff `live`: a scope that has
ended means the point is dead (`hs`), and no end is recorded yet under any of the keys, which are pairwise distinct. -/
structure Pre (live : Bool) (ps : List Nat) (a : A) : Prop where
  hs : stopsEnd a.sc.end_ = true → live = false
  fresh : ∀ p ∈ ps, a.info.endAt p = none
  nodup : ps.Nodup

/-- `Pre` without the liveness part: for expressions, whose visit does not depend on the scope's end -/
structure PreK (ps : List Nat) (a : A) : Prop where
  fresh : ∀ p ∈ ps, a.info.endAt p = none
  nodup : ps.Nodup

/-- what a visit records about the functions nested in it: every statement position (`us`) flagged `unreachable` is not
reached from a function entry (`inn`), whatever the liveness of the enclosing point; `frame` as in `PostL` -/
structure PostI (us ps : List Nat) (inn : Nat → Bool) (a a' : A) : Prop where
  p3 : ∀ q ∈ us, a'.info.ur q = true → inn q = false
  frame : ∀ q, q ∉ ps → a'.info q = a.info q

/-- visiting pure expressions that throw iff `thr`: the scope's end and `found_break` are unchanged, `found_continue`
and `may_throw` only grow -/
structure PostK (us ps : List Nat) (inn : Nat → Bool) (thr : Bool) (a a' : A) : Prop extends PostI us ps inn a a' where
  end_ : a'.sc.end_ = a.sc.end_
  fb : a'.sc.foundBreak = a.sc.foundBreak
  fc : a.sc.foundContinue = true → a'.sc.foundContinue = true
  mt : a.sc.mayThrow = true → a'.sc.mayThrow = true
  /-- if the expressions can throw (`thr`) and the scope has not ended, `may_throw` is set -/
  pT : stopsEnd a.sc.end_ = false → thr = true → a'.sc.mayThrow = true

/-- The invariant after a part of the flow was visited from state `a` (at a point reachable iff `live`) to `a'`.  `us` are
the statement positions in the part (the keys whose `unreachable` flag it writes), `ps` all keys it may write, `c` its
reference completions, `r q` says that `q` is reached in the flow once the part is entered, `i q` that `q` is reached
from the entry of a function nested in the part.
* `p1`  if the scope's end stops afterwards, the part cannot complete normally (when live);
* `p2`  if it can break (unlabelled), `found_break = Some(None)` afterwards; `p2c` likewise for `continue`, `p2l` for
  labelled `continue`s (a labelled `break` needs no invariant: only `labeled` turns it into a normal completion, and
  a labelled statement never ends the enclosing scope); `monoB`, `monoC`: neither record is lost;
* `p3`  every position of `us` flagged `unreachable` is not reached in the flow; `p3i` nor from a nested function's entry;
* `frame`  metadata outside `ps` is untouched;
* `pT`  if the part can throw (when live), the scope's `may_throw` is set afterwards; `monoT` it is never reset
  (the `try` statement resets it for its block and handler and restores it at its end). -/
structure PostL (live : Bool) (us ps : List Nat) (c : Compl) (reach inn : Nat → Bool) (a a' : A) : Prop where
  p1 : stopsEnd a'.sc.end_ = true → (live && c.n) = false
  p2 : (live && c.b) = true → a'.sc.foundBreak = some none
  p2c : (live && c.c) = true → a'.sc.foundContinue = true
  monoB : a.sc.foundBreak = some none → a'.sc.foundBreak = some none
  monoC : a.sc.foundContinue = true → a'.sc.foundContinue = true
  p2l : (live && c.hasCl) = true → a'.sc.foundContinue = true
  p3 : ∀ p ∈ us, a'.info.ur p = true → (live && reach p) = false
  p3i : ∀ p ∈ us, a'.info.ur p = true → inn p = false
  frame : ∀ q, q ∉ ps → a'.info q = a.info q
  monoT : a.sc.mayThrow = true → a'.sc.mayThrow = true
  pT : (live && c.t) = true → a'.sc.mayThrow = true

/-- `PostL` for a statement; `ls` are the labels that immediately label it.  `p4`: if the end recorded under its own
position stops, it cannot complete normally (not claimed for expression and declaration statements, whose key may be
shared with a function they start with). -/
structure PostS (live : Bool) (ls : List Id) (s : Stmt) (a a' : A) : Prop
    extends PostL live s.upos s.positions (s.compl ls) s.reach s.inner a a' where
  p4 : s.isDeclOrExpr = false → stopsEnd (a'.info.endAt s.pos) = true → (live && (s.compl ls).n) = false

theorem Pre.sub {live : Bool} {ps qs : List Nat} {a : A} (h : Pre live ps a) (hsub : ∀ p ∈ qs, p ∈ ps) (hn : qs.Nodup) :
    Pre live qs a := ⟨h.hs, fun p hp => h.fresh p (hsub p hp), hn⟩

theorem endAt_eq_of_info_eq {i j : Info} {q : Nat} (h : i q = j q) : i.endAt q = j.endAt q := by
  unfold Info.endAt; rw [h]
theorem ur_eq_of_info_eq {i j : Info} {q : Nat} (h : i q = j q) : i.ur q = j.ur q := by
  unfold Info.ur; rw [h]

theorem Pre.left {live : Bool} {ps qs : List Nat} {a : A} (h : Pre live (ps ++ qs) a) : Pre live ps a :=
  h.sub (fun p hp => List.mem_append.mpr (Or.inl hp)) (List.nodup_append.mp h.nodup).1

/-- after a first part that left the metadata outside `ps` alone, the positions `qs` are still fresh -/
theorem Pre.after {live : Bool} {ps qs : List Nat} {a a1 : A} (h : Pre live (ps ++ qs) a)
    (hf : ∀ q, q ∉ ps → a1.info q = a.info q) :
    (∀ q ∈ qs, a1.info.endAt q = none) ∧ qs.Nodup ∧ ∀ q, q ∈ ps → q ∈ qs → False := by
  have hnd := List.nodup_append.mp h.nodup
  have hdisj : ∀ q, q ∈ ps → q ∈ qs → False := fun q h1 h2 => hnd.2.2 q h1 q h2 rfl
  refine ⟨fun q hq => ?_, hnd.2.1, hdisj⟩
  rw [endAt_eq_of_info_eq (hf q (fun hp => hdisj q hp hq))]
  exact h.fresh q (List.mem_append.mpr (Or.inr hq))

theorem unreachableFlag_stops (sc : Sc) (t : Tag) (h : unreachableFlag sc t = true) : stopsEnd sc.end_ = true := by
  unfold unreachableFlag at h
  split at h
  · assumption
  · cases h

theorem childEnd_stops (kind : BlockKind) (prev : Option End) (h : stopsEnd (childEnd kind prev) = true) :
    stopsEnd prev = true := by
  unfold childEnd at h
  cases kind <;> simp only [stopsEnd_none, Bool.false_eq_true] at h <;>
    (by_cases hf : isForcedEnd prev = true
     · simp only [hf, if_true] at h; exact h
     · simp [hf] at h)

/-- a child scope that is no case, function or loop hands an unlabelled `break` of its own up, and keeps the parent's -/
theorem mergeFb_keep {kind : BlockKind}
    (hk : ∀ x y, mergeFb kind x y = if y == some none then some none else if x.isNone then y else x)
    (afb cfb : Option (Option Id)) :
    (cfb = some none → mergeFb kind afb cfb = some none) ∧ (afb = some none → mergeFb kind afb cfb = some none) := by
  rw [hk]
  refine ⟨fun h => by simp [h], fun h => ?_⟩
  by_cases hc : (cfb == some none) = true
  · simp [hc]
  · simp [hc, h]

theorem withChild_loop (p : Nat) (op : A → A) (a : A) :
    withChild .loop p op a =
      childExit .loop p a.sc.end_ { sc := mergeSc .loop a.sc (op (childA .loop a)).sc, info := (op (childA .loop a)).info }
        (op (childA .loop a)).sc.end_ := by
  simp only [withChild, withChildR, childA]

@[simp] theorem flagA_sc (a : A) (p : Nat) (t : Tag) : (flagA a p t).sc = a.sc := rfl
theorem flagA_endAt (a : A) (p : Nat) (t : Tag) (q : Nat) : (flagA a p t).info.endAt q = a.info.endAt q := by
  simp [flagA]
theorem flagA_other (a : A) (p : Nat) (t : Tag) (q : Nat) (h : q ≠ p) : (flagA a p t).info q = a.info q := by
  simp [flagA, Info.setUnreach, h]
theorem flagA_ur_self (a : A) (p : Nat) (t : Tag) : (flagA a p t).info.ur p = unreachableFlag a.sc t := by
  simp [flagA, ur_setUnreach]

theorem Pre.of_sub_flag {live : Bool} {ps qs : List Nat} {a : A} (h : Pre live ps a) (p : Nat) (t : Tag)
    (hsub : ∀ q ∈ qs, q ∈ ps) (hn : qs.Nodup) : Pre live qs (flagA a p t) :=
  ⟨h.hs, fun q hq => by rw [flagA_endAt]; exact h.fresh q (hsub q hq), hn⟩

theorem own_pos_dead {live : Bool} {a : A} (hs : stopsEnd a.sc.end_ = true → live = false) (p : Nat) (t : Tag) (i : Info)
    (hi : i.ur p = (flagA a p t).info.ur p) (hu : i.ur p = true) : live = false := by
  rw [hi, flagA_ur_self] at hu
  exact hs (unreachableFlag_stops _ t hu)

theorem PreK.of_pre {live : Bool} {ps qs : List Nat} {a : A} (h : Pre live ps a) (hsub : ∀ p ∈ qs, p ∈ ps) (hn : qs.Nodup) :
    PreK qs a := ⟨fun p hp => h.fresh p (hsub p hp), hn⟩

theorem PreK.flag {ps : List Nat} {a : A} (h : PreK ps a) (p : Nat) (t : Tag) : PreK ps (flagA a p t) :=
  ⟨fun q hq => by rw [flagA_endAt]; exact h.fresh q hq, h.nodup⟩

/-- what visiting the kids of a statement guarantees: they are evaluated in order in the enclosing flow, and the
statements nested directly in them (`with` bodies, class static blocks) behave like statements of that flow -/
abbrev KidsL (live : Bool) (ks : Kids) (a a' : A) : Prop :=
  PostL live ks.upos ks.positions ks.compl ks.flowReach ks.inner a a'

/-! ### rules for deriving `PostL`

The per-construct proofs compose the invariant from these: restating it for fewer completions and positions
(`weaken`, `conv`, `widen`, `withN`), the empty part (`nil`), an operation that only writes ends after the visit (`tail`,
`marks`, `markAsEnd`, `setEnd`, `blockTail`; `switchFin` in `CFSwitch`), the statement's own position recorded first (`flag`,
`flagFresh`), two parts of which the second is entered under a guard (`guarded`; in sequence: `seq`, `seqL`, `thenEffect`;
as alternatives: `union`, `orSkip`), a part visited in a child scope (`scope`), and `PostS.of` for the statement at the
end. -/
section rules
variable {live : Bool} {us us' vs ps ps' qs : List Nat} {c c' cx cy : Compl} {r r' i i' rx ry ix iy : Nat → Bool}
  {a a' a1 a2 b : A}

theorem and_true_of_imp {l x y : Bool} (h : x = true → y = true) (hx : (l && x) = true) : (l && y) = true := by
  cases l <;> simp_all
theorem and_false_of_imp {l x y : Bool} (h : x = true → y = true) (hy : (l && y) = false) : (l && x) = false := by
  cases l <;> cases x <;> simp_all

/-- `c'` has no completion that the invariant looks at beyond those of `c`; the two kinds of `continue` count as one,
since both are recorded in `found_continue` -/
structure Compl.Sub (c' c : Compl) : Prop where
  n : c'.n = true → c.n = true
  b : c'.b = true → c.b = true
  cont : (c'.c || c'.hasCl) = true → (c.c || c.hasCl) = true
  t : c'.t = true → c.t = true

theorem Compl.Sub.rfl {c : Compl} : c.Sub c := ⟨id, id, id, id⟩

private theorem and_or {l x y : Bool} (h : (l && (x || y)) = true) : (l && x) = true ∨ (l && y) = true := by
  cases l <;> cases x <;> simp_all

/-- the invariant holds as well for fewer flagged positions, more written ones, fewer completions, and a smaller `reach`
and `inner` on the flagged positions -/
theorem PostL.weaken (h : PostL live us ps c r i a a') (hus : ∀ q, q ∈ us' → q ∈ us) (hps : ∀ q, q ∈ ps → q ∈ ps')
    (hc : c'.Sub c) (hr : ∀ q ∈ us', r' q = true → r q = true) (hi : ∀ q ∈ us', i' q = true → i q = true) :
    PostL live us' ps' c' r' i' a a' :=
  have hcont {x : Bool} (hx : x = true → (c'.c || c'.hasCl) = true) (hh : (live && x) = true) : a'.sc.foundContinue = true :=
    (and_or (and_true_of_imp (fun h => hc.cont (hx h)) hh)).elim h.p2c h.p2l
  ⟨fun hs => and_false_of_imp hc.n (h.p1 hs), fun hh => h.p2 (and_true_of_imp hc.b hh), hcont (by simp +contextual),
    h.monoB, h.monoC, hcont (by simp +contextual),
    fun q hq hu => and_false_of_imp (hr q hq) (h.p3 q (hus q hq) hu),
    fun q hq hu => Bool.eq_false_iff.mpr fun hh => Bool.eq_false_iff.mp (h.p3i q (hus q hq) hu) (hi q hq hh),
    fun q hq => h.frame q (fun hp => hq (hps q hp)), h.monoT, fun hh => h.pT (and_true_of_imp hc.t hh)⟩

/-- …in particular for equal completions and pointwise equal `reach`, `inner` -/
theorem PostL.conv (h : PostL live us ps c r i a a') (hus : ∀ q, q ∈ us' → q ∈ us) (hps : ∀ q, q ∈ ps → q ∈ ps') (hc : c' = c)
    (hr : ∀ q, r' q = r q) (hi : ∀ q, i' q = i q) : PostL live us' ps' c' r' i' a a' :=
  hc ▸ h.weaken hus hps .rfl (fun q _ => hr q ▸ id) (fun q _ => hi q ▸ id)

/-- …and for more written positions -/
theorem PostL.widen (h : PostL live us ps c r i a a') (hps : ∀ q, q ∈ ps → q ∈ ps') : PostL live us ps' c r i a a' :=
  h.weaken (fun _ h => h) hps .rfl (fun _ _ => id) (fun _ _ => id)

/-- an operation after the visit that leaves the `unreachable` flags and the metadata outside `ps` alone and never
resets `found_break`, `found_continue`, `may_throw` -/
theorem PostL.tail (h : PostL live us ps c r i a a1) (hur : ∀ q, a2.info.ur q = a1.info.ur q)
    (hinfo : ∀ q, q ∉ ps → a2.info q = a1.info q)
    (hfb : a1.sc.foundBreak = some none → a2.sc.foundBreak = some none)
    (hfc : a1.sc.foundContinue = true → a2.sc.foundContinue = true)
    (hmt : a1.sc.mayThrow = true → a2.sc.mayThrow = true)
    (hst : stopsEnd a2.sc.end_ = true → (live && c.n) = false) : PostL live us ps c r i a a2 :=
  ⟨hst, fun hb => hfb (h.p2 hb), fun hc => hfc (h.p2c hc), fun hb => hfb (h.monoB hb), fun hc => hfc (h.monoC hc),
    fun hc => hfc (h.p2l hc), fun q hq hu => h.p3 q hq (hur q ▸ hu), fun q hq hu => h.p3i q hq (hur q ▸ hu),
    fun q hq => (hinfo q hq).trans (h.frame q hq), fun hm => hmt (h.monoT hm), fun ht => hmt (h.pT ht)⟩

/-- `mark_as_end` at one of the visit's positions, with an end that stops only if the visited part cannot complete
normally -/
theorem PostL.markAsEnd (h : PostL live us ps c r i a a1) {p : Nat} (hp : p ∈ ps) (e : End)
    (hst : stopsEnd (some e) = true → (live && c.n) = false) : PostL live us ps c r i a (markAsEnd p e a1) :=
  h.tail (markAsEnd_ur p e a1) (fun q hq => markAsEnd_info_other p e a1 q (fun he => hq (he ▸ hp)))
    (by rw [markAsEnd_foundBreak]; exact id) (by rw [markAsEnd_foundContinue]; exact id)
    (by rw [markAsEnd_mayThrow]; exact id)
    (fun hs => by rw [markAsEnd_stops, Bool.or_eq_true] at hs; exact hs.elim h.p1 hst)

theorem PostL.setEnd (h : PostL live us ps c r i a a1) (e : Option End) (hst : stopsEnd e = true → (live && c.n) = false) :
    PostL live us ps c r i a (a1.setEnd e) := h.tail (fun _ => rfl) (fun _ _ => rfl) id id id hst

/-- …and what is then recorded at `p` stops only in that case, too -/
theorem PostL.markAsEnd_at (h : PostL live us ps c r i a a1) (p : Nat) (e : End) (hst : stopsEnd (some e) = true → (live && c.n) = false)
    (hs : stopsEnd ((DL.CF.markAsEnd p e a1).info.endAt p) = true) : (live && c.n) = false :=
  (markAsEnd_self_stops p e a1 hs).elim h.p1 hst

/-- A statement's visit: the `unreachable` flag is recorded at its position `p` (which nothing else flags), then `h`,
from a state `x` that has the flagged metadata and what the scope of `a` had found; `h` may already have recorded an end
under `p`.  (`visit_try_stmt` resets `may_throw` in `x` and restores it at its end: `hmt`.) -/
theorem PostL.flagFrom {p : Nat} {t : Tag} {x : A} (h : PostL live us (p :: ps) c r i x a1)
    (hxi : x.info = (flagA a p t).info) (hxb : x.sc.foundBreak = a.sc.foundBreak)
    (hxc : x.sc.foundContinue = a.sc.foundContinue) (hmt : a.sc.mayThrow = true → a1.sc.mayThrow = true)
    (hs : stopsEnd a.sc.end_ = true → live = false) (hur : a1.info.ur p = (flagA a p t).info.ur p) (hpu : p ∉ us)
    (hi : i p = false) : PostL live (p :: us) (p :: ps) c (fun q => q == p || r q) i a a1 := by
  refine ⟨h.p1, h.p2, h.p2c, fun hb => h.monoB (hxb ▸ hb), fun hc => h.monoC (hxc ▸ hc), h.p2l, ?_, ?_, ?_, hmt, h.pT⟩
  · intro q hq hu
    rcases List.mem_cons.mp hq with rfl | hq
    · simp [own_pos_dead hs q t _ hur hu]
    · have hne : q ≠ p := fun e => hpu (e ▸ hq)
      simpa [hne] using h.p3 q hq hu
  · intro q hq hu
    rcases List.mem_cons.mp hq with rfl | hq
    · exact hi
    · exact h.p3i q hq hu
  · intro q hq
    rw [h.frame q hq, hxi]; exact flagA_other a p t q (List.ne_of_not_mem_cons hq)

/-- …the usual case: from the flagged state itself -/
theorem PostL.flag {p : Nat} {t : Tag} (h : PostL live us ps c r i (flagA a p t) a1) (hs : stopsEnd a.sc.end_ = true → live = false)
    (hur : a1.info.ur p = (flagA a p t).info.ur p) (hpu : p ∉ us) (hi : i p = false) :
    PostL live (p :: us) (p :: ps) c (fun q => q == p || r q) i a a1 :=
  (h.widen fun _ => List.mem_cons_of_mem _).flagFrom rfl rfl rfl h.monoT hs hur hpu hi

/-- the invariant of a statement from that of its parts -/
theorem PostS.of {ls : List Id} {s : Stmt} (h : PostL live us ps c r i a a') (hus : s.upos = us) (hps : s.positions = ps) (hc : s.compl ls = c)
    (hr : ∀ q, s.reach q = r q) (hi : ∀ q, s.inner q = i q)
    (p4 : s.isDeclOrExpr = false → stopsEnd (a'.info.endAt s.pos) = true → (live && c.n) = false) :
    PostS live ls s a a' := by
  subst hus hps hc
  exact ⟨h.conv (fun _ h => h) (fun _ h => h) rfl hr hi, p4⟩

theorem PostL.nil (live : Bool) (a : A) (hs : stopsEnd a.sc.end_ = true → live = false) :
    PostL live [] [] Compl.normal (fun _ => false) (fun _ => false) a a :=
  ⟨fun h => by simp [hs h], by simp, by simp, id, id, by simp, fun _ h _ => absurd h (by simp),
    fun _ h _ => absurd h (by simp), fun _ _ => rfl, id, by simp⟩

theorem getD_cont_stops (e : Option End) : stopsEnd (some (e.getD .cont)) = stopsEnd e := by
  rcases e with _ | ⟨r, t, i⟩ | _ | _ <;> rfl

/-- the side conditions of the composition rules: the flagged positions `us` are among the written ones `ps`, and
nothing outside `ps` is reached -/
structure Inside (us ps : List Nat) (r i : Nat → Bool) : Prop where
  us : ∀ q, q ∈ us → q ∈ ps
  r : ∀ q, q ∉ ps → r q = false
  i : ∀ q, q ∉ ps → i q = false

theorem Inside.nil : Inside [] [] (fun _ => false) (fun _ => false) := ⟨fun _ h => h, fun _ _ => rfl, fun _ _ => rfl⟩

theorem Inside.seq (hx : Inside us ps rx ix) (hy : Inside vs qs ry iy)
    (n : Bool) : Inside (us ++ vs) (ps ++ qs) (fun p => rx p || (n && ry p)) (fun p => ix p || iy p) := by
  refine ⟨fun q hq => ?_, fun q hq => ?_, fun q hq => ?_⟩
  · exact List.mem_append.mpr ((List.mem_append.mp hq).imp (hx.us q) (hy.us q))
  · rw [List.mem_append, not_or] at hq; simp [hx.r q hq.1, hy.r q hq.2]
  · rw [List.mem_append, not_or] at hq; simp [hx.i q hq.1, hy.i q hq.2]

theorem Inside.union (hx : Inside us ps rx ix) (hy : Inside vs qs ry iy) :
    Inside (us ++ vs) (ps ++ qs) (fun p => rx p || ry p) (fun p => ix p || iy p) := hx.seq hy true

theorem Stmt.inside (s : Stmt) : Inside s.upos s.positions s.reach s.inner :=
  ⟨s.upos_sub, s.reach_false, s.inner_false⟩
theorem Stmts.inside (l : Stmts) : Inside l.upos l.positions l.reach l.inner :=
  ⟨l.upos_sub, l.reach_false, l.inner_false⟩
theorem Kid.inside (k : Kid) : Inside k.upos k.positions k.flowReach k.inner :=
  ⟨k.upos_sub, k.flowReach_false, k.inner_false⟩
theorem Kids.inside (ks : Kids) : Inside ks.upos ks.positions ks.flowReach ks.inner :=
  ⟨ks.upos_sub, ks.flowReach_false, ks.inner_false⟩
/-- expressions as `PostK.toL` describes them: nothing of the flow is nested in them -/
theorem Kids.insidePure (ks : Kids) : Inside ks.upos ks.positions (fun _ => false) ks.inner :=
  ⟨ks.upos_sub, fun _ _ => rfl, ks.inner_false⟩
theorem Cases.inside (cs : Cases) : Inside cs.upos cs.positions cs.reach cs.inner :=
  ⟨cs.upos_sub, cs.reach_false, cs.inner_false⟩
theorem Kids.insideCatch (ks : Kids) : Inside ks.upos ks.positions ks.catchReach ks.inner :=
  ⟨ks.upos_sub, ks.catchReach_false, ks.inner_false⟩

theorem Inside.mono (h : Inside us ps r i) (hps : ∀ q, q ∈ ps → q ∈ ps') : Inside us ps' r i :=
  ⟨fun q hq => hps q (h.us q hq), fun q hq => h.r q fun hp => hq (hps q hp), fun q hq => h.i q fun hp => hq (hps q hp)⟩

/-- the tail of `visit_block_stmt` at one of the visit's positions… -/
theorem PostL.blockTail (h : PostL live us ps c r i a a1) {p : Nat} (hp : p ∈ ps) : PostL live us ps c r i a (blockTail p a1) :=
  h.markAsEnd hp _ fun hs => h.p1 (getD_cont_stops _ ▸ hs)

/-- …and what it records there -/
theorem PostL.blockTail_at (h : PostL live us ps c r i a a1) (p : Nat) (hs : stopsEnd ((DL.CF.blockTail p a1).info.endAt p) = true) :
    (live && c.n) = false :=
  h.markAsEnd_at p _ (fun hs => h.p1 (getD_cont_stops _ ▸ hs)) hs

/-- the common case of `PostL.flag`: the statement's position is not among those of its parts -/
theorem PostL.flagFresh {p : Nat} {t : Tag} (h : PostL live us ps c r i (flagA a p t) a1) (hpre : Pre live (p :: ps) a) (w : Inside us ps r i) :
    PostL live (p :: us) (p :: ps) c (fun q => q == p || r q) i a a1 :=
  have hp := (List.nodup_cons.mp hpre.nodup).1
  h.flag hpre.hs (ur_eq_of_info_eq (h.frame p hp)) (fun hq => hp (w.us p hq)) (w.i p hp)

theorem PostL.ur_frame (h : PostL live us ps c r i a a') (q : Nat) (hq : q ∉ ps) : a'.info.ur q = a.info.ur q :=
  ur_eq_of_info_eq (h.frame q hq)

/-- the flagged positions of two parts visited one after the other, the second entered only under `g`: `i1` is the
metadata after the first part, `i2` after the second, which leaves the flags outside `qs` alone -/
theorem flagged_append {l g : Bool} {i1 i2 : Info} (hdisj : ∀ p, p ∈ ps → p ∈ qs → False)
    (hx : ∀ p ∈ us, i1.ur p = true → (l && rx p) = false) (hy : ∀ p ∈ vs, i2.ur p = true → (l && (g && ry p)) = false)
    (hf : ∀ q, q ∉ qs → i2.ur q = i1.ur q) (hus : ∀ p, p ∈ us → p ∈ ps) (hvs : ∀ p, p ∈ vs → p ∈ qs)
    (hrx : ∀ p, p ∉ ps → rx p = false) (hry : ∀ p, p ∉ qs → ry p = false) :
    ∀ p ∈ us ++ vs, i2.ur p = true → (l && (rx p || (g && ry p))) = false := by
  intro p hp hu
  rcases List.mem_append.mp hp with hps | hpq
  · have hnq : p ∉ qs := fun hq => hdisj p (hus p hps) hq
    rw [hf p hnq] at hu
    simpa [hry p hnq] using hx p hps hu
  · simpa [hrx p fun hp' => hdisj p hp' (hvs p hpq)] using hy p hpq hu

theorem frame_append {i0 i1 i2 : Info} (hx : ∀ q, q ∉ ps → i1 q = i0 q) (hy : ∀ q, q ∉ qs → i2 q = i1 q) :
    ∀ q, q ∉ ps ++ qs → i2 q = i0 q :=
  fun q hq => (hy q fun h => hq (List.mem_append.mpr (Or.inr h))).trans (hx q fun h => hq (List.mem_append.mpr (Or.inl h)))

private theorem and_seq {l n x y : Bool} (h : (l && (x || (n && y))) = true) : (l && x) = true ∨ (l && n && y) = true := by
  cases l <;> cases x <;> simp_all

/-- a step after the visit that only records ends, under keys of the visit -/
theorem PostL.marks {ks : List Nat} (h : PostL live us ps c r i a a1) (hm : Marks ks a1 a2) (hks : ∀ q, q ∈ ks → q ∈ ps)
    (hst : stopsEnd a2.sc.end_ = true → (live && c.n) = false) : PostL live us ps c r i a a2 :=
  h.tail hm.ur (fun q hq => hm.info q fun hk => hq (hks q hk)) (hm.fb ▸ id) (hm.fc ▸ id) (hm.mt ▸ id) hst

/-- Two parts visited one after the other, the second entered only under the guard `g`: from a state `x` that has the
metadata, `found_break` and `found_continue` of the state `a1` the first part ended in, and followed by a step from `y`
to `b` that only sets the scope's end.  The completions `C` of the whole may be any whose `break`s and `continue`s are the
first part's or, under `g`, the second's.  What the scope's end and `may_throw` are afterwards depends on how the second
part is entered and left, and is left to the caller (`p1`, `monoT`, `pT`). -/
theorem PostL.guarded {g : Bool} {B H C : Compl} {x y : A}
    (hx : PostL live us ps B rx ix a a1) (hy : PostL (live && g) vs qs H ry iy x y)
    (hxi : x.info = a1.info) (hxb : x.sc.foundBreak = a1.sc.foundBreak) (hxc : x.sc.foundContinue = a1.sc.foundContinue)
    (hj : Marks [] y b) (hdisj : ∀ q, q ∈ ps → q ∈ qs → False) (dx : Inside us ps rx ix) (dy : Inside vs qs ry iy)
    (hb : C.b = true → B.b = true ∨ (g && H.b) = true) (hc : C.c = true → B.c = true ∨ (g && H.c) = true)
    (hl : C.hasCl = true → B.hasCl = true ∨ (g && H.hasCl) = true)
    (p1 : stopsEnd b.sc.end_ = true → (live && C.n) = false)
    (monoT : a.sc.mayThrow = true → b.sc.mayThrow = true) (pT : (live && C.t) = true → b.sc.mayThrow = true) :
    PostL live (us ++ vs) (ps ++ qs) C (fun q => rx q || (g && ry q)) (fun q => ix q || iy q) a b := by
  -- what the first part found is kept by the second (`k1`), what the second finds is kept by the last step (`k2`)
  have hf : ∀ q, q ∉ qs → b.info.ur q = a1.info.ur q := fun q hq => by
    rw [hj.ur, ur_eq_of_info_eq (hy.frame q hq), hxi]
  have split {X Y Z : Bool} (hh : (live && X) = true) (hX : X = true → Y = true ∨ (g && Z) = true) :
      (live && Y) = true ∨ (live && g && Z) = true := by
    simp only [Bool.and_eq_true] at hh ⊢
    exact (hX hh.2).imp (fun h => ⟨hh.1, h⟩) (fun h => ⟨⟨hh.1, (Bool.and_eq_true _ _ ▸ h).1⟩, (Bool.and_eq_true _ _ ▸ h).2⟩)
  refine ⟨p1, fun hh => ?_, fun hh => ?_, fun h => hj.fb ▸ hy.monoB (hxb ▸ hx.monoB h),
    fun h => hj.fc ▸ hy.monoC (hxc ▸ hx.monoC h), fun hh => ?_, ?_, ?_, fun q hq => ?_, monoT, pT⟩
  · exact hj.fb ▸ (split hh hb).elim (fun h => hy.monoB (hxb ▸ hx.p2 h)) hy.p2
  · exact hj.fc ▸ (split hh hc).elim (fun h => hy.monoC (hxc ▸ hx.p2c h)) hy.p2c
  · exact hj.fc ▸ (split hh hl).elim (fun h => hy.monoC (hxc ▸ hx.p2l h)) hy.p2l
  · exact flagged_append (i1 := a1.info) hdisj hx.p3 (fun q hq hu => Bool.and_assoc .. ▸ hy.p3 q hq (hj.ur q ▸ hu)) hf
      dx.us dy.us dx.r dy.r
  · exact flagged_append (l := true) (g := true) (i1 := a1.info) hdisj hx.p3i (fun q hq hu => hy.p3i q hq (hj.ur q ▸ hu)) hf
      dx.us dy.us dx.i dy.i
  · rw [List.mem_append, not_or] at hq
    rw [hj.info q nofun, hy.frame q hq.2, hxi]
    exact hx.frame q hq.1

/-- sequencing two parts: `x` then (when `x` completes normally) `y` -/
theorem PostL.seq (hx : PostL live us ps cx rx ix a a1) (hy : PostL (live && cx.n) vs qs cy ry iy a1 a2)
    (hdisj : ∀ p, p ∈ ps → p ∈ qs → False) (wx : Inside us ps rx ix) (wy : Inside vs qs ry iy) :
    PostL live (us ++ vs) (ps ++ qs) (cx.seq cy) (fun p => rx p || (cx.n && ry p)) (fun p => ix p || iy p) a a2 :=
  hx.guarded hy rfl rfl rfl (.refl _) hdisj wx wy (fun h => Bool.or_eq_true_iff.mp (seq_b cx cy ▸ h))
    (fun h => Bool.or_eq_true_iff.mp (seq_c cx cy ▸ h)) (fun h => Bool.or_eq_true_iff.mp (seq_hasCl cx cy ▸ h))
    (fun hst => by rw [seq_n, ← Bool.and_assoc]; exact hy.p1 hst) (fun hc => hy.monoT (hx.monoT hc))
    fun hh => (and_seq (seq_t cx cy ▸ hh)).elim (fun h => hy.monoT (hx.pT h)) hy.pT

/-- two pieces of the flow in sequence, the precondition of the second derived from the postcondition of the first -/
theorem PostL.seqL (hpre : Pre live (ps ++ qs) a) (hx : PostL live us ps cx rx ix a a1)
    (hy : Pre (live && cx.n) qs a1 → PostL (live && cx.n) vs qs cy ry iy a1 a2)
    (wx : Inside us ps rx ix) (wy : Inside vs qs ry iy) :
    PostL live (us ++ vs) (ps ++ qs) (cx.seq cy) (fun p => rx p || (cx.n && ry p)) (fun p => ix p || iy p) a a2 := by
  obtain ⟨hfresh, hnd, hdisj⟩ := hpre.after hx.frame
  exact hx.seq (hy ⟨hx.p1, hfresh, hnd⟩) hdisj wx wy

/-- a part followed by an effect that writes no metadata (an expression node, `return`, `throw`) -/
theorem PostL.thenEffect (h : PostL live us ps c r i a a1)
    (hy : PostL (live && c.n) [] [] c' (fun _ => false) (fun _ => false) a1 a2) (w : Inside us ps r i) :
    PostL live us ps (c.seq c') r i a a2 :=
  (h.seq hy (fun _ _ h => nomatch h) w .nil).weaken (by simp) (by simp) .rfl (by simp) (by simp)

/-- two alternatives, visited one after the other; the scope's end afterwards is given separately, since both are
visited in child scopes -/
theorem PostL.union (hx : PostL live us ps cx rx ix a a1) (hy : PostL live vs qs cy ry iy a1 a2)
    (hdisj : ∀ p, p ∈ ps → p ∈ qs → False) (wx : Inside us ps rx ix) (wy : Inside vs qs ry iy)
    (hst : stopsEnd a2.sc.end_ = true → live = false) :
    PostL live (us ++ vs) (ps ++ qs) (cx.union cy) (fun p => rx p || ry p) (fun p => ix p || iy p) a a2 :=
  have hy' : PostL (live && true) vs qs cy ry iy a1 a2 := (Bool.and_true live).symm ▸ hy
  hx.guarded hy' rfl rfl rfl (.refl _) hdisj wx wy Bool.or_eq_true_iff.mp Bool.or_eq_true_iff.mp
    (fun h => Bool.or_eq_true_iff.mp (union_hasCl cx cy ▸ h)) (fun hs => by simp [hst hs]) (fun hc => hy.monoT (hx.monoT hc))
    fun hh => (and_or hh).elim (fun h => hy.monoT (hx.pT h)) hy.pT

/-- the normal completion only matters for the scope's end afterwards -/
theorem PostL.withN (h : PostL live us ps c r i a a1) (n : Bool) (hst : stopsEnd a1.sc.end_ = true → (live && n) = false) :
    PostL live us ps { c with n := n } r i a a1 :=
  ⟨hst, h.p2, h.p2c, h.monoB, h.monoC, h.p2l, h.p3, h.p3i, h.frame, h.monoT, h.pT⟩

/-- an alternative that may be skipped (an `if` without `else`) -/
theorem PostL.orSkip (h : PostL live us ps c r i a a1) (hst : stopsEnd a1.sc.end_ = true → live = false) :
    PostL live us ps (c.union .normal) r i a a1 :=
  (h.withN true fun hs => by simp [hst hs]).conv (fun _ h => h) (fun _ h => h) (by simp [Compl.union, Compl.normal])
    (fun _ => rfl) (fun _ => rfl)

/-- a part visited by the closure of `with_child_scope(kind, p, ..)`, seen from the state `a` in which the scope was
opened: the same invariant, for any completions `c'` among the child's whose unlabelled `break` the kind lets pass -/
theorem PostL.scope {kind : BlockKind} {p : Nat} {op : A → A}
    (h : PostL live us ps c r i (childA kind a) (op (childA kind a))) (hs : stopsEnd a.sc.end_ = true → live = false)
    (hp : kind.marksParent = true → p ∈ ps) (hc : c'.Sub c) (hb : c'.b = true → kind.passesBreak = true) :
    PostL live us ps c' r i a (withChild kind p op a) :=
  have w := withChild_sees kind p op a
  have h' := h.weaken (fun _ h => h) (fun _ h => h) hc (fun _ _ => id) (fun _ _ => id)
  ⟨fun hst => (w.stop hst).elim (fun h0 => by simp [hs h0]) h'.p1,
    fun hh => w.fb.mpr (.inr ⟨hb (by revert hh; cases live <;> simp), h'.p2 hh⟩),
    fun hh => by rw [w.fc, h'.p2c hh]; exact Bool.or_true _, fun h0 => w.fb.mpr (.inl h0), fun h0 => by rw [w.fc, h0]; rfl,
    fun hh => by rw [w.fc, h'.p2l hh]; exact Bool.or_true _,
    fun q hq hu => h'.p3 q hq (w.ur q ▸ hu), fun q hq hu => h'.p3i q hq (w.ur q ▸ hu),
    fun q hq => (match hk : kind.marksParent with
      | true => w.info q fun e => hq (e ▸ hp hk)
      | false => congrFun (w.infoAll hk) q).trans (h'.frame q hq), fun h0 => by rw [w.mt, h0]; rfl,
    fun hh => by rw [w.mt, h'.pT hh]; exact Bool.or_true _⟩

/-- no unlabelled `break` recorded: the part does not break when live; likewise for the two kinds of `continue` -/
theorem not_break_dead (h : PostL live us ps c r i a a') (hfb : (a'.sc.foundBreak == some none) = false) :
    (live && c.b) = false := by
  cases hh : (live && c.b) with
  | false => rfl
  | true => rw [h.p2 hh] at hfb; simp at hfb

theorem not_continue_dead (h : PostL live us ps c r i a a') (hfc : a'.sc.foundContinue = false) : (live && c.c) = false := by
  cases hh : (live && c.c) with
  | false => rfl
  | true => rw [h.p2c hh] at hfc; cases hfc

theorem not_cl_dead (h : PostL live us ps c r i a a') (hfc : a'.sc.foundContinue = false) : (live && c.hasCl) = false := by
  cases hh : (live && c.hasCl) with
  | false => rfl
  | true => rw [h.p2l hh] at hfc; cases hfc

end rules

theorem childA_pre (live : Bool) (kind : BlockKind) (ps : List Nat) (a1 : A) (hs : stopsEnd a1.sc.end_ = true → live = false)
    (hfresh : ∀ p ∈ ps, a1.info.endAt p = none) (hn : ps.Nodup) : Pre live ps (childA kind a1) :=
  ⟨fun h => hs (childEnd_stops kind _ h), hfresh, hn⟩

/-- a duplicate-free list `p :: (xs ++ (ys ++ zs))`, taken apart -/
structure Split3 (p : Nat) (xs ys zs : List Nat) : Prop where
  px : p ∉ xs
  py : p ∉ ys
  pz : p ∉ zs
  nx : xs.Nodup
  ny : ys.Nodup
  nz : zs.Nodup
  xy : ∀ q, q ∈ xs → q ∈ ys → False
  xz : ∀ q, q ∈ xs → q ∈ zs → False
  yz : ∀ q, q ∈ ys → q ∈ zs → False

theorem Split3.of {p : Nat} {xs ys zs : List Nat} (h : (p :: (xs ++ (ys ++ zs))).Nodup) : Split3 p xs ys zs := by
  have h1 := List.nodup_cons.mp h
  have h2 := List.nodup_append.mp h1.2
  have h3 := List.nodup_append.mp h2.2.1
  exact ⟨fun h => h1.1 (by simp [h]), fun h => h1.1 (by simp [h]), fun h => h1.1 (by simp [h]), h2.1, h3.1, h3.2.1,
    fun q a b => h2.2.2 q a q (List.mem_append.mpr (Or.inl b)) rfl,
    fun q a b => h2.2.2 q a q (List.mem_append.mpr (Or.inr b)) rfl,
    fun q a b => h3.2.2 q a q b rfl⟩

theorem simple_ok (live : Bool) (ls : List Id) (p : Nat) (t : Tag) (kids : Kids) (a : A)
    (hf : kids.okF = true) (h : Pre live (Stmt.simple p t kids).positions a)
    (ihk : ∀ x, kids.okF = true → Pre live kids.positions x → KidsL live kids x (visitKids kids x)) :
    PostS live ls (.simple p t kids) a (visitStmt (.simple p t kids) a) := by
  have hsep := Stmt.simple_own_sep p t kids h.nodup
  have hk := ihk _ hf (h.of_sub_flag p t (fun q hq => (Stmt.mem_positions_simple p t kids q).mpr (Or.inr hq))
    (Stmt.nodup_simple p t kids h.nodup))
  have hs := hk.flag h.hs ((Kids.writes kids _).ur p hsep.1) hsep.1 hsep.2
  refine ⟨hs.weaken (fun _ h => h) (fun q hq => (Stmt.mem_positions_simple p t kids q).mpr (List.mem_cons.mp hq))
    .rfl (fun _ _ => id) (fun _ _ => id), ?_⟩
  intro hde (hst : stopsEnd ((visitKids kids (flagA a p t)).info.endAt p) = true)
  rw [Stmt.isDeclOrExpr_simple] at hde
  have hnd := h.nodup
  rw [Stmt.positions_simple_nde p t kids hde] at hnd
  rw [endAt_eq_of_info_eq (hk.frame p (List.nodup_cons.mp hnd).1), flagA_endAt, h.fresh p (Stmt.pos_mem (.simple p t kids))] at hst
  simp at hst

theorem brk_ok (live : Bool) (ls : List Id) (l : Option Id) (p : Nat) (a : A) (h : Pre live [p] a) :
    PostS live ls (.brk p l) a (visitStmt (.brk p l) a) := by
  have h0 : PostL live [] [] (Stmt.compl ls (.brk p l)) (fun _ => false) (fun _ => false) (flagA a p .other)
      { sc := { a.sc with foundBreak := if (l.isSome && a.sc.foundBreak == some none) = true then a.sc.foundBreak else some l },
        info := (flagA a p .other).info } := by
    refine ⟨?_, ?_, ?_, ?_, id, ?_, nofun, nofun, fun _ _ => rfl, id, ?_⟩
    all_goals cases l <;> simp [Stmt.compl, Compl.hasCl]
    intro hb; simp [hb]
  exact .of (h0.flag h.hs rfl nofun rfl) rfl rfl rfl (fun _ => by simp [Stmt.reach]) (fun _ => rfl)
    (fun _ _ => by cases l <;> simp [Stmt.compl])

theorem cont_ok (live : Bool) (ls : List Id) (l : Option Id) (p : Nat) (a : A) (h : Pre live [p] a) :
    PostS live ls (.cont p l) a (visitStmt (.cont p l) a) := by
  have h0 : PostL live [] [] (Stmt.compl ls (.cont p l)) (fun _ => false) (fun _ => false) (flagA a p .other)
      (visitStmt (.cont p l) a) := by
    refine ⟨?_, ?_, fun _ => rfl, id, fun _ => rfl, fun _ => rfl, nofun, nofun, fun _ _ => rfl, id, ?_⟩
    all_goals cases l <;> simp [Stmt.compl]
  exact .of (h0.flag h.hs rfl nofun rfl) rfl rfl rfl (fun _ => by simp [Stmt.reach]) (fun _ => rfl)
    (fun _ _ => by cases l <;> simp [Stmt.compl])

/-- `visit_stmt_or_block` keeps the invariant (it marks `break`/`continue` statements with `End::Break`) -/
theorem sob_ok (live : Bool) (ls : List Id) (s : Stmt) (a a1 : A) (h : PostS live ls s a a1) : PostS live ls s a (sobTail s a1) := by
  unfold sobTail
  split
  · next hb =>
    have hn : stopsEnd (some End.brk) = true → (live && (s.compl ls).n) = false := by
      intro _; cases s <;> simp [Stmt.isBreakOrContinue] at hb <;> rename_i p l <;> cases l <;> simp [Stmt.compl]
    exact ⟨h.toPostL.markAsEnd s.pos_mem _ hn, fun _ => h.toPostL.markAsEnd_at _ _ hn⟩
  · exact h

/-- an effect on `may_throw` alone (an expression node, `return`, `throw`) as a piece of the flow -/
theorem effect_ok (live : Bool) (c : Compl) (a a' : A) (hp : c.plain = true)
    (hs : SameCtl a a') (hmt : a.sc.mayThrow = true → a'.sc.mayThrow = true)
    (hpt : (live && c.t) = true → a'.sc.mayThrow = true) (hst : stopsEnd a.sc.end_ = true → (live && c.n) = false) :
    PostL live [] [] c (fun _ => false) (fun _ => false) a a' :=
  ⟨fun h => hst (hs.end_ ▸ h), by simp [Compl.plain_b hp], by simp [Compl.plain_c hp], fun h => hs.fb ▸ h, fun h => hs.fc ▸ h,
    by simp [Compl.plain_hasCl hp], nofun, nofun,
    fun _ _ => by rw [hs.info], hmt, hpt⟩

/-- `return` / `throw`: the flag, the argument, the statement's own effect, then `mark_as_end` with a forced end -/
theorem forcedLeaf_ok {live : Bool} {ls : List Id} {s : Stmt} {p : Nat} {arg : Kids} {a a2 : A} {c : Compl} (e : End)
    (hpos : s.positions = p :: arg.positions) (hup : s.upos = p :: arg.upos) (hp : s.pos = p)
    (hc : s.compl ls = arg.compl.seq c) (hn : c.n = false)
    (hr : ∀ q, s.reach q = (q == p || arg.flowReach q)) (hin : ∀ q, s.inner q = arg.inner q)
    (h : Pre live (p :: arg.positions) a) (hk : KidsL live arg (flagA a p .other) (visitKids arg (flagA a p .other)))
    (hy : PostL (live && arg.compl.n) [] [] c (fun _ => false) (fun _ => false) (visitKids arg (flagA a p .other)) a2) :
    PostS live ls s a (markAsEnd p e a2) := by
  have hnd := List.nodup_cons.mp h.nodup
  have h1 := hk.thenEffect hy arg.inside
  have h2 := h1.flag h.hs (ur_eq_of_info_eq (h1.frame p hnd.1)) (fun hq => hnd.1 (Kids.upos_sub arg p hq))
    (Kids.inner_false arg p hnd.1)
  have hst : stopsEnd (some e) = true → (live && (arg.compl.seq c).n) = false := fun _ => by simp [hn]
  exact .of (h2.markAsEnd (List.mem_cons_self ..) e hst) hup hpos hc hr hin (fun _ => hp ▸ h2.markAsEnd_at p e hst)

theorem ret_ok (live : Bool) (ls : List Id) (p : Nat) (arg : Kids) (a : A) (hf : (Stmt.ret p arg).inF = true)
    (h : Pre live (p :: arg.positions) a)
    (ihk : ∀ x, arg.okF = true → Pre live arg.positions x → KidsL live arg x (visitKids arg x)) :
    PostS live ls (.ret p arg) a (visitStmt (.ret p arg) a) :=
  forcedLeaf_ok forcedRet rfl rfl rfl rfl rfl (fun _ => rfl) (fun _ => rfl) h
    (ihk _ (Bool.and_eq_true_iff.mp hf).1 (h.of_sub_flag p .other (fun q hq => List.mem_cons_of_mem _ hq) (List.nodup_cons.mp h.nodup).2))
    (effect_ok _ { r := true } _ _ rfl (.refl _) id (by simp) fun _ => by simp)

theorem throwEffect_same (a : A) : SameCtl a (throwEffect a) := by
  unfold throwEffect
  rcases h : a.sc.end_ with _ | ⟨r, t, i⟩ | _ | _ <;> simp only [h] <;>
    first | exact SameCtl.refl a | exact ⟨rfl, by simp [h], rfl, rfl⟩

theorem throwEffect_mt (a : A) : (a.sc.mayThrow = true → (throwEffect a).sc.mayThrow = true) ∧
    (stopsEnd a.sc.end_ = false → (throwEffect a).sc.mayThrow = true) := by
  unfold throwEffect
  rcases h : a.sc.end_ with _ | ⟨r, t, i⟩ | _ | _ <;> simp [h]

theorem throw_ok (live : Bool) (ls : List Id) (p : Nat) (arg : Kids) (a : A) (hf : (Stmt.throw p arg).inF = true)
    (h : Pre live (p :: arg.positions) a)
    (ihk : ∀ x, arg.okF = true → Pre live arg.positions x → KidsL live arg x (visitKids arg x)) :
    PostS live ls (.throw p arg) a (visitStmt (.throw p arg) a) := by
  have hk := ihk _ (Bool.and_eq_true_iff.mp hf).1 (h.of_sub_flag p .other (fun q hq => List.mem_cons_of_mem _ hq) (List.nodup_cons.mp h.nodup).2)
  refine forcedLeaf_ok forcedThrow rfl rfl rfl rfl rfl (fun _ => rfl) (fun _ => rfl) h hk
    (effect_ok _ { t := true } _ _ rfl (throwEffect_same _) (throwEffect_mt _).1 (fun hl => ?_) fun _ => by simp)
  -- the argument can complete normally here, so the scope has not ended and `may_throw` is set
  cases hst : stopsEnd (visitKids arg (flagA a p .other)).sc.end_ with
  | false => exact (throwEffect_mt _).2 hst
  | true => rw [Bool.and_true, hk.p1 hst] at hl; cases hl

theorem PostK.nil (a : A) : PostK [] [] (fun _ => false) false a a :=
  ⟨⟨fun _ h _ => absurd h (by simp), fun _ _ => rfl⟩, rfl, rfl, id, id, fun _ h => by cases h⟩

theorem PostK.same {us ps : List Nat} {inn : Nat → Bool} {thr thr' : Bool} {a a1 a2 : A} (h : PostK us ps inn thr a a1)
    (hs : SameCtl a1 a2) (hmt : a1.sc.mayThrow = true → a2.sc.mayThrow = true)
    (hpt : stopsEnd a.sc.end_ = false → thr' = true → a2.sc.mayThrow = true) :
    PostK us ps inn thr' a a2 :=
  ⟨⟨fun q hq hu => h.p3 q hq (by rw [← hs.info]; exact hu), fun q hq => by rw [hs.info]; exact h.frame q hq⟩,
    hs.end_.trans h.end_, hs.fb.trans h.fb, fun hc => by rw [hs.fc]; exact h.fc hc, fun hm => hmt (h.mt hm), hpt⟩

theorem PostI.seq {us vs ps qs : List Nat} {ix iy : Nat → Bool} {a a1 a2 : A}
    (hx : PostI us ps ix a a1) (hy : PostI vs qs iy a1 a2) (hdisj : ∀ p, p ∈ ps → p ∈ qs → False)
    (hus : ∀ p, p ∈ us → p ∈ ps) (hvs : ∀ p, p ∈ vs → p ∈ qs)
    (hix : ∀ p, p ∉ ps → ix p = false) (hiy : ∀ p, p ∉ qs → iy p = false) :
    PostI (us ++ vs) (ps ++ qs) (fun p => ix p || iy p) a a2 :=
  ⟨flagged_append (l := true) (g := true) hdisj hx.p3 hy.p3 (fun q hq => ur_eq_of_info_eq (hy.frame q hq)) hus hvs hix hiy, frame_append hx.frame hy.frame⟩

theorem PostK.seq {us vs ps qs : List Nat} {ix iy : Nat → Bool} {tx ty : Bool} {a a1 a2 : A}
    (hx : PostK us ps ix tx a a1) (hy : PostK vs qs iy ty a1 a2)
    (hdisj : ∀ p, p ∈ ps → p ∈ qs → False)
    (hus : ∀ p, p ∈ us → p ∈ ps) (hvs : ∀ p, p ∈ vs → p ∈ qs)
    (hix : ∀ p, p ∉ ps → ix p = false) (hiy : ∀ p, p ∉ qs → iy p = false) :
    PostK (us ++ vs) (ps ++ qs) (fun p => ix p || iy p) (tx || ty) a a2 := by
  refine ⟨hx.toPostI.seq hy.toPostI hdisj hus hvs hix hiy, hy.end_.trans hx.end_, hy.fb.trans hx.fb, fun hc => hy.fc (hx.fc hc),
    fun hm => hy.mt (hx.mt hm), fun hs ht => ?_⟩
  cases htx : tx with
  | true => exact hy.mt (hx.pT hs htx)
  | false => rw [htx] at ht; exact hy.pT (by rw [hx.end_]; exact hs) (by simpa using ht)

theorem PreK.left {ps qs : List Nat} {a : A} (h : PreK (ps ++ qs) a) : PreK ps a :=
  ⟨fun p hp => h.fresh p (List.mem_append.mpr (Or.inl hp)), (List.nodup_append.mp h.nodup).1⟩

theorem PreK.right {ps qs : List Nat} {a a1 : A} (h : PreK (ps ++ qs) a) (hf : ∀ q, q ∉ ps → a1.info q = a.info q) :
    PreK qs a1 := by
  have hn := List.nodup_append.mp h.nodup
  refine ⟨fun p hp => ?_, hn.2.1⟩
  rw [endAt_eq_of_info_eq (hf p (fun hps => hn.2.2 p hps p hp rfl))]
  exact h.fresh p (List.mem_append.mpr (Or.inr hp))

theorem PreK.disj {ps qs : List Nat} {a : A} (h : PreK (ps ++ qs) a) : ∀ p, p ∈ ps → p ∈ qs → False :=
  fun p h1 h2 => (List.nodup_append.mp h.nodup).2.2 p h1 p h2 rfl

/-- The state `a1` after `visit_stmt`, entered in `a`, recorded the flag at `p` and visited some leading expressions (keys
`kps`, completions `tc`); `rest` are the keys of what follows.  What follows is live only if the expressions can complete
normally (`hs`); `found_break`, `found_continue`, `may_throw` were not lost (`hb`, `hc`, `hmt`) and `may_throw` is set if
the expressions can throw (`pT`); the metadata changed at `p` and `kps` only (`hi`), the flag at `p` is the one recorded
(`hur`), no end is recorded yet at `p` and `rest` (`hp`, `hfresh`); `p`, `kps`, `rest` are disjoint and `rest` has no
duplicates (`pk`, `pr`, `disj`, `ndr`). -/
structure Prefix (live : Bool) (p : Nat) (kps rest : List Nat) (tc : Compl) (a a1 : A) : Prop where
  hs : stopsEnd a1.sc.end_ = true → (live && tc.n) = false
  hb : a.sc.foundBreak = some none → a1.sc.foundBreak = some none
  hc : a.sc.foundContinue = true → a1.sc.foundContinue = true
  hi : ∀ q, q ≠ p → q ∉ kps → a1.info q = a.info q
  hur : a1.info.ur p = (flagA a p .other).info.ur p
  hfresh : ∀ q ∈ rest, a1.info.endAt q = none
  hp : a1.info.endAt p = none
  hmt : a.sc.mayThrow = true → a1.sc.mayThrow = true
  pT : (live && tc.t) = true → a1.sc.mayThrow = true
  pk : p ∉ kps
  pr : p ∉ rest
  ndr : rest.Nodup
  disj : ∀ q, q ∈ kps → q ∈ rest → False

theorem Prefix.pre {live : Bool} {p : Nat} {kps rest : List Nat} {a : A} (hpre : Pre live (p :: (kps ++ rest)) a) :
    Pre live kps (flagA a p .other) :=
  hpre.of_sub_flag p .other (fun q hq => List.mem_cons_of_mem _ (List.mem_append.mpr (Or.inl hq)))
    (List.nodup_append.mp (List.nodup_cons.mp hpre.nodup).2).1

theorem Prefix.of {live : Bool} {p : Nat} {kus kps rest : List Nat} {tc : Compl} {tr ti : Nat → Bool} {a a1 : A}
    (hpre : Pre live (p :: (kps ++ rest)) a) (hk : PostL live kus kps tc tr ti (flagA a p .other) a1) :
    Prefix live p kps rest tc a a1 := by
  have hnd := List.nodup_cons.mp hpre.nodup
  have hnd2 := List.nodup_append.mp hnd.2
  have hpk : p ∉ kps := fun h => hnd.1 (List.mem_append.mpr (Or.inl h))
  have hpr : p ∉ rest := fun h => hnd.1 (List.mem_append.mpr (Or.inr h))
  have hdisj : ∀ q, q ∈ kps → q ∈ rest → False := fun q h1 h2 => hnd2.2.2 q h1 q h2 rfl
  refine ⟨hk.p1, hk.monoB, hk.monoC, ?_, ur_eq_of_info_eq (hk.frame p hpk), ?_, ?_, hk.monoT, hk.pT, hpk, hpr, hnd2.2.1, hdisj⟩
  · intro q h1 h2; rw [hk.frame q h2]; exact flagA_other a p .other q h1
  · intro q hq
    rw [endAt_eq_of_info_eq (hk.frame q (fun h => hdisj q h hq)), flagA_endAt]
    exact hpre.fresh q (List.mem_cons_of_mem _ (List.mem_append.mpr (Or.inr hq)))
  · rw [endAt_eq_of_info_eq (hk.frame p hpk), flagA_endAt]; exact hpre.fresh p (by simp)

theorem Prefix.pre_rest {live : Bool} {p : Nat} {kps rest : List Nat} {tc : Compl} {a a1 : A}
    (hx : Prefix live p kps rest tc a a1) : Pre (live && tc.n) rest a1 := ⟨hx.hs, hx.hfresh, hx.ndr⟩

theorem Prefix.preK {live : Bool} {p : Nat} {kps rest : List Nat} {a : A} (hpre : Pre live (p :: (kps ++ rest)) a) :
    PreK kps (flagA a p .other) :=
  ((PreK.of_pre hpre (fun q hq => List.mem_cons_of_mem _ (List.mem_append.mpr (Or.inl hq)))
    (List.nodup_append.mp (List.nodup_cons.mp hpre.nodup).2).1)).flag p .other

theorem not_stops_of {x : Option End} {b : Bool} (h : stopsEnd x = true → b = false) (hb : b = true) : stopsEnd x = false := by
  cases hs : stopsEnd x with
  | false => rfl
  | true => rw [h hs] at hb; cases hb

/-- pure expressions as a piece of the enclosing flow: they complete normally, or throw if `thr` -/
theorem PostK.toL {us ps : List Nat} {inn : Nat → Bool} {thr : Bool} {a a' : A} (h : PostK us ps inn thr a a') {live : Bool}
    (hs : stopsEnd a.sc.end_ = true → live = false) :
    PostL live us ps { n := true, t := thr } (fun _ => false) inn a a' :=
  ⟨fun hst => by simp [hs (h.end_ ▸ hst)], by simp, by simp, fun hb => h.fb ▸ hb, h.fc, by simp [Compl.hasCl],
    fun _ _ _ => by simp, h.p3, h.frame, h.mt,
    fun hh => by simp only [Bool.and_eq_true] at hh; exact h.pT (not_stops_of hs hh.1) hh.2⟩

/-- the prefix facts when the expressions are pure (they complete normally, or throw if `kt`) -/
theorem Prefix.ofK {live : Bool} {p : Nat} {kus kps rest : List Nat} {kinn : Nat → Bool} {kt : Bool} {a a1 : A}
    (hpre : Pre live (p :: (kps ++ rest)) a) (hk : PostK kus kps kinn kt (flagA a p .other) a1) :
    Prefix live p kps rest { n := true, t := kt } a a1 := Prefix.of hpre (hk.toL hpre.hs)

theorem Prefix.end_eq {live : Bool} {p : Nat} {kus kps : List Nat} {kinn : Nat → Bool} {kt : Bool} {a a1 : A}
    (hk : PostK kus kps kinn kt (flagA a p .other) a1) : a1.sc.end_ = a.sc.end_ := hk.end_

/-- what is reached when a function with these kids (parameters, body block) is entered, or a function nested in them -/
def Kids.fnReach (ks : Kids) (q : Nat) : Bool := ks.entryReach q || ks.flowReach q || ks.inner q

theorem Kids.fnReach_false (ks : Kids) (q : Nat) (h : q ∉ ks.positions) : ks.fnReach q = false := by
  simp [Kids.fnReach, ks.entryReach_false q h, ks.flowReach_false q h, ks.inner_false q h]

theorem exprEffect_mt (k : EKind) (a : A) : (a.sc.mayThrow = true → (exprEffect k a).sc.mayThrow = true) ∧
    (stopsEnd a.sc.end_ = false → k = .other → (exprEffect k a).sc.mayThrow = true) := by
  unfold exprEffect
  rcases h : a.sc.end_ with _ | ⟨r, t, i⟩ | _ | _ <;> cases k <;> simp [h]

theorem expr_ok (e : EKind) (ks : Kids) (a : A)
    (h : PostK ks.upos ks.positions ks.inner ks.mayThrow a (visitKids ks a)) :
    PostK (Kid.expr e ks).upos (Kid.expr e ks).positions (Kid.expr e ks).inner (Kid.expr e ks).mayThrow a (visitKid (.expr e ks) a) :=
  h.same (exprEffect_same e _) (exprEffect_mt e _).1 fun hs ht => by
    cases e with
    | other => exact (exprEffect_mt _ _).2 (by rw [h.end_]; exact hs) rfl
    | ident id => exact (exprEffect_mt _ _).1 (h.pT hs ht)
    | this => exact (exprEffect_mt _ _).1 (h.pT hs ht)

theorem fnScope_ok (p : Nat) (ks : Kids) (a : A) (hf : ks.okFn = true) (hpre : PreK (p :: ks.positions) a)
    (ih : ∀ x, ks.okFn = true → PreK ks.positions x → x.sc.end_ = none →
      PostI ks.upos ks.positions ks.fnReach x (visitKids ks x)) :
    PostK (Kid.fnScope p ks).upos (Kid.fnScope p ks).positions (Kid.fnScope p ks).inner (Kid.fnScope p ks).mayThrow a (visitKid (.fnScope p ks) a) := by
  have hnd := List.nodup_cons.mp hpre.nodup
  have hI := ih { sc := { end_ := none }, info := a.info } hf
    ⟨fun q hq => hpre.fresh q (List.mem_cons_of_mem _ hq), hnd.2⟩ rfl
  have w := withChild_sees .function p (visitKids ks) a
  simp only [visitKid, Kid.upos, Kid.positions]
  refine ⟨⟨?_, ?_⟩, w.end_ rfl, w.fbKept rfl, fun h => by rw [w.fc, h]; rfl, fun h => by rw [w.mt, h]; rfl,
    fun _ h => by simp [Kid.mayThrow] at h⟩
  · intro q hq hu
    rw [w.ur] at hu
    have := hI.p3 q hq hu
    simpa only [Kid.inner, Kids.fnReach] using this
  · intro q hq
    simp only [List.mem_cons, not_or] at hq
    rw [w.info q hq.1]; exact hI.frame q hq.2

theorem kidsCons_ok (k : Kid) (r : Kids) (x : A) (hf : (Kids.cons k r).okF = true) (hp : (Kids.cons k r).pure = true)
    (hpre : PreK (Kids.cons k r).positions x)
    (hk : ∀ x, k.okF = true → k.pure = true → PreK k.positions x → PostK k.upos k.positions k.inner k.mayThrow x (visitKid k x))
    (ih : ∀ x, r.okF = true → r.pure = true → PreK r.positions x →
      PostK r.upos r.positions r.inner r.mayThrow x (visitKids r x)) :
    PostK (Kids.cons k r).upos (Kids.cons k r).positions (Kids.cons k r).inner (Kids.cons k r).mayThrow x (visitKids (.cons k r) x) :=
  have hpre' : PreK (k.positions ++ r.positions) x := hpre
  have hf' := Bool.and_eq_true_iff.mp hf
  have hp' := Bool.and_eq_true_iff.mp hp
  have h1 := hk x hf'.1 hp'.1 hpre'.left
  h1.seq (ih _ hf'.2 hp'.2 (hpre'.right h1.frame)) hpre'.disj (Kid.upos_sub k) (Kids.upos_sub r) (Kid.inner_false k) (Kids.inner_false r)

theorem block_ok (live : Bool) (ls : List Id) (p : Nat) (b : Stmts) (a : A) (hf : b.inF = true)
    (hpre : Pre live (p :: b.positions) a)
    (ih : ∀ a0, b.inF = true → Pre live b.positions a0 →
      PostL live b.upos b.positions b.compl b.reach b.inner a0 (visitStmts b a0)) :
    PostS live ls (.block p b) a (visitStmt (.block p b) a) :=
  have h1 := (ih _ hf (hpre.of_sub_flag p .other (fun q hq => List.mem_cons_of_mem _ hq) (List.nodup_cons.mp hpre.nodup).2)).flagFresh
    hpre b.inside
  .of (h1.blockTail (List.mem_cons_self ..)) rfl rfl rfl (fun _ => rfl) (fun _ => rfl) fun _ => h1.blockTail_at p

/-- a block statement reached by `visit_block_stmt` (try block, catch body, finalizer): like a statement list, plus
the mark at its position -/
theorem blockKid_ok (live : Bool) (q : Nat) (body : Stmts) (a : A) (hpre : Pre live (q :: body.positions) a)
    (ih : ∀ a0, Pre live body.positions a0 → PostL live body.upos body.positions body.compl body.reach body.inner a0 (visitStmts body a0)) :
    PostL live body.upos (q :: body.positions) body.compl body.reach body.inner a (blockTail q (visitStmts body a)) :=
  ((ih a (hpre.sub (fun p hp => List.mem_cons_of_mem _ hp) (List.nodup_cons.mp hpre.nodup).2)).widen
    fun _ => List.mem_cons_of_mem _).blockTail (List.mem_cons_self ..)

theorem stmtEnd_stops' {de : Bool} {info : Info} {p : Nat} (h : stopsEnd (stmtEnd de info p) = true) :
    de = false ∧ stopsEnd (info.endAt p) = true := by
  cases de <;> simp_all [stmtEnd]

theorem stmtEnd_forced' {de : Bool} {info : Info} {p : Nat} (h : isForcedEnd (stmtEnd de info p) = true) :
    de = false ∧ isForcedEnd (info.endAt p) = true := by
  cases de <;> simp_all [stmtEnd]

theorem stmtEnd_stops {de : Bool} {info : Info} {p : Nat} (h : stopsEnd (stmtEnd de info p) = true) :
    stopsEnd (info.endAt p) = true := (stmtEnd_stops' h).2

theorem stmtEnd_forced {de : Bool} {info : Info} {p : Nat} (h : isForcedEnd (stmtEnd de info p) = true) :
    isForcedEnd (info.endAt p) = true ∧ stmtEnd de info p = info.endAt p :=
  ⟨(stmtEnd_forced' h).2, by rw [(stmtEnd_forced' h).1]; rfl⟩

theorem ifJoin_eq (p : Nat) (cr ar : Option End) (a : A) :
    ∃ e, ifJoin p cr ar a = markAsEnd p e a ∧
      (stopsEnd (some e) = true → stopsEnd cr = true ∧ stopsEnd ar = true) := by
  rcases cr with _ | ⟨r1, t1, i1⟩ | _ | _ <;> rcases ar with _ | ⟨r2, t2, i2⟩ | _ | _ <;>
    simp only [ifJoin] <;> exact ⟨_, rfl, by simp⟩

/-- one branch of an `if`, visited in a child scope: the parent's end is unchanged, and what `get_stmt_end_reason`
reads for the branch stops only if the branch cannot complete normally -/
theorem ifBranch_ok (live : Bool) (c : Stmt) (a1 : A) (hs : stopsEnd a1.sc.end_ = true → live = false)
    (hfresh : ∀ q ∈ c.positions, a1.info.endAt q = none) (hnd : c.positions.Nodup)
    (hf : c.inF = true) (ih : ∀ a0, c.inF = true → Pre live c.positions a0 → PostS live [] c a0 (visitStmt c a0)) :
    PostL live c.upos c.positions (c.compl []) c.reach c.inner a1
        (withChild .ifK c.pos (fun x => sobTail c (visitStmt c x)) a1) ∧
      (withChild .ifK c.pos (fun x => sobTail c (visitStmt c x)) a1).sc.end_ = a1.sc.end_ ∧
      (stopsEnd (stmtEnd c.isDeclOrExpr (withChild .ifK c.pos (fun x => sobTail c (visitStmt c x)) a1).info c.pos) = true →
        (live && (c.compl []).n) = false) := by
  have h1 := sob_ok live [] c _ _ (ih _ hf (childA_pre live .ifK _ a1 hs hfresh hnd))
  have w := withChild_sees .ifK c.pos (fun x => sobTail c (visitStmt c x)) a1
  exact ⟨h1.toPostL.scope (kind := .ifK) hs nofun .rfl fun _ => rfl, w.end_ rfl,
    fun h => h1.p4 (stmtEnd_stops' h).1 (w.infoAll rfl ▸ (stmtEnd_stops' h).2)⟩

theorem if_none_ok (live : Bool) (ls : List Id) (p : Nat) (test : Kids) (c : Stmt) (a : A)
    (hf : (Stmt.ifS p test c none).inF = true) (hpre : Pre live (p :: (test.positions ++ c.positions)) a)
    (ihk : ∀ x, test.okF = true → Pre live test.positions x → KidsL live test x (visitKids test x))
    (ih : ∀ a0, c.inF = true → Pre (live && test.compl.n) c.positions a0 →
      PostS (live && test.compl.n) [] c a0 (visitStmt c a0)) :
    PostS live ls (.ifS p test c none) a (visitStmt (.ifS p test c none) a) := by
  simp only [Stmt.inF, Bool.and_eq_true] at hf
  have hk := ihk _ hf.1.1 (Prefix.pre hpre)
  have hv : visitStmt (.ifS p test c none) a =
      (markAsEnd p .cont (withChild .ifK c.pos (fun x => sobTail c (visitStmt c x)) (visitKids test (flagA a p .other)))).setEnd
        (visitKids test (flagA a p .other)).sc.end_ := by simp [visitStmt, flagA]
  rw [hv]
  -- test, then the branch in a child scope or nothing; the scope's end is put back to what it was after the test, so
  -- it stops only if the test cannot complete normally, and `End::Continue` is what is recorded at `p`
  generalize visitKids test (flagA a p .other) = a1 at hk ⊢
  have hx := Prefix.of hpre hk
  obtain ⟨h1, he, -⟩ := ifBranch_ok _ c a1 hx.hs hx.hfresh hx.ndr hf.2 ih
  generalize withChild .ifK c.pos (fun x => sobTail c (visitStmt c x)) a1 = a2 at h1 he
  have h2 := hk.seq (h1.orSkip fun h => hx.hs (he ▸ h)) hx.disj test.inside c.inside
  have h3 := h2.flagFresh hpre (test.inside.seq c.inside _)
  have hst : stopsEnd (some End.cont) = true → (live && (test.compl.seq ((c.compl []).union .normal)).n) = false := nofun
  refine .of ((h3.markAsEnd (List.mem_cons_self ..) .cont hst).setEnd _ fun hs => ?_) rfl rfl rfl
    (fun _ => by simp [Stmt.reach, Bool.or_assoc]) (fun _ => rfl) (fun _ => h3.markAsEnd_at p .cont hst)
  simpa using hx.hs hs

theorem if_some_ok (live : Bool) (ls : List Id) (p : Nat) (test : Kids) (c al : Stmt) (a : A)
    (hf : (Stmt.ifS p test c (some al)).inF = true)
    (hpre : Pre live (p :: (test.positions ++ (c.positions ++ al.positions))) a)
    (ihk : ∀ x, test.okF = true → Pre live test.positions x → KidsL live test x (visitKids test x))
    (ihc : ∀ a0, c.inF = true → Pre (live && test.compl.n) c.positions a0 →
      PostS (live && test.compl.n) [] c a0 (visitStmt c a0))
    (iha : ∀ a0, al.inF = true → Pre (live && test.compl.n) al.positions a0 →
      PostS (live && test.compl.n) [] al a0 (visitStmt al a0)) :
    PostS live ls (.ifS p test c (some al)) a (visitStmt (.ifS p test c (some al)) a) := by
  simp only [Stmt.inF, Bool.and_eq_true] at hf
  have hk := ihk _ hf.1.1.1 (Prefix.pre hpre)
  have hv : visitStmt (.ifS p test c (some al)) a =
      (let a1 := visitKids test (flagA a p .other)
       let a2 := withChild .ifK c.pos (fun x => sobTail c (visitStmt c x)) a1
       let a3 := withChild .ifK al.pos (fun x => sobTail al (visitStmt al x)) a2
       ifJoin p (stmtEnd c.isDeclOrExpr a2.info c.pos) (stmtEnd al.isDeclOrExpr a3.info al.pos) a3) := by simp [visitStmt, flagA]
  rw [hv]
  simp only []
  generalize visitKids test (flagA a p .other) = a1 at hk ⊢
  have hx := Prefix.of hpre hk
  have hnd := List.nodup_append.mp hx.ndr
  obtain ⟨h1, he1, hcr⟩ := ifBranch_ok _ c a1 hx.hs (fun q hq => hx.hfresh q (List.mem_append.mpr (Or.inl hq))) hnd.1 hf.1.2 ihc
  generalize withChild .ifK c.pos (fun x => sobTail c (visitStmt c x)) a1 = a2 at h1 he1 hcr ⊢
  obtain ⟨h2, he2, har⟩ := ifBranch_ok _ al a2 (fun h => hx.hs (he1 ▸ h)) (fun q hq => by
    rw [endAt_eq_of_info_eq (h1.frame q fun hc => hnd.2.2 q hc q hq rfl)]
    exact hx.hfresh q (List.mem_append.mpr (Or.inr hq))) hnd.2.1 hf.2 iha
  generalize withChild .ifK al.pos (fun x => sobTail al (visitStmt al x)) a2 = a3 at h2 he2 har ⊢
  have h3 := (hk.seq (h1.union h2 (fun q hc ha => hnd.2.2 q hc q ha rfl) c.inside al.inside
    fun h => hx.hs (he1 ▸ he2 ▸ h)) hx.disj test.inside (c.inside.union al.inside)).flagFresh hpre
      (test.inside.seq (c.inside.union al.inside) _)
  obtain ⟨e, hje, hjs⟩ := ifJoin_eq p (stmtEnd c.isDeclOrExpr a2.info c.pos) (stmtEnd al.isDeclOrExpr a3.info al.pos) a3
  rw [hje]
  -- the joined end stops only if both branches' ends do, i.e. neither branch completes normally
  have hst : stopsEnd (some e) = true → (live && (test.compl.seq ((c.compl []).union (al.compl []))).n) = false :=
    fun h => by rw [seq_n, union_n, ← Bool.and_assoc, Bool.and_or_distrib_left, hcr (hjs h).1, har (hjs h).2]; rfl
  exact .of (h3.markAsEnd (List.mem_cons_self ..) e hst) rfl rfl rfl (fun _ => by simp [Stmt.reach, Bool.or_assoc])
    (fun _ => by simp [Stmt.inner, Bool.or_assoc]) (fun _ => h3.markAsEnd_at p e hst)

/-- an expression node: its sub-expressions, then its own effect (it may throw unless it is a bare identifier / `this`) -/
theorem exprL (live : Bool) (e : EKind) (ks : Kids) (a : A) (h : KidsL live ks a (visitKids ks a)) :
    PostL live (Kid.expr e ks).upos (Kid.expr e ks).positions (Kid.expr e ks).compl (Kid.expr e ks).flowReach
      (Kid.expr e ks).inner a (visitKid (.expr e ks) a) :=
  h.thenEffect (effect_ok _ (exprOwn e) _ _ (by cases e <;> rfl)
    (exprEffect_same e _) (exprEffect_mt e _).1
    (fun hh => by
      -- only `.other` can throw by itself; the sub-expressions complete normally here, so the scope has not ended
      cases e <;> simp [exprOwn] at hh
      exact (exprEffect_mt _ _).2 (not_stops_of h.p1 (by simp [hh])) rfl)
    fun hst => by simp [h.p1 hst]) ks.inside

/-- a block among the kids (class static block): a block of the enclosing flow -/
theorem blockKidL (live : Bool) (q : Nat) (body : Stmts) (a : A) (hf : body.inF = true)
    (hpre : Pre live (q :: body.positions) a)
    (ih : ∀ a0, body.inF = true → Pre live body.positions a0 →
      PostL live body.upos body.positions body.compl body.reach body.inner a0 (visitStmts body a0)) :
    PostL live (Kid.block q body).upos (Kid.block q body).positions (Kid.block q body).compl (Kid.block q body).flowReach
      (Kid.block q body).inner a (visitKid (.block q body) a) := by
  refine (blockKid_ok live q body a hpre (ih · hf)).weaken (fun _ h => h) (fun _ h => h) .rfl (fun u hu h => ?_) (fun _ _ => id)
  have hne : u ≠ q := fun e => (List.nodup_cons.mp hpre.nodup).1 (e ▸ Stmts.upos_sub body u hu)
  simpa [Kid.flowReach, hne] using h

theorem kidsConsL (live : Bool) (k : Kid) (r : Kids) (a : A) (hf : (Kids.cons k r).okF = true)
    (hpre : Pre live (Kids.cons k r).positions a)
    (ihk : ∀ (l : Bool) x, k.okF = true → Pre l k.positions x →
      PostL l k.upos k.positions k.compl k.flowReach k.inner x (visitKid k x))
    (ihr : ∀ (l : Bool) x, r.okF = true → Pre l r.positions x → KidsL l r x (visitKids r x)) :
    KidsL live (.cons k r) a (visitKids (.cons k r) a) :=
  have hpre' : Pre live (k.positions ++ r.positions) a := hpre
  have hf' := Bool.and_eq_true_iff.mp hf
  .seqL hpre' (ihk live a hf'.1 hpre'.left) (ihr _ _ hf'.2) k.inside r.inside

theorem labeled_compl (ls : List Id) (p : Nat) (l : Id) (body : Stmt) :
    let b := body.compl (l :: ls)
    let c := Stmt.compl ls (.labeled p l body)
    c.n = (b.n || b.bl.contains l) ∧ c.b = b.b ∧ c.c = b.c ∧ c.t = b.t ∧ (c.hasCl = true → b.hasCl = true) := by
  refine ⟨by simp [Stmt.compl], by simp [Stmt.compl], by simp [Stmt.compl], by simp [Stmt.compl], ?_⟩
  intro h
  simp only [Stmt.compl] at h
  exact not_isEmpty_of_filter _ _ h

theorem labeled_ok (live : Bool) (ls : List Id) (p : Nat) (l : Id) (body : Stmt) (a : A)
    (hf : body.inF = true) (hpre : Pre live (p :: body.positions) a)
    (ih : ∀ a0, body.inF = true → Pre live body.positions a0 → PostS live (l :: ls) body a0 (visitStmt body a0)) :
    PostS live ls (.labeled p l body) a (visitStmt (.labeled p l body) a) := by
  have hnd := List.nodup_cons.mp hpre.nodup
  have hv : visitStmt (.labeled p l body) a =
      withChild (.label l) p (fun x => sobTail body (visitStmt body x)) (flagA a p .other) := by simp [visitStmt, flagA]
  rw [hv]
  have h1 := sob_ok live (l :: ls) body _ _ (ih _ hf (childA_pre live (.label l) _ (flagA a p .other) hpre.hs
    (fun q hq => by rw [flagA_endAt]; exact hpre.fresh q (List.mem_cons_of_mem _ hq)) hnd.2))
  have w := withChild_sees (.label l) p (fun x => sobTail body (visitStmt body x)) (flagA a p .other)
  -- a labelled statement never ends the enclosing scope, and completes normally also by `break l`
  have h2 := ((h1.toPostL.scope (kind := .label l) (p := p) (op := fun x => sobTail body (visitStmt body x)) (a := flagA a p .other) hpre.hs nofun .rfl fun _ => rfl).withN (Stmt.compl ls (.labeled p l body)).n
    fun h => by simp [hpre.hs (w.end_ rfl ▸ h)]).flagFresh hpre body.inside
  obtain ⟨-, hcb, hcc, hct, hcl⟩ := labeled_compl ls p l body
  refine ⟨h2.weaken (fun _ h => h) (fun _ h => h)
    ⟨id, fun h => hcb ▸ h, fun h => by rw [hcc, Bool.or_eq_true] at *; exact h.imp id hcl, fun h => hct ▸ h⟩
    (fun _ _ => id) (fun _ _ => id), fun _ hst => ?_⟩
  rw [Stmt.pos, w.infoAll rfl, endAt_eq_of_info_eq (h1.frame p hnd.1)] at hst
  simp only [childA] at hst
  rw [flagA_endAt, hpre.fresh p (List.mem_cons_self ..)] at hst
  simp at hst

end DL.CF
