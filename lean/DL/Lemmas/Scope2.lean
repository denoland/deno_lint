import DL.Model.Scope2
import DL.Lemmas.Binding

/-! Lemmas about M-SCOPE2: lookup, `lets` / `vars`, one-hole contexts (with hoisting) and the bound case. -/
namespace DL.Scope2
open DL.Binding (push push_eq_none_iff push_ne_none)

theorem lookup_cons (id : Sid) (fr : List Nat) (env : Env) : lookup ((id, fr) :: env) = push id fr (lookup env) := rfl

/-- looking a name up through a block of frames -/
theorem lookup_append_none_iff (fs env : Env) (x : Nat) :
    lookup (fs ++ env) x = none ↔ (∀ f ∈ fs, x ∉ f.2) ∧ lookup env x = none := by
  induction fs with
  | nil => simp
  | cons f r ih => rw [List.cons_append, lookup_cons, push_eq_none_iff, ih, List.forall_mem_cons, and_assoc]

theorem lookup_none_iff (env : Env) (x : Nat) : lookup env x = none ↔ ∀ f ∈ env, x ∉ f.2 :=
  (List.append_nil env ▸ lookup_append_none_iff env [] x).trans (and_iff_left rfl)

theorem lookup_some_of_tail {env : Env} {x : Nat} (f : Sid × List Nat) (h : lookup env x ≠ none) :
    lookup (f :: env) x ≠ none := push_ne_none f.1 f.2 h

theorem lookup_some_of_append {env : Env} {x : Nat} (fs : Env) (h : lookup env x ≠ none) :
    lookup (fs ++ env) x ≠ none := fun hh => h ((lookup_append_none_iff fs env x).mp hh).2

/-- an item that is not itself a lexical declaration -/
def Item.notLet : Item → Bool
  | .letDecl _ => false
  | _ => true

theorem lets_append : (a b : Items) → (a.append b).lets = a.lets ++ b.lets
  | .nil, _ => rfl
  | .cons i r, b => by
    have ih := lets_append r b
    cases i <;> simp [Items.append, Items.lets, ih]

theorem lets_hole (pre post : Items) (i : Item) (h : i.notLet = true) :
    (pre.append (.cons i post)).lets = pre.lets ++ post.lets := by
  rw [lets_append]
  cases i <;> first | rfl | cases h

theorem vars_append : (a b : Items) → (a.append b).vars = a.vars ++ b.vars
  | .nil, _ => rfl
  | .cons i r, b => by simp [Items.append, Items.vars, vars_append r b]

theorem vars_hole (pre post : Items) (i : Item) : (pre.append (.cons i post)).vars = pre.vars ++ (i.vars ++ post.vars) := by
  rw [vars_append, Items.vars]

theorem res_append (env : Env) : (a b : Items) → (a.append b).res env = a.res env ++ b.res env
  | .nil, _ => by simp [Items.append, Items.res]
  | .cons i r, b => by simp [Items.append, Items.res, res_append env r b]

theorem res_hole (env : Env) (pre post : Items) (i : Item) : i.res env <:+: (pre.append (.cons i post)).res env := by
  rw [res_append, Items.res]
  exact List.infix_append' ..

theorem plug_notLet (ls : List Layer) (i : Item) (h : i.notLet = true) : (plug ls i).notLet = true := by
  cases ls with
  | nil => exact h
  | cons l r => cases l <;> rfl

theorem wrap_vars (l : Layer) (inner : Item) : (l.wrap inner).vars = l.out inner.vars := by
  cases l <;> simp only [Layer.wrap, Layer.out, Item.vars, vars_hole]

/-- `holeVars` computes the `var`s of the plugged item -/
theorem plug_vars (ls : List Layer) (inner : Item) : (plug ls inner).vars = holeVars ls inner.vars := by
  induction ls with
  | nil => rfl
  | cons l r ih => simp only [plug, holeVars, wrap_vars, ih]

/-- what the hole holds is resolved under the frames the layer pushes (a lexical declaration in the hole would add to
them); the `var`s of the hole count for the frame of a function -/
theorem wrap_res (l : Layer) (inner : Item) (h : inner.notLet = true) (env : Env) :
    inner.res (l.frames inner.vars ++ env) <:+: (l.wrap inner).res env := by
  cases l with
  | block id pre post =>
    simp only [Layer.wrap, Item.res, Layer.frames, lets_hole pre post inner h, List.cons_append, List.nil_append]
    exact res_hole ..
  | func id nm ps pre post =>
    simp only [Layer.wrap, Item.res, Layer.frames, funcFrame, lets_hole pre post inner h, vars_hole, List.cons_append,
      List.nil_append]
    exact ((res_hole ..).trans (List.suffix_append ..).isInfix).trans (List.suffix_append ..).isInfix
  | catchC id p pre post =>
    simp only [Layer.wrap, Item.res, Layer.frames, catchFrame, lets_hole pre post inner h, List.cons_append,
      List.nil_append]
    exact (res_hole ..).trans (List.suffix_append ..).isInfix
  | forLet id x pre post =>
    simp only [Layer.wrap, Item.res, Layer.frames, lets_hole pre post inner h, List.cons_append, List.nil_append]
    exact (res_hole ..).trans (List.suffix_append ..).isInfix

theorem plug_res (ls : List Layer) (inner : Item) (h : inner.notLet = true) (env : Env) :
    inner.res (envOf ls inner.vars env) <:+: (plug ls inner).res env := by
  induction ls generalizing env with
  | nil => exact List.infix_rfl
  | cons l r ih => exact (ih _).trans (plug_vars r inner ▸ wrap_res l _ (plug_notLet r inner h) env)

/-- the names a layer's scope(s) declare by themselves: name / parameters / catch parameter / loop variable, the lexical
declarations before and after the hole and, for a function, the `var`s of its own sibling subtrees -/
def Layer.own : Layer → List Nat
  | .block _ pre post => pre.lets ++ post.lets
  | .func _ nm ps pre post => nm.toList ++ (ps ++ (pre.lets ++ post.lets) ++ (pre.vars ++ post.vars))
  | .catchC _ p pre post => p.toList ++ (pre.lets ++ post.lets)
  | .forLet _ x pre post => x :: (pre.lets ++ post.lets)

/-- the `var`s hoisted out of the layers `ls` (outermost first): those declared beside the hole in the enclosing
non-function scopes, up to the nearest enclosing function (exclusive) -/
def hoisted : List Layer → List Nat
  | [] => []
  | l :: ls => if l.isFunc then [] else l.sideVars ++ hoisted ls

/-- some scope of the context declares `g`: by itself, or — a function — by a `var` hoisted from the scopes below it -/
def declares (g : Nat) : List Layer → Prop
  | [] => False
  | l :: ls => g ∈ l.own ∨ (l.isFunc = true ∧ g ∈ hoisted ls) ∨ declares g ls

/-- a function lets no `var` out; any other layer lets out its own and those of the hole -/
theorem mem_out (l : Layer) (v : List Nat) (x : Nat) :
    x ∈ l.out v ↔ l.isFunc = false ∧ (x ∈ l.sideVars ∨ x ∈ v) := by
  have h3 (a b c : Prop) : a ∨ b ∨ c ↔ (a ∨ c) ∨ b := by rw [or_assoc, or_comm (a := b)]
  cases l <;> simp only [Layer.out, Layer.isFunc, Layer.sideVars, List.mem_append, List.not_mem_nil, true_and,
    Bool.true_eq_false, false_and, h3]

theorem mem_holeVars (ls : List Layer) (v : List Nat) (x : Nat) :
    x ∈ holeVars ls v ↔ x ∈ hoisted ls ∨ ((∀ l ∈ ls, l.isFunc = false) ∧ x ∈ v) := by
  induction ls with
  | nil => simp [holeVars, hoisted]
  | cons l r ih =>
    rw [holeVars, mem_out, ih, hoisted, List.forall_mem_cons]
    cases l.isFunc
    · simp only [true_and, Bool.false_eq_true, if_false, List.mem_append, or_assoc]
    · simp only [Bool.true_eq_false, false_and, if_true, List.not_mem_nil, or_self]

theorem mem_holeVars_nil (ls : List Layer) (x : Nat) : x ∈ holeVars ls [] ↔ x ∈ hoisted ls := by
  simp [mem_holeVars]

/-- `hoisted`, explicitly: a `var` beside the hole in some enclosing non-function scope that is not separated from the
top of `ls` by a function -/
theorem mem_hoisted (ls : List Layer) (x : Nat) :
    x ∈ hoisted ls ↔ ∃ a l b, ls = a ++ l :: b ∧ (∀ l' ∈ a, l'.isFunc = false) ∧ l.isFunc = false ∧ x ∈ l.sideVars := by
  constructor
  · intro h
    induction ls with
    | nil => cases h
    | cons l r ih =>
      cases hf : l.isFunc with
      | true => simp [hoisted, hf] at h
      | false =>
        simp only [hoisted, hf, Bool.false_eq_true, if_false, List.mem_append] at h
        rcases h with h | h
        · exact ⟨[], l, r, rfl, nofun, hf, h⟩
        · obtain ⟨a, l', b, rfl, ha, hl', hx⟩ := ih h
          exact ⟨l :: a, l', b, rfl, List.forall_mem_cons.mpr ⟨hf, ha⟩, hl', hx⟩
  · rintro ⟨a, l, b, rfl, ha, hl, hx⟩
    induction a with
    | nil =>
      simp only [List.nil_append, hoisted, hl, Bool.false_eq_true, if_false]
      exact List.mem_append_left _ hx
    | cons a0 a' ih =>
      rw [List.forall_mem_cons] at ha
      simp only [List.cons_append, hoisted, ha.1, Bool.false_eq_true, if_false]
      exact List.mem_append_right _ (ih ha.2)

theorem lookup_frames_none_iff (g : Nat) (l : Layer) (r : List Layer) (env : Env) :
    lookup (l.frames (holeVars r []) ++ env) g = none ↔
      ¬ (g ∈ l.own ∨ (l.isFunc = true ∧ g ∈ hoisted r)) ∧ lookup env g = none := by
  rw [lookup_append_none_iff]
  refine and_congr_left' ?_
  cases l with
  | func id nm ps pre post =>
    simp only [Layer.frames, Layer.own, Layer.isFunc, mem_holeVars_nil, List.forall_mem_cons, List.mem_append, not_or,
      true_and, List.not_mem_nil, false_imp_iff, implies_true, and_true]
    exact ⟨fun ⟨⟨⟨hp, hl⟩, hv1, hh, hv2⟩, hn⟩ => ⟨⟨hn, ⟨hp, hl⟩, hv1, hv2⟩, hh⟩,
      fun ⟨⟨hn, ⟨hp, hl⟩, hv1, hv2⟩, hh⟩ => ⟨⟨⟨hp, hl⟩, hv1, hh, hv2⟩, hn⟩⟩
  | _ => simp [Layer.frames, Layer.own, Layer.isFunc, and_comm]

/-- the environment at the hole declares `g` iff the context does, or the outer environment did -/
theorem lookup_envOf_none_iff (g : Nat) (ls : List Layer) (env : Env) :
    lookup (envOf ls [] env) g = none ↔ ¬ declares g ls ∧ lookup env g = none := by
  induction ls generalizing env with
  | nil => simp [envOf, declares]
  | cons l r ih => rw [envOf, ih, lookup_frames_none_iff, declares, ← and_assoc, ← not_or, or_comm, or_assoc]

theorem isGlobalRef_of_bound {g : Nat} {e : Entry} (h : e.name = g → e.bind ≠ none) : isGlobalRef g e = false := by
  unfold isGlobalRef
  by_cases hg : e.name = g
  · cases hb : e.bind with
    | none => exact absurd hb (h hg)
    | some v => simp
  · simp [hg]

theorem declsIn_silent (g : Nat) (env : Env) (l : List Nat) : ∀ e ∈ declsIn env l, isGlobalRef g e = false :=
  List.forall_mem_map.mpr fun _ _ => rfl

mutual
theorem Item.bound_silent (g : Nat) (i : Item) (env : Env) (h : lookup env g ≠ none) :
    ∀ e ∈ i.res env, isGlobalRef g e = false := by
  cases i with
  | ref x =>
    simp only [Item.res, List.forall_mem_singleton]
    exact isGlobalRef_of_bound fun (hx : x = g) => hx ▸ h
  | key x => simp [Item.res]
  | letDecl x => simp only [Item.res, List.forall_mem_singleton]; rfl
  | varDecl x => simp only [Item.res, List.forall_mem_singleton]; rfl
  | block id b => exact Items.bound_silent g b _ (lookup_some_of_tail _ h)
  | func id nm ps b =>
    simp only [Item.res, List.forall_mem_append]
    exact ⟨declsIn_silent g _ _, declsIn_silent g _ _,
      Items.bound_silent g b _ (lookup_some_of_tail _ (lookup_some_of_tail _ h))⟩
  | catchC id p b =>
    simp only [Item.res, List.forall_mem_append]
    exact ⟨declsIn_silent g _ _, Items.bound_silent g b _ (lookup_some_of_tail _ h)⟩
  | forLet id x b =>
    simp only [Item.res, List.forall_mem_append]
    exact ⟨declsIn_silent g _ _, Items.bound_silent g b _ (lookup_some_of_tail _ (lookup_some_of_tail _ h))⟩
theorem Items.bound_silent (g : Nat) (is : Items) (env : Env) (h : lookup env g ≠ none) :
    ∀ e ∈ is.res env, isGlobalRef g e = false := by
  cases is with
  | nil => simp [Items.res]
  | cons i r =>
    simp only [Items.res, List.forall_mem_append]
    exact ⟨Item.bound_silent g i env h, Items.bound_silent g r env h⟩
end

end DL.Scope2
