import DL.Lemmas.RxCompProp
import DL.Lemmas.RxCompSearch

/-! # Completeness: `RegExpIdentifierName`, `GroupName` (u-mode) -/
namespace DL.Rx
open DL.RxSpec DL.Gen.Unicode
attribute [local irreducible] isScalar
variable {src : List Nat} {N : Nat}

theorem Wc.of_yes {m : M Bool} {p : Prop} (hy : Yes m p) (hp : p) (s : St) :
    Wc (m s) (fun b s1 => b = true ∧ s1 = s) := by
  rcases hy hp s with h | h <;> rw [h]
  · exact ⟨rfl, rfl⟩
  · trivial

theorem Wc.of_tests_not {m : M Bool} {p : Prop} (ht : Tests m p) (hp : ¬p) (s : St) :
    Wc (m s) (fun b s1 => b = false ∧ s1 = s) := by
  rcases ht s with ⟨b, h, hb⟩ | h <;> rw [h]
  · cases b
    · exact ⟨rfl, rfl⟩
    · exact absurd (hb rfl) hp
  · trivial

theorem isRegexpIdentifierStart_wc (cp : Nat) (s : St) (hp : IdentifierStartChar cp) :
    Wc (isRegexpIdentifierStart cp s) (fun b s1 => b = true ∧ s1 = s) := Wc.of_yes (isRegexpIdentifierStart_yes cp) hp s

theorem isRegexpIdentifierPart_wc (cp : Nat) (s : St) (hp : IdentifierPartChar cp) :
    Wc (isRegexpIdentifierPart cp s) (fun b s1 => b = true ∧ s1 = s) := Wc.of_yes (isRegexpIdentifierPart_yes cp) hp s

theorem isRegexpIdentifierPart_wcn (cp : Nat) (s : St) (hp : ¬IdentifierPartChar cp) :
    Wc (isRegexpIdentifierPart cp s) (fun b s1 => b = false ∧ s1 = s) :=
  Wc.of_tests_not (isRegexpIdentifierPart_spec cp) hp s

/-- the frame of the two identifier functions hands a successful attempt on -/
theorem identFrame_wc {hit : Bool → M Bool} {Q : St → Prop} {r : List Nat} {s : St} (h : UAt src N r s)
    (hhit : Wc (hit false s) (fun b s1 => b = true ∧ Q s1)) : Wc (identFrame hit s) (fun b s1 => b = true ∧ Q s1) := by
  unfold identFrame
  rx5_step
  rx5_step
  dsimp only
  simp only [h.uFlag', Bool.not_true, Bool.false_and]
  refine Wc.call hhit fun b s1 hq => ?_
  obtain ⟨rfl, hq⟩ := hq
  exact ⟨rfl, hq⟩

theorem identStartHit_wc (n : Nat) (r r1 : List Nat) (x : Nat) (s : St) (h : UAt src N r s)
    (hD : RegExpIdentifierStart r r1 x) :
    Wc (identStartHit n false s) (fun b s1 => b = true ∧ UAt src N r1 s1 ∧ s1.lastIntValue = (x : Nat) ∧ Keep s s1) := by
  unfold identStartHit identStartCp
  obtain ⟨y, r', rfl⟩ : ∃ y r', r = y :: r' := by cases hD <;> exact ⟨_, _, rfl⟩
  refine Wc.bind_cpo0 h (fun hr => nomatch hr) (fun _ _ hr => ?_)
  cases hr
  dsimp only
  refine Wc.bind_advance_cons h fun h1 => ?_
  refine Wc.bind_cpo h1 (by decide) ?_
  cases hD with
  | char _ _ hx =>
    have hne : (x == ch '\\') = false := by
      have : x ≠ ch '\\' := fun e => not_identifierStartChar_backslash (e ▸ hx)
      simpa using this
    rx5_autos
    rx5_fin
  | escape m _ _ hu hx =>
    rx5_autos
    have hv := ‹(_ : St).lastIntValue = (x : Nat)›
    rw [hv, i64AsU32_small (rues_le hu)]
    rx5_autos
    rx5_fin

theorem eatRegexpIdentifierStart_wc (n : Nat) (r r1 : List Nat) (x : Nat) (s : St) (h : UAt src N r s)
    (hD : RegExpIdentifierStart r r1 x) :
    Wc (eatRegexpIdentifierStart n s) (fun b s1 => b = true ∧ UAt src N r1 s1 ∧ s1.lastIntValue = (x : Nat) ∧ Keep s s1) := by
  rw [eatRegexpIdentifierStart_eq_frame]
  exact identFrame_wc h (identStartHit_wc n r r1 x s h hD)

theorem identPartHit_wc (n : Nat) (r r1 : List Nat) (x : Nat) (s : St) (h : UAt src N r s)
    (hD : RegExpIdentifierPart r r1 x) :
    Wc (identPartHit n false s) (fun b s1 => b = true ∧ UAt src N r1 s1 ∧ s1.lastIntValue = (x : Nat) ∧ Keep s s1) := by
  unfold identPartHit identPartCp
  obtain ⟨y, r', rfl⟩ : ∃ y r', r = y :: r' := by cases hD <;> exact ⟨_, _, rfl⟩
  refine Wc.bind_cpo0 h (fun hr => nomatch hr) (fun _ _ hr => ?_)
  cases hr
  refine Wc.bind_advance_cons h fun h1 => ?_
  refine Wc.bind_cpo h1 (by decide) ?_
  cases hD with
  | char _ _ hx =>
    have hne : (some x == some (ch '\\')) = false := by
      have : x ≠ ch '\\' := fun e => not_identifierPartChar_backslash (e ▸ hx)
      simpa using this
    rx5_autos
    rx5_fin
  | escape m _ _ hu hx =>
    rx5_autos
    have hv := ‹(_ : St).lastIntValue = (x : Nat)›
    rw [hv, i64AsU32_small (rues_le hu)]
    rx5_autos
    rx5_fin

theorem eatRegexpIdentifierPart_wc (n : Nat) (r r1 : List Nat) (x : Nat) (s : St) (h : UAt src N r s)
    (hD : RegExpIdentifierPart r r1 x) :
    Wc (eatRegexpIdentifierPart n s) (fun b s1 => b = true ∧ UAt src N r1 s1 ∧ s1.lastIntValue = (x : Nat) ∧ Keep s s1) := by
  rw [eatRegexpIdentifierPart_eq_frame]
  exact identFrame_wc h (identPartHit_wc n r r1 x s h hD)

theorem not_identifierPartChar_gt : ¬IdentifierPartChar (ch '>') := by
  intro h
  have := identifierPartChar_cases h
  have c3e : ch '>' = 0x3E := rfl
  omega

/-- the frame of the two identifier functions rewinds a failed attempt -/
theorem identFrame_wcn {hit : Bool → M Bool} {r : List Nat} {s : St} (h : UAt src N r s)
    (hhit : Wc (hit false s) (fun b s1 => b = false ∧ (∃ r', UAt src N r' s1) ∧ Keep s s1)) :
    Wc (identFrame hit s) (fun b s1 => b = false ∧ UAt src N r s1 ∧ Keep s s1) := by
  unfold identFrame
  rx5_step
  rx5_step
  dsimp only
  simp only [h.uFlag', Bool.not_true, Bool.false_and]
  refine Wc.call hhit fun b s1 hq => ?_
  obtain ⟨rfl, ⟨r', hat⟩, hk⟩ := hq
  rx5_auto
  · rename_i hn
    exact ⟨rfl, UAt.of_index_eq hat h (by simpa using hn), hk⟩
  · rx5_fin

/-- at `>` there is no further `RegExpIdentifierPart` -/
theorem eatRegexpIdentifierPart_wcn (n : Nat) (r1 : List Nat) (s : St) (h : UAt src N (ch '>' :: r1) s) :
    Wc (eatRegexpIdentifierPart n s) (fun b s1 => b = false ∧ UAt src N (ch '>' :: r1) s1 ∧ Keep s s1) := by
  have hgt := not_identifierPartChar_gt
  rw [eatRegexpIdentifierPart_eq_frame]
  refine identFrame_wcn h ?_
  unfold identPartHit identPartCp
  refine Wc.bind_cpo0 h (fun hr => nomatch hr) (fun y r' hr => ?_)
  cases hr
  refine Wc.bind_advance_cons h fun h1 => ?_
  refine Wc.bind_cpo h1 (by decide) ?_
  rx5_autos
  exact ⟨rfl, ⟨_, h1⟩, rfl, rfl, rfl⟩

theorem PartsRun.snoc {m r r' : List Nat} {xs : List Nat} {y : Nat} (h : PartsRun m r xs) (hp : RegExpIdentifierPart r r' y) :
    PartsRun m r' (xs ++ [y]) := by
  induction h with
  | nil r => exact PartsRun.cons _ _ _ _ _ hp (PartsRun.nil _)
  | cons r0 m0 r1 x xs hp0 _ ih => exact PartsRun.cons _ _ _ _ _ hp0 (ih hp)

theorem name_split {i r : List Nat} {nm : List Nat} (h : RegExpIdentifierName i r nm) :
    ∃ m x xs, RegExpIdentifierStart i m x ∧ PartsRun m r xs ∧ nm = x :: xs := by
  induction h with
  | start _ _ hs => exact ⟨_, _, [], hs, PartsRun.nil _, rfl⟩
  | part _ _ _ _ _ hp ih =>
    obtain ⟨m0, x0, xs, hs, hrun, rfl⟩ := ih
    exact ⟨m0, x0, xs ++ [_], hs, hrun.snoc hp, rfl⟩

theorem eatRegexpIdentifierNameLoop_wc (r1 : List Nat) : ∀ (n : Nat) (r : List Nat) (xs : List Nat) (s : St),
    UAt src N r s → PartsRun r (ch '>' :: r1) xs →
    Wc (eatRegexpIdentifierNameLoop n s) (fun _ s1 => UAt src N (ch '>' :: r1) s1 ∧
      s1.lastStrValue = s.lastStrValue ++ xs ∧ KeepN s s1)
  | 0, _, _, _, _, _ => Wc.outOfFuel
  | n + 1, r, xs, s, h, hrun => by
    have ih := eatRegexpIdentifierNameLoop_wc r1 n
    cases hrun with
    | nil =>
      unfold eatRegexpIdentifierNameLoop
      rx5_auto
      have hk := ‹Keep s _›
      exact ⟨‹UAt src N (ch '>' :: r1) _›, by rw [hk.str, List.append_nil], hk.toN⟩
    | cons _ m _ x xs' hp hrest =>
      unfold eatRegexpIdentifierNameLoop
      rx5_auto
      rename_i s1 _ _ hv hk y hy _ s2 hat2 hstr hk2
      have hpc := identifierPartChar_char (part_value hp)
      rw [hv, i64AsU32_small hpc.2, hpc.1] at hy
      cases hy
      refine ⟨hat2, ?_, ⟨hk2.gn.trans hk.gn, hk2.bn.trans hk.bn⟩⟩
      rw [hstr]
      show (s1.lastStrValue ++ [x]) ++ xs' = _
      rw [hk.str, List.append_assoc]; rfl

theorem eatRegexpIdentifierName_wc (n : Nat) (r r1 : List Nat) (nm : List Nat) (s : St) (h : UAt src N r s)
    (hD : RegExpIdentifierName r (ch '>' :: r1) nm) :
    Wc (eatRegexpIdentifierName n s) (fun b s1 => b = true ∧ UAt src N (ch '>' :: r1) s1 ∧ s1.lastStrValue = nm ∧
      KeepN s s1) := by
  obtain ⟨m, x, xs, hstart, hrun, rfl⟩ := name_split hD
  have hloop := fun s (h : UAt src N m s) => eatRegexpIdentifierNameLoop_wc (src := src) (N := N) r1 n m xs s h hrun
  unfold eatRegexpIdentifierName
  rx5_auto
  rename_i s1 _ _ hv hk y hy _ s2 hat2 hstr hk2
  have hpc := identifierPartChar_char (identifierStartChar_part (start_value hstart))
  rw [hv, i64AsU32_small hpc.2, hpc.1] at hy
  cases hy
  exact ⟨rfl, hat2, hstr, ⟨hk2.gn.trans hk.gn, hk2.bn.trans hk.bn⟩⟩

theorem eatGroupName_wc (n : Nat) (r r1 : List Nat) (nm : List Nat) (s : St) (h : UAt src N r s)
    (hD : GroupName r r1 nm) :
    Wc (eatGroupName n s) (fun b s1 => b = true ∧ UAt src N r1 s1 ∧ s1.lastStrValue = nm ∧ KeepN s s1) := by
  obtain ⟨m, rfl, hname⟩ := hD
  unfold eatGroupName
  rx5_auto
  rx5_fin

theorem eatGroupName_wcn (n : Nat) (r : List Nat) (s : St) (h : UAt src N r s) (hn : r.head? ≠ some (ch '<')) :
    Wc (eatGroupName n s) (fun b s1 => b = false ∧ s1 = s) := by
  unfold eatGroupName
  rx5_auto
  exact ⟨rfl, rfl⟩

end DL.Rx
