import DL.Lemmas.RxSpecClass
import DL.Lemmas.RxBlocks

/-! # Soundness w.r.t. the grammar: quantifiers -/
namespace DL.Rx
open DL.RxSpec DL.Gen.Unicode
attribute [local irreducible] isScalar
variable {src : List Nat} {N : Nat}

/-- the early error of `{lo,hi}` as the model implements it (on the saturated values) -/
def qokSat (lo hi : Nat) : Prop := satI lo ≤ satI hi

theorem eatDecimalDigitsLoop_wp : ∀ (n : Nat) (r : List Nat) (s : St), UAt src N r s →
    Wp (eatDecimalDigitsLoop n s) (fun _ s1 => ∃ ds r1, r = ds ++ r1 ∧ (∀ d ∈ ds, DecimalDigit d) ∧
      (∀ d, r1.head? = some d → ¬DecimalDigit d) ∧ UAt src N r1 s1 ∧
      s1 = (s.setPos src (s.reader.index + ds.length)).withInt (accDec s.lastIntValue ds))
  | 0, _, _, _ => Wp.outOfFuel
  | n + 1, r, s, h => by
    have ih := eatDecimalDigitsLoop_wp n
    unfold eatDecimalDigitsLoop
    rx4_auto
    · rename_i x r' hn x' hx' d hd hat a s1 ds r1 hr hds hnx hat1 hs1
      subst hs1
      cases hx'
      have hx : isAsciiDigit x = true := by simpa using hn
      rw [toDigit10_eq hx] at hd
      cases hd
      refine ⟨x :: ds, r1, by rw [hr]; rfl, ?_, hnx, hat1, ?_⟩
      · intro d hd
        rcases List.mem_cons.mp hd with rfl | hd
        · exact decimalDigit_of_isAsciiDigit hx
        · exact hds d hd
      · st_norm
        rw [accDec_cons, List.length_cons, Nat.add_assoc, Nat.add_comm 1]
    · rename_i x r' hc
      refine ⟨[], x :: r', rfl, forall_mem_nil, ?_, h, ?_⟩
      · intro d hd; cases hd; exact not_decimalDigit_of hc
      · show s = (s.setPos src (s.reader.index + 0)).withInt s.lastIntValue
        rw [Nat.add_zero, setPos_self h.inv]; rfl
    · exact ⟨[], [], rfl, forall_mem_nil, forall_head_nil, h, by
        show s = (s.setPos src (s.reader.index + 0)).withInt s.lastIntValue
        rw [Nat.add_zero, setPos_self h.inv]; rfl⟩

/-- `eat_decimal_digits`: the maximal run of decimal digits; `true` iff it is non-empty -/
theorem eatDecimalDigits_wp (n : Nat) (r : List Nat) (s : St) (h : UAt src N r s) :
    Wp (eatDecimalDigits n s) (fun b s1 => ∃ ds r1, r = ds ++ r1 ∧ (∀ d ∈ ds, DecimalDigit d) ∧
      (∀ d, r1.head? = some d → ¬DecimalDigit d) ∧ UAt src N r1 s1 ∧
      s1 = (s.setPos src (s.reader.index + ds.length)).withInt (satI (mvDec ds)) ∧ (b = true ↔ ds ≠ [])) := by
  unfold eatDecimalDigits
  rx4_auto
  rename_i a s1 ds r1 hr hds hnx hat1 hs1
  subst hs1
  refine ⟨ds, r1, hr, hds, hnx, hat1, ?_, ?_⟩
  · st_norm
    rw [accDec_zero]
  · st_norm
    cases ds with
    | nil => simp
    | cons d ds' => simp

/-- `eat_decimal_digits` in the form the callers step through: what it leaves alone instead of the state it reaches
(an explicit state under the record updates that follow makes every later step dear) -/
theorem eatDecimalDigits_keeps (n : Nat) (r : List Nat) (s : St) (h : UAt src N r s) :
    Wp (eatDecimalDigits n s) (fun b s1 => ∃ ds r1, r = ds ++ r1 ∧ (∀ d ∈ ds, DecimalDigit d) ∧ UAt src N r1 s1 ∧
      Keep s s1 ∧ s1.lastMinValue = s.lastMinValue ∧ s1.lastIntValue = satI (mvDec ds) ∧ (b = true ↔ ds ≠ [])) := by
  refine (eatDecimalDigits_wp n r s h).mono ?_
  rintro b s1 ⟨ds, r1, hr, hds, -, hat, rfl, hb⟩
  exact ⟨ds, r1, hr, hds, hat, ⟨rfl, rfl, rfl⟩, rfl, rfl, hb⟩

theorem boundsClose_wp (noError : Bool) (r : List Nat) (s : St) (h : UAt src N r s) :
    Wp (boundsClose noError s) (fun b s1 => Keep s s1 ∧
      if b = true then ∃ r1, r = c '}' :: r1 ∧ UAt src N r1 s1 ∧ (noError = false → s.lastMinValue ≤ s.lastMaxValue)
      else UAt src N r s1) := by
  unfold boundsClose
  rx4_auto
  · rename_i r1 hat hn
    rx4_true
    refine ⟨r1, rfl, hat, fun hno => ?_⟩
    subst hno
    exact Int.not_lt.mp fun hlt => hn (decide_eq_true hlt)
  · rx4_false

/-- after `{`: the three braced forms; a failing answer leaves the reader anywhere (the caller rewinds) -/
theorem bracedBounds_wp (n : Nat) (noError : Bool) (m : List Nat) (s : St) (h : UAt src N m s) :
    Wp (bracedBounds n noError s) (fun b s1 => KeepN s s1 ∧
      if b = true then ∃ r1, UAt src N r1 s1 ∧ (noError = false → QuantifierPrefix qokSat (c '{' :: m) r1)
      else ∃ r', UAt src N r' s1) := by
  have hdd := @eatDecimalDigits_keeps src N n
  rw [bracedBounds_eq]
  rx4_auto
  · exact ⟨by rx4_keep, by rw [if_neg (by decide)]; exact ⟨_, by rx4_at⟩⟩
  all_goals (
    refine ⟨by rx4_keep, ?_⟩
    rename_i b _ _ hb
    cases b
    · exact (if_neg Bool.false_ne_true).mpr ⟨_, (if_neg Bool.false_ne_true).mp hb⟩
    obtain ⟨r1, hw, hat, hord⟩ := (if_pos rfl).mp hb
    subst hw
    refine (if_pos rfl).mpr ⟨r1, hat, fun hno => ?_⟩)
  · -- `DecimalDigits , }`
    rename_i ds1 hds1 _ _ _ hne1 _ _ hm _ _ ds2 _ _ _ _ hne2 _ _ hm2 _
    have hnil : ds2 = [] := Decidable.byContradiction hne2.mpr
    subst hnil
    rw [hm, hm2]
    exact QuantifierPrefix.atLeast _ r1 ds1 ⟨rfl, hne1.mp trivial, hds1⟩
  · -- `DecimalDigits , DecimalDigits }`
    rename_i ds1 hds1 _ _ hint1 hne1 _ _ hm _ _ ds2 hds2 _ hmin2 hint2 hne2 _ _ hm2 _
    rw [hm, hm2]
    refine QuantifierPrefix.range _ _ r1 ds1 ds2 ⟨rfl, hne1.mp trivial, hds1⟩ ⟨rfl, hne2.mp trivial, hds2⟩ ?_
    have := hord hno
    simp only [st_simp, hmin2, hint1, hint2] at this
    exact this
  · -- `DecimalDigits }`
    rw [‹m = _›]
    exact QuantifierPrefix.exact _ r1 _ ⟨rfl, (‹True ↔ _›).mp trivial, ‹∀ d ∈ _, DecimalDigit d›⟩

theorem eatBracedQuantifier_wp (n : Nat) (noError : Bool) (r : List Nat) (s : St) (h : UAt src N r s) :
    Wp (eatBracedQuantifier n noError s) (fun b s1 => KeepN s s1 ∧
      if b = true then ∃ r1, UAt src N r1 s1 ∧ (noError = false → QuantifierPrefix qokSat r r1)
      else UAt src N r s1) := by
  rw [eatBracedQuantifier_eq]
  rx4_autos
  all_goals (try rx4_false)
  rename_i m _ _ _ r1 _ hq
  exact ⟨by rx4_keep, by rw [if_pos rfl]; exact ⟨r1, by rx4_at, hq⟩⟩

/-- `Wp.orM_at` for alternatives that use `last_str_value` themselves -/
theorem Wp.orM_atN {a b : M Bool} {r : List Nat} {s : St} {G : St → Prop}
    (ha : Wp (a s) (fun x s1 => KeepN s s1 ∧ if x = true then G s1 else UAt src N r s1))
    (hb : ∀ s1, KeepN s s1 → UAt src N r s1 →
      Wp (b s1) (fun x s2 => KeepN s1 s2 ∧ if x = true then G s2 else UAt src N r s2)) :
    Wp ((a <or> b) s) (fun x s1 => KeepN s s1 ∧ if x = true then G s1 else UAt src N r s1) := by
  refine Wp.bind (ha.mono ?_)
  rintro x s1 ⟨k1, hx⟩
  cases x
  · rw [if_neg Bool.false_ne_true] at hx
    exact (hb s1 k1 hx).mono fun y s2 hq => ⟨k1.trans hq.1, hq.2⟩
  · exact ⟨k1, hx⟩

theorem consumeQuantifier_wp (n : Nat) (noConsume : Bool) (r : List Nat) (s : St) (h : UAt src N r s) :
    Wp (consumeQuantifier n noConsume s) (fun b s1 => KeepN s s1 ∧
      if b = true then ∃ r1, UAt src N r1 s1 ∧ (noConsume = false → Quantifier qokSat r r1)
      else UAt src N r s1) := by
  -- one symbol as a `QuantifierPrefix`
  have sym : ∀ {x : Char} {s' : St}, UAt src N r s' → (∀ r1, QuantifierPrefix qokSat (ch x :: r1) r1) →
      Wp (eat x s') (fun b s1 => KeepN s' s1 ∧ if b = true then
        ∃ r1, UAt src N r1 s1 ∧ (noConsume = false → QuantifierPrefix qokSat r r1) else UAt src N r s1) :=
    fun h' hq => (eat_wp (P := fun y => ∀ r1, QuantifierPrefix qokSat (y :: r1) r1) h' hq).mono fun b s1 hp =>
      ⟨hp.1.toN, by
        cases b
        · exact hp.2
        · obtain ⟨y, r1, rfl, hy, hat⟩ := (if_pos rfl).mp hp.2
          exact (if_pos rfl).mpr ⟨r1, hat, fun _ => hy r1⟩⟩
  have hprefix : Wp ((eat '*' <or> eat '+' <or> eat '?' <or> eatBracedQuantifier n noConsume) s) (fun b s1 =>
      KeepN s s1 ∧ if b = true then ∃ r1, UAt src N r1 s1 ∧ (noConsume = false → QuantifierPrefix qokSat r r1)
      else UAt src N r s1) :=
    .orM_atN (sym h .star) fun _ _ h1 => .orM_atN (sym h1 .plus) fun _ _ h2 => .orM_atN (sym h2 .opt) fun s3 _ h3 =>
      eatBracedQuantifier_wp n noConsume r s3 h3
  unfold consumeQuantifier
  refine Wp.call hprefix fun b s1 ⟨hk, hb⟩ => ?_
  cases b
  · exact ⟨hk, hb⟩
  · obtain ⟨m, hat, hq⟩ := (if_pos rfl).mp hb
    rx4_auto
    · rx4_true; exact ⟨_, by rx4_at, fun hno => .lazy _ _ (hq hno)⟩
    · rx4_true; exact ⟨_, by rx4_at, fun hno => .greedy _ _ (hq hno)⟩

theorem consumeOptionalQuantifier_wp (n : Nat) (r : List Nat) (s : St) (h : UAt src N r s) :
    Wp (consumeOptionalQuantifier n s) (fun b s1 => b = true ∧ KeepN s s1 ∧
      ∃ r1, UAt src N r1 s1 ∧ (r1 = r ∨ Quantifier qokSat r r1)) := by
  unfold consumeOptionalQuantifier
  rx4_auto
  rename_i b s1 hk hb
  refine ⟨rfl, hk, ?_⟩
  cases b
  · rw [if_neg (by decide)] at hb
    exact ⟨r, hb, .inl rfl⟩
  · rw [if_pos rfl] at hb
    obtain ⟨r1, hat, hq⟩ := hb
    exact ⟨r1, hat, .inr (hq rfl)⟩

end DL.Rx
