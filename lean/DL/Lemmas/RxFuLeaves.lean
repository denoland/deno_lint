import DL.Lemmas.RxFuTac
import DL.Lemmas.RxBlocks

/-! # Fuel adequacy: the tables, the `eat_*` leaves, escapes, identifier starts -/
namespace DL.Rx
attribute [local irreducible] isScalar
variable {E : Nat}

theorem F.isInRangeLoop (cp : Nat) (ranges : Array Nat) :
    ∀ (n l r i : Nat) (ne : Bool), r - l + 1 ≤ n → Fu E i ne (isInRangeLoop cp ranges n l r) (fun _ => i)
  | 0, _, _, _, _, hn => by exfalso; omega
  | n + 1, l, r, i, ne, hn => by
    have ih := F.isInRangeLoop cp ranges n
    unfold DL.Rx.isInRangeLoop; stay_auto

theorem F.isInRange (i : Nat) {ne : Bool} (cp : Nat) (ranges : Array Nat) : Stay E i ne (isInRange cp ranges) :=
  F.isInRangeLoop cp ranges _ _ _ i ne (by omega)

theorem F.isLargeIdStart (i : Nat) {ne : Bool} (cp : Nat) : Stay E i ne (isLargeIdStart cp) := F.isInRange i cp _
theorem F.isLargeIdContinue (i : Nat) {ne : Bool} (cp : Nat) : Stay E i ne (isLargeIdContinue cp) := F.isInRange i cp _
attribute [local irreducible] isLargeIdStart isLargeIdContinue

theorem F.isIdStart (i : Nat) {ne : Bool} (cp : Nat) : Stay E i ne (isIdStart cp) := by
  unfold DL.Rx.isIdStart; stay_auto

theorem F.isIdContinue (i : Nat) {ne : Bool} (cp : Nat) : Stay E i ne (isIdContinue cp) := by
  unfold DL.Rx.isIdContinue; stay_auto

theorem F.isRegexpIdentifierStart (i : Nat) {ne : Bool} (cp : Nat) : Stay E i ne (isRegexpIdentifierStart cp) := by
  unfold DL.Rx.isRegexpIdentifierStart; stay_auto

theorem F.isRegexpIdentifierPart (i : Nat) {ne : Bool} (cp : Nat) : Stay E i ne (isRegexpIdentifierPart cp) := by
  unfold DL.Rx.isRegexpIdentifierPart; stay_auto

theorem fixedHexAux (start j : Nat) (h1 : j ≤ start) (h2 : start ≤ E) :
    ∀ (k i : Nat) (ne : Bool), j ≤ i → Fu E i ne (eatFixedHexDigitsLoop start k) (fun _ => j)
  | 0, i, ne, hj => by unfold DL.Rx.eatFixedHexDigitsLoop; stay_auto
  | k + 1, i, ne, hj => by
    have ih := fixedHexAux start j h1 h2 k
    unfold DL.Rx.eatFixedHexDigitsLoop; stay_auto

theorem F.eatFixedHexDigitsLoop (i : Nat) {ne : Bool} (start k : Nat) (h1 : i ≤ start) (h2 : start ≤ E) :
    Stay E i ne (eatFixedHexDigitsLoop start k) := fixedHexAux start i h1 h2 k i ne (Nat.le_refl _)

theorem F.eatFixedHexDigits (i : Nat) {ne : Bool} (k : Nat) : Stay E i ne (eatFixedHexDigits k) := by
  unfold DL.Rx.eatFixedHexDigits; stay_auto

theorem F.eatOctalDigit (i : Nat) {ne : Bool} : Stay E i ne eatOctalDigit := by
  unfold DL.Rx.eatOctalDigit; stay_auto

theorem F.eatLegacyOctalEscapeSequence (i : Nat) {ne : Bool} : Stay E i ne eatLegacyOctalEscapeSequence := by
  unfold DL.Rx.eatLegacyOctalEscapeSequence; stay_auto

/-- A loop that consumes one unit per iteration runs at most `E - i` times from position `i`, and once more to see the end:
fuel `E - i + 1`; a function that reaches such a loop one call further down needs `E - i + 2`. -/
theorem F.eatHexDigitsLoop : ∀ (n i : Nat) (ne : Bool), E - i + 1 ≤ n → Fu E i ne (eatHexDigitsLoop n) (fun _ => i)
  | 0, i, _, hn => by exfalso; omega
  | n + 1, i, ne, hn => by
    have ih := F.eatHexDigitsLoop n
    unfold DL.Rx.eatHexDigitsLoop; stay_auto

theorem F.eatHexDigits (i : Nat) {ne : Bool} (n : Nat) (hn : E - i + 1 ≤ n) : Stay E i ne (eatHexDigits n) := by
  unfold DL.Rx.eatHexDigits; stay_auto

theorem F.eatDecimalDigitsLoop : ∀ (n i : Nat) (ne : Bool), E - i + 1 ≤ n → Fu E i ne (eatDecimalDigitsLoop n) (fun _ => i)
  | 0, i, _, hn => by exfalso; omega
  | n + 1, i, ne, hn => by
    have ih := F.eatDecimalDigitsLoop n
    unfold DL.Rx.eatDecimalDigitsLoop; stay_auto

theorem F.eatDecimalDigits (i : Nat) {ne : Bool} (n : Nat) (hn : E - i + 1 ≤ n) : Stay E i ne (eatDecimalDigits n) := by
  unfold DL.Rx.eatDecimalDigits; stay_auto

theorem F.eatHexEscapeSequence (i : Nat) {ne : Bool} : Stay E i ne eatHexEscapeSequence := by
  unfold DL.Rx.eatHexEscapeSequence; stay_auto

theorem F.eatPropertyCharsLoop (p : Nat → Bool) (site : String) : ∀ (n i : Nat) (ne : Bool), E - i + 1 ≤ n → Fu E i ne (eatPropertyCharsLoop p site n) (fun _ => i)
  | 0, i, _, hn => by exfalso; omega
  | n + 1, i, ne, hn => by
    have ih := F.eatPropertyCharsLoop p site n
    unfold DL.Rx.eatPropertyCharsLoop; stay_auto

theorem F.eatUnicodePropertyName (i : Nat) {ne : Bool} (n : Nat) (hn : E - i + 1 ≤ n) : Stay E i ne (eatUnicodePropertyName n) := by
  unfold DL.Rx.eatUnicodePropertyName; stay_auto

theorem F.eatUnicodePropertyValue (i : Nat) {ne : Bool} (n : Nat) (hn : E - i + 1 ≤ n) : Stay E i ne (eatUnicodePropertyValue n) := by
  unfold DL.Rx.eatUnicodePropertyValue; stay_auto

theorem F.eatLoneUnicodePropertyNameOrValue (i : Nat) {ne : Bool} (n : Nat) (hn : E - i + 1 ≤ n) : Stay E i ne (eatLoneUnicodePropertyNameOrValue n) := by
  unfold DL.Rx.eatLoneUnicodePropertyNameOrValue; stay_auto

theorem F.propNameValue (i : Nat) {ne : Bool} (n : Nat) (hn : E - i + 1 ≤ n) :
    Stay E i ne (propNameValue n) := by
  unfold DL.Rx.propNameValue; stay_auto

theorem F.propLone (i : Nat) {ne : Bool} (n : Nat) (hn : E - i + 1 ≤ n) : Stay E i ne (propLone n) := by
  unfold DL.Rx.propLone; stay_auto

theorem F.eatUnicodePropertyValueExpression (i : Nat) {ne : Bool} (n : Nat) (hn : E - i + 1 ≤ n) :
    Stay E i ne (eatUnicodePropertyValueExpression n) := by
  rw [eatUnicodePropertyValueExpression_eq]; stay_auto

theorem F.eatDecimalEscapeLoop : ∀ (n i : Nat) (ne : Bool), E - i + 1 ≤ n → Fu E i ne (eatDecimalEscapeLoop n) (fun _ => i)
  | 0, i, _, hn => by exfalso; omega
  | n + 1, i, ne, hn => by
    have ih := F.eatDecimalEscapeLoop n
    unfold DL.Rx.eatDecimalEscapeLoop; stay_auto

theorem F.eatDecimalEscape (i : Nat) {ne : Bool} (n : Nat) (hn : E - i + 1 ≤ n) : Stay E i ne (eatDecimalEscape n) := by
  unfold DL.Rx.eatDecimalEscape; stay_auto

theorem F.isValidIdentityEscape (i : Nat) {ne : Bool} (cp : Nat) : Stay E i ne (isValidIdentityEscape cp) := by
  unfold DL.Rx.isValidIdentityEscape; stay_auto

theorem F.eatIdentityEscape (i : Nat) {ne : Bool} : Stay E i ne eatIdentityEscape := by
  unfold DL.Rx.eatIdentityEscape; stay_auto

theorem F.eatRegexpUnicodeCodepointEscape (i : Nat) {ne : Bool} (n : Nat) (hn : E - i + 1 ≤ n) : Stay E i ne (eatRegexpUnicodeCodepointEscape n) := by
  unfold DL.Rx.eatRegexpUnicodeCodepointEscape; stay_auto

theorem F.eatRegexpUnicodeSurrogatePairEscape (i : Nat) {ne : Bool} : Stay E i ne eatRegexpUnicodeSurrogatePairEscape := by
  unfold DL.Rx.eatRegexpUnicodeSurrogatePairEscape; stay_auto

theorem F.eatRegexpUnicodeEscapeSequence (i : Nat) {ne : Bool} (n : Nat) (f : Bool) (hn : E - i + 1 ≤ n) : Stay E i ne (eatRegexpUnicodeEscapeSequence n f) := by
  unfold DL.Rx.eatRegexpUnicodeEscapeSequence; stay_auto

theorem F.eatControlLetter (i : Nat) {ne : Bool} : Stay E i ne eatControlLetter := by
  unfold DL.Rx.eatControlLetter; stay_auto

theorem F.eatControlEscape (i : Nat) {ne : Bool} : Stay E i ne eatControlEscape := by
  unfold DL.Rx.eatControlEscape; stay_auto

theorem F.eatZero (i : Nat) {ne : Bool} : Stay E i ne eatZero := by
  unfold DL.Rx.eatZero; stay_auto

theorem F.eatCControlLetter (i : Nat) {ne : Bool} : Stay E i ne eatCControlLetter := by
  unfold DL.Rx.eatCControlLetter; stay_auto

theorem F.identStartCp (i : Nat) {ne : Bool} (n : Nat) (f : Bool) (cp0 : Nat) (cp1 : Option Nat) (hn : E - i + 1 ≤ n) :
    Stay E i ne (identStartCp n f cp0 cp1) := by
  unfold DL.Rx.identStartCp; stay_auto

theorem F.identStartHit (i : Nat) {ne : Bool} (n : Nat) (f : Bool) (hn : E - i + 1 ≤ n) :
    Stay E i ne (identStartHit n f) := by
  unfold DL.Rx.identStartHit; stay_auto

theorem F.eatRegexpIdentifierStart (i : Nat) {ne : Bool} (n : Nat) (hn : E - i + 1 ≤ n) :
    Stay E i ne (eatRegexpIdentifierStart n) := by
  rw [eatRegexpIdentifierStart_eq]; stay_auto

end DL.Rx
