import DL.Model.Scope
import DL.Lemmas.Binding

/-! M-SCOPE (`Model/Scope.lean`): what a one-hole context declares around its hole (`wrap_res`, `plug_res`), that nothing
below a binding of `g` is a global reference to `g` (C14), and that the resolver commutes with renaming one binding
(`Items.res_ren`, C20), through the invariant `DL.Binding.Rel` on the two lookup functions. -/
namespace DL.Scope
open DL.Binding (push push_eq_none_iff push_ne_none)

theorem lookup_cons (id : Nat) (fr : List Nat) (env : Env) : lookup ((id, fr) :: env) = push id fr (lookup env) := rfl

theorem lookup_none_iff (env : Env) (x : Nat) : lookup env x = none ↔ ∀ f ∈ env, x ∉ f.2 := by
  induction env with
  | nil => simp [lookup]
  | cons f r ih => rw [lookup_cons, push_eq_none_iff, ih, List.forall_mem_cons]

theorem lookup_some_of_tail {env : Env} {x : Nat} (f : Nat × List Nat) (h : lookup env x ≠ none) :
    lookup (f :: env) x ≠ none := push_ne_none f.1 f.2 h

theorem lets_append : (a b : Items) → (a.append b).lets = a.lets ++ b.lets
  | .nil, _ => rfl
  | .cons i r, b => by
    have ih := lets_append r b
    cases i <;> simp [Items.append, Items.lets, ih]

theorem lets_cons_ref (x : Nat) (r : Items) : (Items.cons (.ref x) r).lets = r.lets := rfl
theorem lets_cons_key (x : Nat) (r : Items) : (Items.cons (.key x) r).lets = r.lets := rfl
theorem lets_cons_block (id : Nat) (b r : Items) : (Items.cons (.block id b) r).lets = r.lets := rfl
theorem lets_cons_func (id : Nat) (ps : List Nat) (b r : Items) : (Items.cons (.func id ps b) r).lets = r.lets := rfl

/-- an item that is not itself a declaration -/
def Item.notDecl : Item → Bool
  | .decl _ => false
  | _ => true

theorem plug_notDecl (ls : List Layer) (i : Item) (h : i.notDecl = true) : (plug ls i).notDecl = true := by
  cases ls with
  | nil => exact h
  | cons l r => cases l <;> rfl

theorem lets_hole (pre post : Items) (i : Item) (h : i.notDecl = true) :
    (pre.append (.cons i post)).lets = pre.lets ++ post.lets := by
  rw [lets_append]
  cases i <;> first | rfl | cases h

theorem res_append (env : Env) : (a b : Items) → (a.append b).res env = a.res env ++ b.res env
  | .nil, _ => by simp [Items.append, Items.res]
  | .cons i r, b => by simp [Items.append, Items.res, res_append env r b]

theorem res_hole (env : Env) (pre post : Items) (i : Item) : i.res env <:+: (pre.append (.cons i post)).res env := by
  rw [res_append, Items.res]
  exact List.infix_append' ..

/-- what the hole holds is resolved under the frame the layer pushes (a declaration in the hole would add to it) -/
theorem wrap_res (l : Layer) (inner : Item) (h : inner.notDecl = true) (env : Env) :
    inner.res ((l.id, l.declared) :: env) <:+: (l.wrap inner).res env := by
  cases l with
  | block id pre post =>
    simp only [Layer.wrap, Item.res, lets_hole pre post inner h]
    exact res_hole ..
  | func id ps pre post =>
    simp only [Layer.wrap, Item.res, lets_hole pre post inner h]
    exact (res_hole ..).trans (List.suffix_append ..).isInfix

theorem plug_res (ls : List Layer) (inner : Item) (h : inner.notDecl = true) (env : Env) :
    inner.res (envOf ls env) <:+: (plug ls inner).res env := by
  induction ls generalizing env with
  | nil => exact List.infix_rfl
  | cons l r ih => exact (ih _).trans (wrap_res l _ (plug_notDecl r inner h) env)

theorem lookup_envOf_none_iff (g : Nat) (ls : List Layer) (env : Env) :
    lookup (envOf ls env) g = none ↔ (∀ l ∈ ls, g ∉ l.declared) ∧ lookup env g = none := by
  induction ls generalizing env with
  | nil => simp [envOf]
  | cons l r ih => rw [envOf, ih, lookup_cons, push_eq_none_iff, List.forall_mem_cons, and_left_comm, and_assoc]

theorem isGlobalRef_of_bound {g : Nat} {e : Entry} (h : e.name = g → e.bind ≠ none) : isGlobalRef g e = false := by
  unfold isGlobalRef
  by_cases hg : e.name = g
  · cases hb : e.bind with
    | none => exact absurd hb (h hg)
    | some v => simp
  · simp [hg]

mutual
theorem Item.bound_silent (g : Nat) (i : Item) (env : Env) (h : lookup env g ≠ none) :
    ∀ e ∈ i.res env, isGlobalRef g e = false := by
  cases i with
  | ref x =>
    simp only [Item.res, List.forall_mem_singleton]
    exact isGlobalRef_of_bound fun (hx : x = g) => hx ▸ h
  | key x => simp [Item.res]
  | decl x => simp only [Item.res, List.forall_mem_singleton]; rfl
  | block id b => exact Items.bound_silent g b _ (lookup_some_of_tail _ h)
  | func id ps b =>
    simp only [Item.res, List.forall_mem_append, List.forall_mem_map]
    exact ⟨fun _ _ => rfl, Items.bound_silent g b _ (lookup_some_of_tail _ h)⟩
theorem Items.bound_silent (g : Nat) (is : Items) (env : Env) (h : lookup env g ≠ none) :
    ∀ e ∈ is.res env, isGlobalRef g e = false := by
  cases is with
  | nil => simp [Items.res]
  | cons i r =>
    simp only [Items.res, List.forall_mem_append]
    exact ⟨Item.bound_silent g i env h, Items.bound_silent g r env h⟩
end

abbrev Rel (t x y : Nat) (active : Bool) (env env' : Env) : Prop :=
  Binding.Rel t x y active (lookup env) (lookup env')

theorem Rel.step {t x y : Nat} {active : Bool} {env env' : Env} (h : Rel t x y active env env') (id : Nat)
    (fr : List Nat) (hy : y ∉ fr) :
    Rel t x y (act' t x active id fr) ((id, fr) :: env)
      ((id, if act' t x active id fr then fr.map (sw x y) else fr) :: env') :=
  Binding.Rel.step h id hy

/-- one occurrence: its spelling is switched exactly when its binding is the renamed one -/
theorem entry_ok {t x y : Nat} {active : Bool} {env env' : Env} (h : Rel t x y active env env') (k : Occ) (z : Nat)
    (hz : z ≠ y) :
    (⟨k, if active then sw x y z else z, lookup env' (if active then sw x y z else z)⟩ : Entry) =
      swE t x y ⟨k, z, lookup env z⟩ := by
  have h1 : lookup env' (if active then sw x y z else z) = lookup env z := h.1 z hz
  have h2 : (if active then sw x y z else z) = if z = x ∧ lookup env z = some t then y else z := h.renN_eq z
  rw [h1, h2]
  unfold swE
  split <;> rfl

theorem lets_ren (t x y : Nat) (a : Bool) : (b : Items) →
    (b.ren t x y a).lets = if a then b.lets.map (sw x y) else b.lets
  | .nil => by cases a <;> rfl
  | .cons i r => by
    have ih := lets_ren t x y a r
    cases a <;> cases i <;> simp [Items.ren, Item.ren, Items.lets, ih]

theorem lets_sub_names : (b : Items) → ∀ z ∈ b.lets, z ∈ b.names
  | .nil => nofun
  | .cons i r => by
    intro z hz
    rw [Items.names, List.mem_append]
    cases i with
    | decl x =>
      rcases List.mem_cons.mp hz with rfl | hz
      · exact Or.inl (List.mem_singleton_self _)
      · exact Or.inr (lets_sub_names r z hz)
    | _ => exact Or.inr (lets_sub_names r z hz)

mutual
theorem Item.res_ren (t x y : Nat) (i : Item) (active : Bool) (env env' : Env) (h : Rel t x y active env env')
    (hy : y ∉ i.names) : (i.ren t x y active).res env' = (i.res env).map (swE t x y) := by
  cases i with
  | ref z =>
    simp only [Item.ren, Item.res, List.map_cons, List.map_nil]
    rw [entry_ok h .ref z (fun hh => hy (hh ▸ List.mem_singleton_self _))]
  | key z => rfl
  | decl z =>
    simp only [Item.ren, Item.res, List.map_cons, List.map_nil]
    rw [entry_ok h .decl z (fun hh => hy (hh ▸ List.mem_singleton_self _))]
  | block id b =>
    have hs := h.step id b.lets (fun hh => hy (lets_sub_names b y hh))
    simp only [Item.ren, Item.res, lets_ren]
    exact Items.res_ren t x y b _ _ _ hs hy
  | func id ps b =>
    simp only [Item.names, List.mem_append, not_or] at hy
    have hs := h.step id (ps ++ b.lets) (fun hh => (List.mem_append.mp hh).elim hy.1 (hy.2 ∘ lets_sub_names b y))
    simp only [Item.ren, Item.res, List.map_append, List.map_map, lets_ren]
    generalize act' t x active id (ps ++ b.lets) = a at hs
    have hfr : (if a = true then ps.map (sw x y) else ps) ++ (if a = true then b.lets.map (sw x y) else b.lets) =
        if a = true then (ps ++ b.lets).map (sw x y) else ps ++ b.lets := by cases a <;> simp
    rw [hfr, Items.res_ren t x y b _ _ _ hs hy.2]
    congr 1
    have hp (p : Nat) (hp : p ∈ ps) := entry_ok hs .decl p (fun hh => hy.1 (hh ▸ hp))
    cases a
    · exact List.map_congr_left hp
    · simp only [↓reduceIte, List.map_map]
      exact List.map_congr_left hp
theorem Items.res_ren (t x y : Nat) (is : Items) (active : Bool) (env env' : Env) (h : Rel t x y active env env')
    (hy : y ∉ is.names) : (is.ren t x y active).res env' = (is.res env).map (swE t x y) := by
  cases is with
  | nil => rfl
  | cons i r =>
    simp only [Items.names, List.mem_append, not_or] at hy
    simp only [Items.ren, Items.res, List.map_append]
    rw [Item.res_ren t x y i active env env' h hy.1, Items.res_ren t x y r active env env' h hy.2]
end

mutual
theorem Item.res_names (i : Item) (env : Env) : ∀ e ∈ i.res env, e.name ∈ i.names := by
  cases i with
  | ref z => simp [Item.res, Item.names]
  | key z => simp [Item.res]
  | decl z => simp [Item.res, Item.names]
  | block id b => exact Items.res_names b _
  | func id ps b =>
    simp only [Item.res, List.forall_mem_append, List.forall_mem_map]
    exact ⟨fun p hp => List.mem_append_left _ hp, fun e he => List.mem_append_right _ (Items.res_names b _ e he)⟩
theorem Items.res_names (is : Items) (env : Env) : ∀ e ∈ is.res env, e.name ∈ is.names := by
  cases is with
  | nil => simp [Items.res]
  | cons i r =>
    simp only [Items.res, List.forall_mem_append]
    exact ⟨fun e he => List.mem_append_left _ (Item.res_names i env e he),
      fun e he => List.mem_append_right _ (Items.res_names r env e he)⟩
end

end DL.Scope
