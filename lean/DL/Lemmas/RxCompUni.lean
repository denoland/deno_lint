import DL.Lemmas.RxCompChar

/-! # Completeness: `RegExpUnicodeEscapeSequence` (u-mode) -/
namespace DL.Rx
open DL.RxSpec

attribute [local irreducible] isScalar
variable {src : List Nat} {N : Nat}

/-- a maximal run of characters with a property is unique -/
theorem run_unique {p : Nat → Prop} : ∀ {ds ds' r r' : List Nat}, ds ++ r = ds' ++ r' →
    (∀ d ∈ ds, p d) → (∀ d ∈ ds', p d) → (∀ d, r.head? = some d → ¬p d) → (∀ d, r'.head? = some d → ¬p d) →
    ds = ds' ∧ r = r'
  | [], [], _, _, h, _, _, _, _ => ⟨rfl, h⟩
  | [], y :: ds', r, r', h, _, h2, h3, _ => by
    exfalso
    have h : r = y :: (ds' ++ r') := h
    exact h3 y (by rw [h]; rfl) (h2 y (by simp))
  | x :: ds, [], r, r', h, h1, _, _, h4 => by
    exfalso
    have h : x :: (ds ++ r) = r' := h
    exact h4 x (by rw [← h]; rfl) (h1 x (by simp))
  | x :: ds, y :: ds', r, r', h, h1, h2, h3, h4 => by
    have h : x :: (ds ++ r) = y :: (ds' ++ r') := h
    obtain ⟨e1, e2⟩ := List.cons.inj h
    obtain ⟨e3, e4⟩ := run_unique e2 (fun d hd => h1 d (by simp [hd])) (fun d hd => h2 d (by simp [hd])) h3 h4
    exact ⟨by rw [e1, e3], e4⟩

theorem pairText_unique {r r1 r1' : List Nat} {l t l' t' : Nat} (h : PairText r r1 l t) (h' : PairText r r1' l' t') :
    r1 = r1' ∧ l = l' ∧ t = t' := by
  obtain ⟨ds1, ds2, hr, l1, l2, _, _, hl, ht, _, _⟩ := h
  obtain ⟨ds1', ds2', hr', l1', l2', _, _, hl', ht', _, _⟩ := h'
  rw [hr] at hr'
  obtain ⟨e1, e2⟩ := List.append_inj hr' (by omega)
  have e3 := (List.cons.inj (List.cons.inj e2).2).2
  obtain ⟨e4, e5⟩ := List.append_inj e3 (by omega)
  subst e1 e4 e5
  exact ⟨rfl, by rw [hl, hl'], by rw [ht, ht']⟩

theorem eatRegexpUnicodeSurrogatePairEscape_wc (r r1 : List Nat) (l t : Nat) (s : St) (h : UAt src N r s)
    (hp : PairText r r1 l t) :
    Wc (eatRegexpUnicodeSurrogatePairEscape s) (fun b s1 => b = true ∧ UAt src N r1 s1 ∧
      s1.lastIntValue = (((l - 0xD800) * 0x400 + (t - 0xDC00) + 0x10000 : Nat) : Int) ∧ Keep s s1) := by
  refine (Wc.of_wp (eatRegexpUnicodeSurrogatePairEscape_wp r s h) NE.eatRegexpUnicodeSurrogatePairEscape).mono ?_
  rintro b s1 ⟨hk1, hb⟩
  cases b
  · rw [if_neg (by decide)] at hb
    exact absurd ⟨r1, l, t, hp⟩ hb.2
  · rw [if_pos rfl] at hb
    obtain ⟨r1', l', t', hp', hat, hv⟩ := hb
    obtain ⟨e1, e2, e3⟩ := pairText_unique hp hp'
    subst e1 e2 e3
    exact ⟨rfl, hat, hv, hk1⟩

theorem eatRegexpUnicodeSurrogatePairEscape_wcn (r : List Nat) (s : St) (h : UAt src N r s)
    (hn : ¬∃ r1 l t, PairText r r1 l t) :
    Wc (eatRegexpUnicodeSurrogatePairEscape s) (fun b s1 => b = false ∧ UAt src N r s1 ∧ Keep s s1) := by
  refine (Wc.of_wp (eatRegexpUnicodeSurrogatePairEscape_wp r s h) NE.eatRegexpUnicodeSurrogatePairEscape).mono ?_
  rintro b s1 ⟨hk1, hb⟩
  cases b
  · rw [if_neg (by decide)] at hb
    exact ⟨rfl, hb.1, hk1⟩
  · rw [if_pos rfl] at hb
    obtain ⟨r1', l', t', hp', _⟩ := hb
    exact absurd ⟨r1', l', t', hp'⟩ hn

theorem eatHexDigits_wc (n : Nat) (ds r1 : List Nat) (s : St) (h : UAt src N (ds ++ r1) s)
    (hne : ds ≠ []) (hds : ∀ d ∈ ds, HexDigit d) (hstop : ∀ d, r1.head? = some d → ¬HexDigit d) :
    Wc (eatHexDigits n s) (fun b s1 => b = true ∧ UAt src N r1 s1 ∧
      s1.lastIntValue = satI (mvHex ds) ∧ Keep s s1) := by
  refine (Wc.of_wp (eatHexDigits_wp n _ s h) (NE.eatHexDigits n)).mono ?_
  rintro b s1 ⟨hk1, ds', r1', he, hds', hstop', hat, hv, hb⟩
  obtain ⟨e1, e2⟩ := run_unique he hds hds' hstop hstop'
  subst e1 e2
  exact ⟨hb.mpr hne, hat, hv, hk1⟩

theorem not_hexDigit_rbrace : ¬HexDigit (ch '}') := by
  intro h
  have h' : (0x30 ≤ ch '}' ∧ ch '}' ≤ 0x39) ∨ (0x61 ≤ ch '}' ∧ ch '}' ≤ 0x66) ∨ (0x41 ≤ ch '}' ∧ ch '}' ≤ 0x46) := h
  revert h'; decide

theorem satI_small {v : Nat} (h : v ≤ 0x10FFFF) : satI v = (v : Int) := by
  unfold satI i64Max; split <;> omega

theorem eatRegexpUnicodeCodepointEscape_wc (n : Nat) (ds r1 : List Nat) (s : St)
    (h : UAt src N (ch '{' :: (ds ++ ch '}' :: r1)) s) (hne : ds ≠ []) (hds : ∀ d ∈ ds, HexDigit d)
    (hle : mvHex ds ≤ 0x10FFFF) :
    Wc (eatRegexpUnicodeCodepointEscape n s) (fun b s1 => b = true ∧ UAt src N r1 s1 ∧
      s1.lastIntValue = (mvHex ds : Nat) ∧ Keep s s1) := by
  have hhx := fun s h => eatHexDigits_wc (src := src) (N := N) n ds (ch '}' :: r1) s h hne hds
    (by intro d hd; cases hd; exact not_hexDigit_rbrace)
  unfold eatRegexpUnicodeCodepointEscape
  rx5_auto
  case neg =>
    rename_i hn _
    have hv := ‹_ = satI (mvHex ds)›
    exfalso; apply hn
    st_norm
    rw [hv, satI_small hle]
    exact decide_eq_true (by omega)
  have hv := ‹_ = satI (mvHex ds)›
  rx5_fin
  st_norm
  rw [hv, satI_small hle]

theorem not_hexDigit_lbrace : ¬HexDigit (ch '{') := by
  intro h
  have h' : (0x30 ≤ ch '{' ∧ ch '{' ≤ 0x39) ∨ (0x61 ≤ ch '{' ∧ ch '{' ≤ 0x66) ∨ (0x41 ≤ ch '{' ∧ ch '{' ≤ 0x46) := h
  revert h'; decide

theorem no_fixed_of_head {k x : Nat} {m : List Nat} (hk : 0 < k) (hx : ¬HexDigit x) :
    ¬∃ ds r1, x :: m = ds ++ r1 ∧ ds.length = k ∧ ∀ d ∈ ds, HexDigit d := by
  rintro ⟨ds, r1, he, hl, hd⟩
  cases ds with
  | nil => simp at hl; omega
  | cons y ds =>
    have : x = y := (List.cons.inj he).1
    exact hx (this ▸ hd y (by simp))

theorem no_pair_of_head {x : Nat} {m : List Nat} (hx : ¬HexDigit x) : ¬∃ r1 l t, PairText (x :: m) r1 l t := by
  rintro ⟨r1, l, t, ds1, ds2, hr, l1, _, hd1, _⟩
  exact no_fixed_of_head (k := 4) (by decide) hx ⟨ds1, _, hr, l1, hd1⟩

theorem pairText_of_hex4 {m1 m2 r : List Nat} {l t : Nat} (h1 : Hex4Digits m1 (c '\\' :: c 'u' :: m2) l) (hl : isLead l)
    (h2 : Hex4Digits m2 r t) (ht : isTrail t) : PairText m1 r l t := by
  obtain ⟨a, b, c', d, e1, ha, hb, hc, hd, v1⟩ := h1
  obtain ⟨a2, b2, c2, d2, e2, ha2, hb2, hc2, hd2, v2⟩ := h2
  refine ⟨[a, b, c', d], [a2, b2, c2, d2], ?_, rfl, rfl, ?_, ?_, v1, v2, hl, ht⟩
  · rw [e1, e2]; rfl
  · intro x hx; simp at hx; rcases hx with rfl | rfl | rfl | rfl <;> assumption
  · intro x hx; simp at hx; rcases hx with rfl | rfl | rfl | rfl <;> assumption

theorem hex4_of_pairText {m r1 r : List Nat} {l t v : Nat} (hp : PairText m r1 l t) (h4 : Hex4Digits m r v) :
    l = v ∧ ∃ m', r = c '\\' :: c 'u' :: m' ∧ Hex4Digits m' r1 t ∧ isTrail t := by
  obtain ⟨a, b, c', d, e1, ha, hb, hc, hd, v1⟩ := h4
  obtain ⟨ds2, hrest, l2, hd1, hd2, hl, ht, hL, hT⟩ := pair_split (w := [a, b, c', d]) (rest := r) e1 rfl hp
  refine ⟨by rw [hl, v1], ds2 ++ r1, hrest, ?_, hT⟩
  rcases ds2 with _ | ⟨a2, _ | ⟨b2, _ | ⟨c2, _ | ⟨d2, _ | ⟨e, t'⟩⟩⟩⟩⟩ <;> simp at l2
  exact ⟨a2, b2, c2, d2, rfl, hd2 a2 (by simp), hd2 b2 (by simp), hd2 c2 (by simp), hd2 d2 (by simp), ht⟩

theorem eatRegexpUnicodeEscapeSequence_wc (n : Nat) (f : Bool) (r r1 : List Nat) (v : Nat) (s : St) (h : UAt src N r s)
    (hD : RegExpUnicodeEscapeSequence r r1 v) :
    Wc (eatRegexpUnicodeEscapeSequence n f s) (fun b s1 => b = true ∧ UAt src N r1 s1 ∧
      s1.lastIntValue = (v : Nat) ∧ Keep s s1) := by
  cases hD with
  | surrogatePair m₁ m₂ _ lead trail h1 hl h2 ht =>
    have hp := pairText_of_hex4 h1 hl h2 ht
    unfold eatRegexpUnicodeEscapeSequence
    rx5_auto
    all_goals rx5_close
  | lead m _ _ h4 hl hno =>
    have hnp : ¬∃ r1 l t, PairText m r1 l t := by
      rintro ⟨r1', l, t, hp⟩
      obtain ⟨_, m', e, h4', ht⟩ := hex4_of_pairText hp h4
      exact hno ⟨m', r1', t, e, h4', ht⟩
    obtain ⟨a, b, c', d, e1, ha, hb, hc, hd, v1⟩ := h4
    subst e1 v1
    have hfx := fun s h => eatFixedHexDigits_wc (src := src) (N := N) 4 (by decide) [a, b, c', d] r1 s h rfl
      (by intro x hx; simp at hx; rcases hx with rfl | rfl | rfl | rfl <;> assumption)
    unfold eatRegexpUnicodeEscapeSequence
    rx5_auto
    all_goals rx5_close
  | nonLead m _ _ h4 hnl =>
    have hnp : ¬∃ r1 l t, PairText m r1 l t := by
      rintro ⟨r1', l, t, hp⟩
      obtain ⟨e, _⟩ := hex4_of_pairText hp h4
      obtain ⟨_, _, _, _, _, _, _, _, _, hL, _⟩ := hp
      exact hnl (e ▸ hL)
    obtain ⟨a, b, c', d, e1, ha, hb, hc, hd, v1⟩ := h4
    subst e1 v1
    have hfx := fun s h => eatFixedHexDigits_wc (src := src) (N := N) 4 (by decide) [a, b, c', d] r1 s h rfl
      (by intro x hx; simp at hx; rcases hx with rfl | rfl | rfl | rfl <;> assumption)
    unfold eatRegexpUnicodeEscapeSequence
    rx5_auto
    all_goals rx5_close
  | codePoint m _ ds hrun hle =>
    obtain ⟨e, hne, hds⟩ := hrun
    subst e
    have hnp : ¬∃ r1' l t, PairText (c '{' :: (ds ++ c '}' :: r1)) r1' l t := no_pair_of_head not_hexDigit_lbrace
    have hnf : ¬∃ ds' r1', c '{' :: (ds ++ c '}' :: r1) = ds' ++ r1' ∧ ds'.length = 4 ∧ ∀ d ∈ ds', HexDigit d :=
      no_fixed_of_head (by decide) not_hexDigit_lbrace
    unfold eatRegexpUnicodeEscapeSequence
    rx5_auto
    all_goals rx5_close

theorem eatRegexpUnicodeEscapeSequence_wcn (n : Nat) (f : Bool) (r : List Nat) (s : St) (h : UAt src N r s)
    (hn : r.head? ≠ some (ch 'u')) :
    Wc (eatRegexpUnicodeEscapeSequence n f s) (fun b s1 => b = false ∧ s1 = s) := by
  unfold eatRegexpUnicodeEscapeSequence
  rx5_auto
  all_goals first | exact absurd rfl hn | exact ⟨rfl, rfl⟩

theorem rues_head {i r : List Nat} {v : Nat} (h : RegExpUnicodeEscapeSequence i r v) : ∃ m, i = ch 'u' :: m := by
  cases h <;> exact ⟨_, rfl⟩

/-- the first characters that start another alternative of `CharacterEscape` -/
theorem identity_head {x : Nat} (hx : SyntaxCharacter x ∨ x = c '/') :
    ctlVal x = none ∧ x ≠ ch 'c' ∧ x ≠ ch '0' ∧ x ≠ ch 'x' ∧ x ≠ ch 'u' := by
  rcases hx with hx | hx
  · unfold SyntaxCharacter at hx
    simp only [List.mem_cons, List.not_mem_nil, or_false] at hx
    rcases hx with h | h | h | h | h | h | h | h | h | h | h | h | h | h <;> subst h <;> decide
  · subst hx; decide

/-- with the `u` flag the legacy octal escape is not tried -/
theorem legacyOctal_wcn (r : List Nat) (s : St) (h : UAt src N r s) :
    Wc (((do pure (!(← getSt).strict)) <and> (do pure (!(← getSt).uFlag)) <and> eatLegacyOctalEscapeSequence) s)
      (fun b s1 => b = false ∧ s1 = s) := by
  rx5_auto
  exact ⟨rfl, rfl⟩

/-- For each production: the alternatives before its own fail without moving, its own succeeds. -/
theorem consumeCharacterEscape_wc (n : Nat) (r r1 : List Nat) (v : Nat) (s : St) (h : UAt src N r s)
    (hD : CharacterEscape r r1 v) :
    Wc (consumeCharacterEscape n s) (fun b s1 => b = true ∧ UAt src N r1 s1 ∧ s1.lastIntValue = (v : Nat) ∧ Keep s s1) := by
  unfold consumeCharacterEscape
  cases hD with
  | f | n | r | t | v => exact .orM_hit (eatControlEscape_wc _ _ _ s h rfl)
  | controlLetter l _ hl =>
    exact .orM_skip (eatControlEscape_wcn _ s h rfl) <| .orM_hit (eatCControlLetter_wc l r1 s h hl)
  | zero _ hnd =>
    exact .orM_skip (eatControlEscape_wcn _ s h rfl) <|
      .orM_skip (eatCControlLetter_wcn _ s h (head_ne_of_ne (by decide) _)) <| .orM_hit (eatZero_wc r1 s h hnd)
  | hex a b _ ha hb =>
    exact .orM_skip (eatControlEscape_wcn _ s h rfl) <|
      .orM_skip (eatCControlLetter_wcn _ s h (head_ne_of_ne (by decide) _)) <|
      .orM_skip (eatZero_wcn _ s h (head_ne_of_ne (by decide) _)) <| .orM_hit (eatHexEscapeSequence_wc a b r1 s h ha hb)
  | unicode _ _ _ hu =>
    obtain ⟨m, rfl⟩ := rues_head hu
    exact .orM_skip (eatControlEscape_wcn _ s h rfl) <|
      .orM_skip (eatCControlLetter_wcn _ s h (head_ne_of_ne (by decide) _)) <|
      .orM_skip (eatZero_wcn _ s h (head_ne_of_ne (by decide) _)) <|
      .orM_skip (eatHexEscapeSequence_wcn _ s h (head_ne_of_ne (by decide) _)) <|
      .orM_hit (eatRegexpUnicodeEscapeSequence_wc n false _ r1 v s h hu)
  | identity _ _ hx =>
    obtain ⟨h1, h2, h3, h4, h5⟩ := identity_head hx
    exact .orM_skip (eatControlEscape_wcn _ s h (h1 : (v :: r1).head?.bind ctlVal = none)) <|
      .orM_skip (eatCControlLetter_wcn _ s h (head_ne_of_ne h2 _)) <|
      .orM_skip (eatZero_wcn _ s h (head_ne_of_ne h3 _)) <|
      .orM_skip (eatHexEscapeSequence_wcn _ s h (head_ne_of_ne h4 _)) <|
      .orM_skip (eatRegexpUnicodeEscapeSequence_wcn n false _ s h (head_ne_of_ne h5 _)) <|
      .orM_skip (legacyOctal_wcn _ s h) (eatIdentityEscape_wc v r1 s h hx)

end DL.Rx
