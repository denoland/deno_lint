import DL.Lemmas.RxBName
import DL.Lemmas.RxSpecAtomEsc
import DL.Lemmas.RxCompUni
import DL.Lemmas.RxBCompTac

/-! # Annex B (no `u` flag): class escapes, back references, `\k<…>`, group specifiers, `AtomEscape[~U, N]` -/
namespace DL.Rx
open DL.RxSpec DL.Gen.Unicode

attribute [local irreducible] isScalar
variable {src : List Nat} {K : Bool × Nat}

/-- two-sided, and without the `u` flag no error: the completeness lemmas are its corollaries -/
theorem consumeCharacterClassEscape_wcb (n : Nat) (r : List Nat) (s : St) (h : BAt src K r s) :
    Wc (consumeCharacterClassEscape n s) (fun b s1 => KeepN s s1 ∧
      if b = true then ∃ r1, BAt src K r1 s1 ∧ RxSpecB.CharacterClassEscape r r1 ∧ s1.lastIntValue = -1
      else s1 = s ∧ ¬∃ r', RxSpecB.CharacterClassEscape r r') := by
  unfold consumeCharacterClassEscape
  rx7_auto
  all_goals (try (refine ⟨by rx6_keep, (if_pos rfl).mpr ⟨_, by rx6_at, ⟨_, rfl, by decide⟩, rfl⟩⟩; done))
  refine ⟨by rx6_keep, (if_neg Bool.false_ne_true).mpr ⟨rfl, ?_⟩⟩
  rename_i h1 h2 h3 h4 h5 h6
  rintro ⟨r', x, e, hx⟩
  subst e
  simp only [List.mem_cons, List.not_mem_nil, or_false] at hx
  rcases hx with e | e | e | e | e | e <;> subst e
  · exact h1 rfl
  · exact h2 rfl
  · exact h3 rfl
  · exact h4 rfl
  · exact h5 rfl
  · exact h6 rfl

theorem consumeCharacterClassEscape_wb (n : Nat) (r : List Nat) (s : St) (h : BAt src K r s) :
    Wp (consumeCharacterClassEscape n s) (fun b s1 => KeepN s s1 ∧
      if b = true then ∃ r1, BAt src K r1 s1 ∧ RxSpecB.CharacterClassEscape r r1 ∧ s1.lastIntValue = -1
      else BAt src K r s1 ∧ ¬∃ r', RxSpecB.CharacterClassEscape r r') := by
  refine (consumeCharacterClassEscape_wcb n r s h).wp.mono fun b s1 ⟨k, hb⟩ => ⟨k, ?_⟩
  cases b
  · obtain ⟨rfl, hn⟩ := (if_neg Bool.false_ne_true).mp hb
    exact (if_neg Bool.false_ne_true).mpr ⟨h, hn⟩
  · exact hb

theorem decimalEscape_unique {i r r' : List Nat} {v v' : Nat} (h : DecimalEscape i r v) (h' : DecimalEscape i r' v') :
    r = r' ∧ v = v' := by
  obtain ⟨ds, e, _, hds, hstop, hv⟩ := h
  obtain ⟨ds', e', _, hds', hstop', hv'⟩ := h'
  rw [e] at e'
  obtain ⟨e1, e2⟩ := run_unique e' hds hds' hstop hstop'
  subst e1 e2
  exact ⟨rfl, by rw [hv, hv']⟩

theorem consumeBackreference_wb (hN : K.2 < 2 ^ 62) (n : Nat) (r : List Nat) (s : St) (h : BAt src K r s) :
    Wp (consumeBackreference n s) (fun b s1 => Keep s s1 ∧
      if b = true then ∃ r1, BAt src K r1 s1 ∧ RxSpecB.AtomEscape K.1 K.2 r r1 Attr.nil
      else BAt src K r s1 ∧ ¬∃ r' v', DecimalEscape r r' v' ∧ v' ≤ K.2) := by
  unfold consumeBackreference
  rx6_auto
  · rx6_falsen
    rename_i hno
    rintro ⟨r', v', ⟨ds, e, ⟨d, ds', e2, hnz⟩, _⟩, _⟩
    subst e e2
    exact hno d rfl hnz
  · rx6_falsen
    rename_i s1 hk r1 v hat hde hv hn _
    rintro ⟨r', v', hde', hle⟩
    obtain ⟨_, e⟩ := decimalEscape_unique hde hde'
    subst e
    apply hn
    rw [hv, hat.ncp]
    have : satI v ≤ (v : Int) := by unfold satI; split <;> omega
    omega
  · rename_i s1 hk r1 v hat hde hv hle
    rx6_true
    rw [hv, hat.ncp] at hle
    exact ⟨r1, hat, RxSpecB.AtomEscape.decimal r r1 v hde (le_of_satI_le (N := K.2) hN hle)⟩

theorem consumeKGroupName_wb (n : Nat) (r : List Nat) (s : St) (h : BAt src K r s) :
    Wp (consumeKGroupName n s) (fun b s1 =>
      if b = true then ∃ r1 a, BAt src K r1 s1 ∧ (K.1 = true → RxSpecB.AtomEscape K.1 K.2 r r1 a) ∧ Track s s1 a
      else BAt src K r s1 ∧ KeepN s s1) := by
  unfold consumeKGroupName
  rx6_auto
  · rename_i m hat0 s1 hk r1 nm hat1 hgn hstr
    rw [if_pos rfl]
    refine ⟨r1, ⟨[], [nm]⟩, by rx6_at, fun hnf => RxSpecB.AtomEscape.named m r1 nm hnf hgn, ?_⟩
    refine ⟨?_, fun hn => ?_, fun x hx => ?_, fun x hx => ?_⟩
    · show s1.groupNames = s.groupNames ++ []
      rw [hk.gn, List.append_nil]; rfl
    · show s1.groupNames.Nodup
      rw [hk.gn]; exact hn
    · show x ∈ (if s1.backreferenceNames.contains s1.lastStrValue then s1.backreferenceNames
        else s1.backreferenceNames ++ [s1.lastStrValue])
      have hx' : x ∈ s1.backreferenceNames := by rw [hk.bn]; exact hx
      split
      · exact hx'
      · exact List.mem_append_left _ hx'
    · show x ∈ (if s1.backreferenceNames.contains s1.lastStrValue then s1.backreferenceNames
        else s1.backreferenceNames ++ [s1.lastStrValue])
      have hxn : x = nm := by simpa using hx
      subst hxn
      rw [hstr]
      split
      · rename_i hc; exact List.contains_iff_mem.mp hc
      · exact List.mem_append_right _ (List.mem_singleton.mpr rfl)
  · rw [if_neg (by decide)]
    exact ⟨h, KeepN.refl s⟩

theorem consumeGroupSpecifier_wb (n : Nat) (r : List Nat) (s : St) (h : BAt src K r s) :
    Wp (consumeGroupSpecifier n s) (fun b s1 =>
      if b = true then ∃ r1 nm, BAt src K r1 s1 ∧ RxSpecB.GroupSpecifier r r1 (some nm) ∧ Track s s1 ⟨[some nm], []⟩
      else BAt src K r s1 ∧ KeepN s s1) := by
  unfold consumeGroupSpecifier
  rx6_auto
  · rename_i m hat0 s1 hk r1 nm hat1 hgn hstr hc
    rw [if_pos rfl]
    refine ⟨r1, nm, by rx6_at, RxSpecB.GroupSpecifier.named m r1 nm hgn, ?_⟩
    have hnc : ¬ nm ∈ s1.groupNames := by
      intro hm
      rw [← hstr] at hm
      have : s1.groupNames.contains s1.lastStrValue = true := List.contains_iff_mem.mpr hm
      rw [this] at hc; cases hc
    refine ⟨?_, fun hn => ?_, fun x hx => ?_, fun x hx => nomatch hx⟩
    · show s1.groupNames ++ [s1.lastStrValue] = s.groupNames ++ [nm]
      rw [hk.gn, hstr]; rfl
    · show (s1.groupNames ++ [s1.lastStrValue]).Nodup
      rw [hstr]
      refine List.nodup_append.mpr ⟨by rw [hk.gn]; exact hn, (List.nodup_cons.mpr ⟨List.not_mem_nil, List.nodup_nil⟩), ?_⟩
      intro a ha b hb
      have : b = nm := by simpa using hb
      subst this
      intro hab; subst hab; exact hnc ha
    · show x ∈ s1.backreferenceNames
      rw [hk.bn]; exact hx
  · rw [if_neg (by decide)]
    exact ⟨h, KeepN.refl s⟩

theorem consumeAtomEscape_wb (hN : K.2 < 2 ^ 62) (hsrc : ∀ x ∈ src, x ≤ 0xFFFF) (n : Nat) (r : List Nat) (s : St)
    (h : BAt src K r s) :
    Wp (consumeAtomEscape n s) (fun b s1 =>
      if b = true then ∃ r1 a, BAt src K r1 s1 ∧ RxSpecB.AtomEscape K.1 K.2 r r1 a ∧ Track s s1 a
      else BAt src K r s1 ∧ KeepN s s1 ∧ ¬∃ r1 v, RxSpecB.CharacterEscape K.1 r r1 v) := by
  unfold consumeAtomEscape
  rx6_auto
  · rw [if_neg (by decide)]
    exact ⟨‹BAt src K r _›, by rx6_keep, ‹¬∃ r1 v, RxSpecB.CharacterEscape K.1 r r1 v›⟩
  · rw [if_neg (by decide)]
    exact ⟨‹BAt src K r _›, by rx6_keep, ‹¬∃ r1 v, RxSpecB.CharacterEscape K.1 r r1 v›⟩
  · rename_i s1 hk1 hat1 hnd s2 hk2 hat2 hnc s3 hk3 hat3 hnce hnf s4 r1 a hat4 hae htr
    rw [if_pos rfl]
    have hk : KeepN s s3 := (hk1.toN.trans hk2).trans hk3.toN
    exact ⟨r1, a, hat4, hae (hat3.nFlag'.symm.trans hnf), Track.pre hk htr⟩
  · rw [if_pos rfl]
    exact ⟨_, _, ‹BAt src K _ _›, RxSpecB.AtomEscape.character _ _ _ ‹RxSpecB.CharacterEscape K.1 r _ _›
      ‹¬∃ r' v', DecimalEscape r r' v' ∧ v' ≤ K.2› ‹¬∃ r', RxSpecB.CharacterClassEscape r r'›, Track.ofKeepN (by rx6_keep)⟩
  · rw [if_pos rfl]
    exact ⟨_, _, ‹BAt src K _ _›, RxSpecB.AtomEscape.characterClass _ _ ‹RxSpecB.CharacterClassEscape r _›, Track.ofKeepN (by rx6_keep)⟩
  · rw [if_pos rfl]
    exact ⟨_, _, ‹BAt src K _ _›, ‹RxSpecB.AtomEscape K.1 K.2 r _ Attr.nil›, Track.ofKeepN (by rx6_keep)⟩

end DL.Rx
