import DL.Lemmas.RxCompTac

/-! # Completeness: `CharacterEscape` (u-mode) -/
namespace DL.Rx
open DL.RxSpec

attribute [local irreducible] isScalar
variable {src : List Nat} {N : Nat}

theorem ne_of_head_ne {x y : Nat} {m : List Nat} (h : (x :: m).head? ≠ some y) : x ≠ y := by
  intro he; exact h (by rw [he]; rfl)

/-- the `ControlEscape` letters and their values -/
def ctlVal (x : Nat) : Option Nat :=
  if x = ch 'f' then some 12 else if x = ch 'n' then some 10 else if x = ch 'r' then some 13
  else if x = ch 't' then some 9 else if x = ch 'v' then some 11 else none

theorem ctlVal_none {x : Nat} (h1 : x ≠ ch 'f') (h2 : x ≠ ch 'n') (h3 : x ≠ ch 'r') (h4 : x ≠ ch 't') (h5 : x ≠ ch 'v') :
    ctlVal x = none := by
  unfold ctlVal; rw [if_neg h1, if_neg h2, if_neg h3, if_neg h4, if_neg h5]

theorem eatControlEscape_wc (x : Nat) (r1 : List Nat) (v : Nat) (s : St) (h : UAt src N (x :: r1) s)
    (hx : ctlVal x = some v) :
    Wc (eatControlEscape s) (fun b s1 => b = true ∧ UAt src N r1 s1 ∧ s1.lastIntValue = (v : Nat) ∧ Keep s s1) := by
  unfold eatControlEscape
  rx5_auto
  case f =>
    rename_i h1 h2 h3 h4 h5
    rw [ctlVal_none (ne_of_head_ne h1) (ne_of_head_ne h2) (ne_of_head_ne h3) (ne_of_head_ne h4) (ne_of_head_ne h5)] at hx
    cases hx
  all_goals rx5_fin
  all_goals (cases hx; rfl)

theorem eatControlEscape_wcn (r : List Nat) (s : St) (h : UAt src N r s) (hn : r.head?.bind ctlVal = none) :
    Wc (eatControlEscape s) (fun b s1 => b = false ∧ s1 = s) := by
  unfold eatControlEscape
  rx5_auto
  all_goals (first | (cases hn; done) | exact ⟨rfl, rfl⟩)

theorem eatControlLetter_wc (l : Nat) (r1 : List Nat) (s : St) (h : UAt src N (l :: r1) s) (hl : ControlLetter l) :
    Wc (eatControlLetter s) (fun b s1 => b = true ∧ UAt src N r1 s1 ∧ s1.lastIntValue = ((l % 32 : Nat) : Int) ∧ Keep s s1) := by
  unfold eatControlLetter
  rx5_auto
  case neg => rename_i hn; exact absurd (isAsciiAlphabetic_of_controlLetter hl) hn
  rx5_fin

theorem eatCControlLetter_wc (l : Nat) (r1 : List Nat) (s : St) (h : UAt src N (ch 'c' :: l :: r1) s)
    (hl : ControlLetter l) :
    Wc (eatCControlLetter s) (fun b s1 => b = true ∧ UAt src N r1 s1 ∧ s1.lastIntValue = ((l % 32 : Nat) : Int) ∧ Keep s s1) := by
  unfold eatCControlLetter
  rx5_auto
  rx5_fin

theorem eatCControlLetter_wcn (r : List Nat) (s : St) (h : UAt src N r s) (hn : r.head? ≠ some (ch 'c')) :
    Wc (eatCControlLetter s) (fun b s1 => b = false ∧ s1 = s) := by
  unfold eatCControlLetter
  rx5_auto
  all_goals first | exact absurd rfl hn | exact ⟨rfl, rfl⟩

theorem isAsciiDigit_decimalDigit {d : Nat} (h : isAsciiDigit d = true) : DecimalDigit d :=
  decimalDigit_of_isAsciiDigit h

theorem eatZero_wc (r1 : List Nat) (s : St) (h : UAt src N (ch '0' :: r1) s)
    (hnd : ∀ d, r1.head? = some d → ¬DecimalDigit d) :
    Wc (eatZero s) (fun b s1 => b = true ∧ UAt src N r1 s1 ∧ s1.lastIntValue = 0 ∧ Keep s s1) := by
  unfold eatZero
  rx5_auto
  case pos =>
    rename_i hc
    exfalso
    cases r1 with
    | nil => cases hc
    | cons y r2 => exact hnd y rfl (isAsciiDigit_decimalDigit hc)
  rx5_fin

theorem eatZero_wcn (r : List Nat) (s : St) (h : UAt src N r s) (hn : r.head? ≠ some (ch '0')) :
    Wc (eatZero s) (fun b s1 => b = false ∧ s1 = s) := by
  unfold eatZero
  rx5_auto
  all_goals (try exact ⟨rfl, rfl⟩)
  rename_i x r' hx _ _
  exfalso; apply hn
  have : x = ch '0' := by simpa using hx
  rw [this]; rfl

theorem eatFixedHexDigits_wc (k : Nat) (hk : k ≤ 15) (ds r1 : List Nat) (s : St) (h : UAt src N (ds ++ r1) s)
    (hlen : ds.length = k) (hds : ∀ d ∈ ds, HexDigit d) :
    Wc (eatFixedHexDigits k s) (fun b s1 => b = true ∧ UAt src N r1 s1 ∧ s1.lastIntValue = (mvHex ds : Nat) ∧ Keep s s1) := by
  refine (Wc.of_wp (eatFixedHexDigits_wp k hk _ s h) (NE.eatFixedHexDigits k)).mono ?_
  rintro b s1 ⟨hk1, hb⟩
  cases b
  · rw [if_neg (by decide)] at hb
    exact absurd ⟨ds, r1, rfl, hlen, hds⟩ hb.2
  · rw [if_pos rfl] at hb
    obtain ⟨ds', r1', he, hl', _, hat, hv⟩ := hb
    obtain ⟨h1, h2⟩ := List.append_inj he (by omega)
    subst h1 h2
    exact ⟨rfl, hat, hv, hk1⟩

theorem eatFixedHexDigits_wcn (k : Nat) (hk : k ≤ 15) (r : List Nat) (s : St) (h : UAt src N r s)
    (hn : ¬∃ ds r1, r = ds ++ r1 ∧ ds.length = k ∧ ∀ d ∈ ds, HexDigit d) :
    Wc (eatFixedHexDigits k s) (fun b s1 => b = false ∧ UAt src N r s1 ∧ Keep s s1) := by
  refine (Wc.of_wp (eatFixedHexDigits_wp k hk _ s h) (NE.eatFixedHexDigits k)).mono ?_
  rintro b s1 ⟨hk1, hb⟩
  cases b
  · rw [if_neg (by decide)] at hb
    exact ⟨rfl, hb.1, hk1⟩
  · rw [if_pos rfl] at hb
    obtain ⟨ds', r1', he, hl', hd', _⟩ := hb
    exact absurd ⟨ds', r1', he, hl', hd'⟩ hn

theorem eatHexEscapeSequence_wc (a b : Nat) (r1 : List Nat) (s : St) (h : UAt src N (ch 'x' :: a :: b :: r1) s)
    (ha : HexDigit a) (hb : HexDigit b) :
    Wc (eatHexEscapeSequence s) (fun b' s1 => b' = true ∧ UAt src N r1 s1 ∧ s1.lastIntValue = (mvHex [a, b] : Nat) ∧ Keep s s1) := by
  have hfx := fun s h => eatFixedHexDigits_wc (src := src) (N := N) 2 (by decide) [a, b] r1 s h rfl
    (by intro d hd; simp at hd; rcases hd with rfl | rfl <;> assumption)
  unfold eatHexEscapeSequence
  rx5_auto
  rx5_fin

theorem eatHexEscapeSequence_wcn (r : List Nat) (s : St) (h : UAt src N r s) (hn : r.head? ≠ some (ch 'x')) :
    Wc (eatHexEscapeSequence s) (fun b s1 => b = false ∧ s1 = s) := by
  unfold eatHexEscapeSequence
  rx5_auto
  all_goals first | exact absurd rfl hn | exact ⟨rfl, rfl⟩

theorem eatIdentityEscape_wc (x : Nat) (r1 : List Nat) (s : St) (h : UAt src N (x :: r1) s)
    (hx : SyntaxCharacter x ∨ x = c '/') :
    Wc (eatIdentityEscape s) (fun b s1 => b = true ∧ UAt src N r1 s1 ∧ s1.lastIntValue = (x : Nat) ∧ Keep s s1) := by
  unfold eatIdentityEscape isValidIdentityEscape
  rx5_auto
  case neg =>
    rename_i hn
    exfalso; apply hn
    rcases hx with hx | hx
    · rw [(syntaxCharacter_iff x).mpr hx]; rfl
    · rw [hx]; rfl
  rx5_fin

theorem eatIdentityEscape_wcn (x : Nat) (m : List Nat) (s : St) (h : UAt src N (x :: m) s)
    (hx : ¬(SyntaxCharacter x ∨ x = c '/')) :
    Wc (eatIdentityEscape s) (fun b s1 => b = false ∧ s1 = s) := by
  unfold eatIdentityEscape isValidIdentityEscape
  rx5_auto
  case pos =>
    rename_i hc _
    exfalso; apply hx
    rcases Bool.or_eq_true _ _ |>.mp hc with h1 | h1
    · exact .inl ((syntaxCharacter_iff x).mp h1)
    · exact .inr (by simpa using h1)
  exact ⟨rfl, rfl⟩

end DL.Rx
