import DL.Lemmas.RxIndPattern

/-! # History independence: `validate_pattern` from two arbitrary states -/
namespace DL.Rx
attribute [local irreducible] isScalar
set_option linter.unusedSimpArgs false

/-- the state after the three assignments at the head of `validate_pattern` / `reset` / `rewind`:
mode flags and ALL reader fields are overwritten -/
def prep (source : List Nat) (uFlag : Bool) (s : St) : St :=
  { s with
    strict := uFlag, uFlag := uFlag && true, nFlag := uFlag && true,
    reader := { unicode := uFlag, src := source, index := 0,
                end_ := if uFlag then source.length else (encodeUtf16 source).length, cps := [] } }

/-- the rest of `validate_pattern` -/
def afterPrep (fuel : Nat) : M Unit := do
  rewindLoop 0 4 0
  consumePattern fuel
  let s ← getSt
  if !s.nFlag && true && !s.groupNames.isEmpty then
    modSt fun s => { s with nFlag := true }
    rewind 0
    consumePattern fuel

theorem validatePattern_eq (fuel : Nat) (source : List Nat) (uFlag : Bool) (st : St) :
    validatePattern fuel source uFlag st = afterPrep fuel (prep source uFlag st) := rfl

theorem I.afterPrep {c : Bool} (W : RegSet) (fuel : Nat) : Ind c W (afterPrep fuel) (fun _ => W) := by
  unfold DL.Rx.afterPrep; rx2_auto

theorem none_absurd {r : Reg} {p : Prop} (h : RegSet.none r = true) : p := by cases h

theorem prep_eqv (source : List Nat) (uFlag : Bool) (st st' : St) (h : st.overflowChecks = st'.overflowChecks) :
    Eqv st.overflowChecks RegSet.none (prep source uFlag st) (prep source uFlag st') :=
  ⟨rfl, h.symm, rfl, rfl, rfl, rfl, none_absurd, none_absurd, none_absurd, none_absurd, none_absurd, none_absurd,
    none_absurd, none_absurd, none_absurd, none_absurd⟩

/-- same outcome (constructor, value, message), and both final states keep the build-profile constant -/
def Sim (c : Bool) {α : Type} : Res α → Res α → Prop
  | .ok a s, .ok a' s' => a = a' ∧ Exit c s s'
  | .err m s, .err m' s' => m = m' ∧ Exit c s s'
  | .panic m s, .panic m' s' => m = m' ∧ Exit c s s'
  | .outOfFuel s, .outOfFuel s' => Exit c s s'
  | _, _ => False

theorem RelRes.sim {c : Bool} {α : Type} {Q : α → RegSet} {r r' : Res α} (h : RelRes c Q r r') : Sim c r r' := by
  cases r <;> cases r' <;> first | exact h.elim | exact h | exact ⟨h.1, h.2.oc, h.2.oc'⟩

theorem validatePattern_sim (fuel : Nat) (source : List Nat) (uFlag : Bool) (st st' : St)
    (h : st.overflowChecks = st'.overflowChecks) :
    Sim st.overflowChecks (validatePattern fuel source uFlag st) (validatePattern fuel source uFlag st') := by
  rw [validatePattern_eq, validatePattern_eq]
  exact (I.afterPrep RegSet.none fuel _ _ (prep_eqv source uFlag st st' h)).sim

end DL.Rx
