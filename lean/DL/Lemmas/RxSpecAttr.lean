import Lean
/-- normal forms of the symbolic validator states (`setPos`, `withInt`, `withStr` and their projections) -/
register_simp_attr st_simp
/-- the lemmas `NE.f`: the functions of the validator model that never answer `Err` -/
register_simp_attr rx_ne
