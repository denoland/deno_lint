import DL.Lemmas.RxAtLeaves

namespace DL.Rx
open DL.RxSpec

attribute [local irreducible] isScalar
variable {src : List Nat} {P : List Nat → St → Prop}

theorem eatFixedHexDigitsLoop_at (hP : AtLike src P) (start : Nat) (hle : start ≤ src.length) :
    ∀ (k j : Nat) (r : List Nat) (s : St) (a : Nat), P r s → s.lastIntValue = (a : Int) → a < 16 ^ j → j + k ≤ 15 →
      Wp (eatFixedHexDigitsLoop start k s) (fun b s1 => Keep s s1 ∧
        if b = true then ∃ ds r1, r = ds ++ r1 ∧ ds.length = k ∧ (∀ d ∈ ds, HexDigit d) ∧ P r1 s1 ∧
          s1.lastIntValue = (accHexN a ds : Nat)
        else P (src.drop start) s1 ∧ ¬∃ ds r1, r = ds ++ r1 ∧ ds.length = k ∧ ∀ d ∈ ds, HexDigit d)
  | 0, j, r, s, a, h, ha, haj, hjk => by
    unfold eatFixedHexDigitsLoop
    exact Wp.pure ⟨.refl s, (if_pos rfl).mpr ⟨[], r, rfl, rfl, forall_mem_nil, h, ha⟩⟩
  | k + 1, j, r, s, a, h, ha, haj, hjk => by
    unfold eatFixedHexDigitsLoop
    -- a failing answer: back to `start`
    have back : (¬∃ ds r1, r = ds ++ r1 ∧ ds.length = k + 1 ∧ ∀ d ∈ ds, HexDigit d) →
        Wp ((rewind start >>= fun _ => (pure false : M Bool)) s) (fun b s1 => Keep s s1 ∧
          if b = true then ∃ ds r1, r = ds ++ r1 ∧ ds.length = k + 1 ∧ (∀ d ∈ ds, HexDigit d) ∧ P r1 s1 ∧
            s1.lastIntValue = (accHexN a ds : Nat)
          else P (src.drop start) s1 ∧ ¬∃ ds r1, r = ds ++ r1 ∧ ds.length = k + 1 ∧ ∀ d ∈ ds, HexDigit d) :=
      fun hno => hP.bind_rewind' h hle fun h1 => Wp.pure ⟨⟨rfl, rfl, rfl⟩, (if_neg Bool.false_ne_true).mpr ⟨h1, hno⟩⟩
    refine hP.bind_cpo0 h (fun hr => ?_) (fun x r' hr => ?_) <;> subst hr
    · exact back fun ⟨ds, r1, hr, hlen, _⟩ => by cases ds <;> simp at hlen hr
    refine Wp.ite (fun hc => ?_) (fun hn => ?_)
    · refine back ?_
      rintro ⟨_ | ⟨y, ds'⟩, r1, hr, hlen, hds⟩
      · cases hlen
      · cases hr
        rw [isAsciiHexdigit_of_hexDigit (hds x List.mem_cons_self)] at hc; cases hc
    have hx : isAsciiHexdigit x = true := by simpa using hn
    have hhd := hexDigit_of_isAsciiHexdigit hx
    have hlt := hexVal_lt hhd
    have hpow : 16 ^ (j + 1) ≤ 16 ^ 15 := Nat.pow_le_pow_right (by decide) (by omega)
    have h15 : 16 ^ 15 = 1152921504606846976 := by decide
    have hnew : 16 * a + hexVal x < 16 ^ (j + 1) := by rw [Nat.pow_succ]; omega
    refine Wp.bind_unwrap fun d hd => ?_
    rw [toDigit16_eq hx] at hd
    cases hd
    refine Wp.bind_getSt (Wp.bind_checkedI64 (by rw [ha]; unfold i64Min i64Max; omega) (Wp.bind_setInt ?_))
    refine hP.bind_advance_cons (hP.withInt h _) fun h1 => ?_
    refine (eatFixedHexDigitsLoop_at hP start hle k (j + 1) _ _ (16 * a + hexVal x) h1 (by st_norm; rw [ha]; omega) hnew
      (by omega)).mono fun b s1 ⟨hk, hb⟩ => ⟨⟨hk.gn, hk.bn, hk.str⟩, ?_⟩
    cases b
    · obtain ⟨h2, hno⟩ := (if_neg Bool.false_ne_true).mp hb
      refine (if_neg Bool.false_ne_true).mpr ⟨h2, ?_⟩
      rintro ⟨_ | ⟨y, ds'⟩, r1, hr, hlen, hds⟩
      · cases hlen
      · cases hr
        exact hno ⟨ds', r1, rfl, by simpa using hlen, fun d hd => hds d (List.mem_cons_of_mem _ hd)⟩
    · obtain ⟨ds, r1, rfl, hlen, hds, h2, hv⟩ := (if_pos rfl).mp hb
      exact (if_pos rfl).mpr ⟨x :: ds, r1, rfl, by rw [List.length_cons, hlen],
        List.forall_mem_cons.mpr ⟨hhd, hds⟩, h2, by rw [hv, accHexN_cons]⟩

/-- `eat_fixed_hex_digits(k)`: exactly `k` hexadecimal digits, or nothing -/
theorem eatFixedHexDigits_at (hP : AtLike src P) (k : Nat) (hk : k ≤ 15) (r : List Nat) (s : St) (h : P r s) :
    Wp (eatFixedHexDigits k s) (fun b s1 => Keep s s1 ∧
      if b = true then ∃ ds r1, r = ds ++ r1 ∧ ds.length = k ∧ (∀ d ∈ ds, HexDigit d) ∧ P r1 s1 ∧
        s1.lastIntValue = (mvHex ds : Nat)
      else P r s1 ∧ ¬∃ ds r1, r = ds ++ r1 ∧ ds.length = k ∧ ∀ d ∈ ds, HexDigit d) := by
  unfold eatFixedHexDigits
  refine Wp.bind_index (Wp.bind_setInt ?_)
  refine (eatFixedHexDigitsLoop_at hP s.reader.index (hP.rat h).inv.le k 0 r _ 0 (hP.withInt h 0) rfl (by decide)
    (by omega)).mono fun b s1 ⟨k1, hb⟩ => ⟨⟨k1.gn, k1.bn, k1.str⟩, ?_⟩
  cases b
  · rw [(hP.rat h).rest] at hb; exact hb
  · exact hb

theorem eatFixedHexDigits_atc (hP : AtLike src P) (k : Nat) (hk : k ≤ 15) (ds r1 : List Nat) (s : St)
    (h : P (ds ++ r1) s) (hlen : ds.length = k) (hds : ∀ d ∈ ds, HexDigit d) :
    Wc (eatFixedHexDigits k s) (fun b s1 => b = true ∧ P r1 s1 ∧ s1.lastIntValue = (mvHex ds : Nat) ∧ Keep s s1) := by
  refine (Wc.of_wp (eatFixedHexDigits_at hP k hk _ s h) (NE.eatFixedHexDigits k)).mono fun b s1 ⟨k1, hb⟩ => ?_
  cases b
  · exact absurd ⟨ds, r1, rfl, hlen, hds⟩ ((if_neg Bool.false_ne_true).mp hb).2
  · obtain ⟨ds', r1', he, hl', _, h1, hv⟩ := (if_pos rfl).mp hb
    obtain ⟨rfl, rfl⟩ := List.append_inj he (by omega)
    exact ⟨rfl, h1, hv, k1⟩

theorem eatFixedHexDigits_atcn (hP : AtLike src P) (k : Nat) (hk : k ≤ 15) (r : List Nat) (s : St) (h : P r s)
    (hn : ¬∃ ds r1, r = ds ++ r1 ∧ ds.length = k ∧ ∀ d ∈ ds, HexDigit d) :
    Wc (eatFixedHexDigits k s) (fun b s1 => b = false ∧ P r s1 ∧ Keep s s1) := by
  refine (Wc.of_wp (eatFixedHexDigits_at hP k hk _ s h) (NE.eatFixedHexDigits k)).mono fun b s1 ⟨k1, hb⟩ => ?_
  cases b
  · exact ⟨rfl, ((if_neg Bool.false_ne_true).mp hb).1, k1⟩
  · obtain ⟨ds', r1', he, hl', hd', _⟩ := (if_pos rfl).mp hb
    exact absurd ⟨ds', r1', he, hl', hd'⟩ hn

/-- what `eat_regexp_unicode_surrogate_pair_escape` establishes -/
abbrev PairRead (P : List Nat → St → Prop) (r : List Nat) (s : St) (b : Bool) (s1 : St) : Prop :=
  Keep s s1 ∧
    if b = true then ∃ r1 lead trail, PairText r r1 lead trail ∧ P r1 s1 ∧
      s1.lastIntValue = (((lead - 0xD800) * 0x400 + (trail - 0xDC00) + 0x10000 : Nat) : Int)
    else P r s1 ∧ ¬∃ r1 lead trail, PairText r r1 lead trail

theorem eatRegexpUnicodeSurrogatePairEscape_at (hP : AtLike src P) (r : List Nat) (s : St) (h : P r s) :
    Wp (eatRegexpUnicodeSurrogatePairEscape s) (PairRead P r s) := by
  unfold eatRegexpUnicodeSurrogatePairEscape
  refine Wp.bind_index (Wp.call (eatFixedHexDigits_at hP 4 (by decide) r s h) fun b s1 ⟨k1, hb⟩ => ?_)
  cases b
  · obtain ⟨h1, hno⟩ := (if_neg Bool.false_ne_true).mp hb
    refine Wp.pure ⟨k1, (if_neg Bool.false_ne_true).mpr ⟨h1, ?_⟩⟩
    rintro ⟨r1, lead, trail, ds1, ds2, hr', l1, l2, hd1, hd2, -⟩
    exact hno ⟨ds1, _, hr', l1, hd1⟩
  obtain ⟨w, m, rfl, hw, hdw, h1, hv1⟩ := (if_pos rfl).mp hb
  -- whatever fails from here on: back to the start, and the text is no pair
  have back : ∀ {r2 : List Nat} {s2 : St}, P r2 s2 → Keep s s2 → (¬∃ r1 lead trail, PairText (w ++ m) r1 lead trail) →
      Wp ((rewind s.reader.index >>= fun _ => (pure false : M Bool)) s2) (PairRead P (w ++ m) s) :=
    fun h2 k2 hno => hP.bind_rewind h2 h fun h3 =>
      Wp.pure ⟨⟨k2.gn, k2.bn, k2.str⟩, (if_neg Bool.false_ne_true).mpr ⟨h3, hno⟩⟩
  -- what a pair looks like behind the four digits `w`
  have split : ∀ {r1 lead trail}, PairText (w ++ m) r1 lead trail → ∃ ds2, m = ch '\\' :: ch 'u' :: (ds2 ++ r1) ∧
      ds2.length = 4 ∧ (∀ d ∈ ds2, HexDigit d) ∧ lead = mvHex w ∧ trail = mvHex ds2 ∧ isLead lead ∧ isTrail trail :=
    fun hp => by
      obtain ⟨ds2, hrest, l2, -, hd2, hl, ht, hL, hT⟩ := pair_split rfl hw hp
      exact ⟨ds2, hrest, l2, hd2, hl, ht, hL, hT⟩
  refine Wp.bind_getSt (Wp.bind_assoc (Wp.bind_andM (Wp.bind_pure (Wp.ite (fun hL => ?_) fun hL => back h1 k1 ?_))))
  rotate_left
  · rintro ⟨r1, lead, trail, hp⟩
    obtain ⟨ds2, -, -, -, hl, -, hLd, -⟩ := split hp
    rw [hv1, isLeadSurrogate_iff, ← hl] at hL
    exact hL hLd
  rw [hv1, isLeadSurrogate_iff] at hL
  refine Wp.bind_andM (hP.bind_eat h1 (fun m1 e1 h2 => ?_) fun hne => back h1 k1 ?_)
  rotate_left
  · rintro ⟨r1, lead, trail, hp⟩
    obtain ⟨ds2, e, -⟩ := split hp
    exact hne (e ▸ rfl)
  subst e1
  refine Wp.bind_andM (hP.bind_eat h2 (fun m2 e2 h3 => ?_) fun hne => back h2 ⟨k1.gn, k1.bn, k1.str⟩ ?_)
  rotate_left
  · rintro ⟨r1, lead, trail, hp⟩
    obtain ⟨ds2, e, -⟩ := split hp
    exact hne ((List.cons.inj e).2 ▸ rfl)
  subst e2
  refine Wp.call (eatFixedHexDigits_at hP 4 (by decide) m2 _ h3) fun b s2 ⟨k2, hb2⟩ => ?_
  have k2 : Keep s s2 := ⟨k2.gn.trans k1.gn, k2.bn.trans k1.bn, k2.str.trans k1.str⟩
  cases b
  · obtain ⟨h4, hno⟩ := (if_neg Bool.false_ne_true).mp hb2
    refine back h4 k2 ?_
    rintro ⟨r1, lead, trail, hp⟩
    obtain ⟨ds2, e, l2, hd2, -⟩ := split hp
    exact hno ⟨ds2, r1, (List.cons.inj (List.cons.inj e).2).2, l2, hd2⟩
  obtain ⟨w2, r1, rfl, hw2, hdw2, h4, hv2⟩ := (if_pos rfl).mp hb2
  refine Wp.bind_ite (fun _ => ?_) fun hn => absurd rfl hn
  refine Wp.bind_assoc (Wp.bind_getSt (Wp.bind_ite (fun hT => ?_) fun hT => back h4 k2 ?_))
  rotate_left
  · rintro ⟨r1', lead, trail, hp⟩
    obtain ⟨ds2, e, l2, -, -, ht, -, hTd⟩ := split hp
    obtain ⟨rfl, -⟩ := List.append_inj (List.cons.inj (List.cons.inj e).2).2 (by omega)
    rw [hv2, isTrailSurrogate_iff, ← ht] at hT
    exact hT hTd
  rw [hv2, isTrailSurrogate_iff] at hT
  refine Wp.bind_assoc (Wp.bind_setInt (Wp.pure ⟨⟨k2.gn, k2.bn, k2.str⟩, (if_pos rfl).mpr ?_⟩))
  refine ⟨r1, mvHex w, mvHex w2, ⟨w, w2, rfl, hw, hw2, hdw, hdw2, rfl, rfl, hL, hT⟩, hP.withInt h4 _, ?_⟩
  show combineSurrogatePair s1.lastIntValue s2.lastIntValue = _
  rw [hv1, hv2, combine_eq hL hT]

theorem eatRegexpUnicodeSurrogatePairEscape_atc (hP : AtLike src P) (r r1 : List Nat) (l t : Nat) (s : St) (h : P r s)
    (hp : PairText r r1 l t) :
    Wc (eatRegexpUnicodeSurrogatePairEscape s) (fun b s1 => b = true ∧ P r1 s1 ∧
      s1.lastIntValue = (((l - 0xD800) * 0x400 + (t - 0xDC00) + 0x10000 : Nat) : Int) ∧ Keep s s1) := by
  refine (Wc.of_wp (eatRegexpUnicodeSurrogatePairEscape_at hP r s h) NE.eatRegexpUnicodeSurrogatePairEscape).mono
    fun b s1 ⟨k1, hb⟩ => ?_
  cases b
  · exact absurd ⟨r1, l, t, hp⟩ ((if_neg Bool.false_ne_true).mp hb).2
  · obtain ⟨r1', l', t', hp', h1, hv⟩ := (if_pos rfl).mp hb
    obtain ⟨rfl, rfl, rfl⟩ := pairText_unique hp hp'
    exact ⟨rfl, h1, hv, k1⟩

theorem eatRegexpUnicodeSurrogatePairEscape_atcn (hP : AtLike src P) (r : List Nat) (s : St) (h : P r s)
    (hn : ¬∃ r1 l t, PairText r r1 l t) :
    Wc (eatRegexpUnicodeSurrogatePairEscape s) (fun b s1 => b = false ∧ P r s1 ∧ Keep s s1) := by
  refine (Wc.of_wp (eatRegexpUnicodeSurrogatePairEscape_at hP r s h) NE.eatRegexpUnicodeSurrogatePairEscape).mono
    fun b s1 ⟨k1, hb⟩ => ?_
  cases b
  · exact ⟨rfl, ((if_neg Bool.false_ne_true).mp hb).1, k1⟩
  · obtain ⟨r1', l', t', hp', -⟩ := (if_pos rfl).mp hb
    exact absurd ⟨r1', l', t', hp'⟩ hn

end DL.Rx
