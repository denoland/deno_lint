import DL.Lemmas.CFExecReach
import DL.Lemmas.CFInner

/-! Whole programs: a program point is reached from the program start, or from the entry of a function body occurring in
the program.  `Program.reachable` is sound for this unconditionally (`InnerOf`: every function body listed by
`getters` is an entry of `inner`) and complete on the fragment (`InnerFrom`: `inner` has no other entries there). -/
namespace DL.CF

/-- a program point is reached by some execution of the program or of one of its functions: from the start of the
program, or from the entry of a function body (`Program.getters`: every function scope with a body block, at any depth) -/
def Program.Reaches (prog : Program) (p : Nat) : Prop :=
  ReachesItems prog.items p ∨ ∃ g ∈ prog.getters, p = g.bodyP ∨ ReachesList g.body p

/-- "entering this function body reaches `p`", closed form -/
def Getter.reach (g : Getter) (p : Nat) : Bool := p == g.bodyP || g.body.reach p

/-- the function bodies in a piece of syntax are entries of `inner` (unconditional) -/
def InnerOf (gs : List Getter) (inn : Nat → Bool) : Prop := ∀ g ∈ gs, ∀ p, g.reach p = true → inn p = true

theorem InnerOf.nil (inn : Nat → Bool) : InnerOf [] inn := fun _ h => absurd h (by simp)
theorem InnerOf.self (g : Getter) : InnerOf [g] g.reach := fun _ hg p hp => by cases List.mem_singleton.mp hg; exact hp
theorem InnerOf.append {g1 g2 : List Getter} {i1 i2 : Nat → Bool} (h1 : InnerOf g1 i1) (h2 : InnerOf g2 i2) :
    InnerOf (g1 ++ g2) (fun p => i1 p || i2 p) := by
  intro g hg p hp
  rcases List.mem_append.mp hg with h | h
  · simp [h1 g h p hp]
  · simp [h2 g h p hp]
theorem InnerOf.append3 {g1 g2 g3 : List Getter} {i1 i2 i3 : Nat → Bool} (h1 : InnerOf g1 i1) (h2 : InnerOf g2 i2)
    (h3 : InnerOf g3 i3) : InnerOf (g1 ++ (g2 ++ g3)) (fun p => i1 p || i2 p || i3 p) :=
  fun g hg p hp => (Bool.or_assoc ..).trans (h1.append (h2.append h3) g hg p hp)
theorem InnerOf.mono {gs : List Getter} {i1 i2 : Nat → Bool} (h : InnerOf gs i1) (hi : ∀ p, i1 p = true → i2 p = true) :
    InnerOf gs i2 := fun g hg p hp => hi p (h g hg p hp)

theorem Kids.fnBodies_entry (q : Nat) : ∀ (ks : Kids), InnerOf (ks.fnBodies q) ks.entryReach
  | .nil => .nil _
  | .cons k r => by
    cases k with
    | block b body => exact (InnerOf.self ⟨q, b, body⟩).append (Kids.fnBodies_entry q r)
    | _ => exact Kids.fnBodies_entry q r

mutual
theorem Stmt.getters_inner : ∀ (s : Stmt), InnerOf s.getters s.inner
  | .simple _ _ kids => Kids.getters_inner kids
  | .block _ b => Stmts.getters_inner b
  | .ifS _ t c none => (Kids.getters_inner t).append (Stmt.getters_inner c)
  | .ifS _ t c (some a) => .append3 (Kids.getters_inner t) (Stmt.getters_inner c) (Stmt.getters_inner a)
  | .whileS _ t _ b => (Kids.getters_inner t).append (Stmt.getters_inner b)
  | .doWhileS _ b t _ => (Kids.getters_inner t).append (Stmt.getters_inner b)
  | .forS _ i u t _ _ b =>
    (InnerOf.append3 (Kids.getters_inner i) (Kids.getters_inner u) (Kids.getters_inner t)).append (Stmt.getters_inner b)
  | .forInOf _ l r b => ((Kids.getters_inner l).append (Kids.getters_inner r)).append (Stmt.getters_inner b)
  | .switchS _ d cs => (Kids.getters_inner d).append (Cases.getters_inner cs)
  | .tryS _ _ b _ _ ck _ _ f => .append3 (Stmts.getters_inner b) (Kids.getters_inner ck) (Stmts.getters_inner f)
  | .labeled _ _ b => Stmt.getters_inner b
  | .brk _ _ => .nil _
  | .cont _ _ => .nil _
  | .ret _ a => Kids.getters_inner a
  | .throw _ a => Kids.getters_inner a
theorem Stmts.getters_inner : ∀ (l : Stmts), InnerOf l.getters l.inner
  | .nil => .nil _
  | .cons s r => (Stmt.getters_inner s).append (Stmts.getters_inner r)
theorem Kid.getters_inner : ∀ (k : Kid), InnerOf k.getters k.inner
  | .expr _ ks => Kids.getters_inner ks
  | .fnScope q ks =>
    ((Kids.fnBodies_entry q ks).mono fun p h => (Bool.or_eq_true _ (ks.flowReach p)).mpr (.inl h)).append (Kids.getters_inner ks)
  | .block _ b => Stmts.getters_inner b
  | .stmt s => Stmt.getters_inner s
theorem Kids.getters_inner : ∀ (ks : Kids), InnerOf ks.getters ks.inner
  | .nil => .nil _
  | .cons k r => (Kid.getters_inner k).append (Kids.getters_inner r)
theorem Cases.getters_inner : ∀ (cs : Cases), InnerOf cs.getters cs.inner
  | .nil => .nil _
  | .cons _ _ t b r => .append3 (Kids.getters_inner t) (Stmts.getters_inner b) (Cases.getters_inner r)
end

theorem itemsGetters_inner : ∀ (items : List Item), InnerOf (itemsGetters items) (itemsInner items)
  | [] => .nil _
  | .stmt s :: r => (Stmt.getters_inner s).append (itemsGetters_inner r)
  | .decl k :: r => (Kids.getters_inner k).append (itemsGetters_inner r)

/-- **soundness of `Program.reachable`**, for the whole statement language -/
theorem Program.Reaches.sound {prog : Program} {p : Nat} (h : prog.Reaches p) : prog.reachable p = true := by
  unfold Program.reachable
  rcases h with h | ⟨g, hg, h⟩
  · simp [h.sound]
  · have : g.reach p = true := by
      simp only [Getter.reach, Bool.or_eq_true, beq_iff_eq]
      exact h.imp id (fun h => h.sound)
    simp [itemsGetters_inner prog.items g hg p this]

/-- on the fragment, `inner` only comes from the function bodies listed (whose statements are again in the fragment) -/
def InnerFrom (gs : List Getter) (inn : Nat → Bool) : Prop :=
  ∀ p, inn p = true → ∃ g ∈ gs, g.body.inF = true ∧ g.reach p = true

theorem InnerFrom.nil : InnerFrom [] fun _ => false := fun _ hp => by cases hp
theorem InnerFrom.append {g1 g2 : List Getter} {i1 i2 : Nat → Bool} (h1 : InnerFrom g1 i1) (h2 : InnerFrom g2 i2) :
    InnerFrom (g1 ++ g2) (fun p => i1 p || i2 p) := by
  intro p hp
  rcases (Bool.or_eq_true _ _).mp hp with h | h
  · obtain ⟨g, hg, hr⟩ := h1 p h; exact ⟨g, List.mem_append.mpr (Or.inl hg), hr⟩
  · obtain ⟨g, hg, hr⟩ := h2 p h; exact ⟨g, List.mem_append.mpr (Or.inr hg), hr⟩
theorem InnerFrom.append3 {g1 g2 g3 : List Getter} {i1 i2 i3 : Nat → Bool} (h1 : InnerFrom g1 i1) (h2 : InnerFrom g2 i2)
    (h3 : InnerFrom g3 i3) : InnerFrom (g1 ++ (g2 ++ g3)) (fun p => i1 p || i2 p || i3 p) :=
  fun p hp => h1.append (h2.append h3) p ((Bool.or_assoc ..).symm.trans hp)
/-- the same entries, listed in another order among more, for an `inner` that is pointwise the same -/
theorem InnerFrom.mono {gs gs' : List Getter} {i i' : Nat → Bool} (h : InnerFrom gs i) (hs : ∀ g, g ∈ gs → g ∈ gs')
    (hi : ∀ p, i' p = i p) : InnerFrom gs' i' :=
  fun p hp => by obtain ⟨g, hg, hr⟩ := h p (by rw [← hi]; exact hp); exact ⟨g, hs g hg, hr⟩

mutual
theorem Stmt.inner_complete : ∀ (s : Stmt), s.inF = true → InnerFrom s.getters s.inner
  | .simple _ _ kids, hf => Kids.inner_complete kids hf
  | .block _ b, hf => Stmts.inner_complete b hf
  | .ifS _ t c none, hf => by
    simp only [Stmt.inF, Bool.and_eq_true] at hf
    exact (Kids.inner_complete t hf.1.1).append (Stmt.inner_complete c hf.2)
  | .ifS _ t c (some a), hf => by
    simp only [Stmt.inF, Bool.and_eq_true] at hf
    exact .append3 (Kids.inner_complete t hf.1.1.1) (Stmt.inner_complete c hf.1.2) (Stmt.inner_complete a hf.2)
  | .whileS _ t _ b, hf => by
    simp only [Stmt.inF, Bool.and_eq_true] at hf
    exact (Kids.inner_complete t hf.1.1.1).append (Stmt.inner_complete b hf.2)
  | .doWhileS _ b t _, hf => by
    simp only [Stmt.inF, Bool.and_eq_true] at hf
    exact (Kids.inner_complete t hf.1.1).append (Stmt.inner_complete b hf.2)
  | .forS _ i u t _ _ b, hf => by
    simp only [Stmt.inF, Bool.and_eq_true] at hf
    exact (InnerFrom.append3 (Kids.inner_complete i hf.1.1.1.1) (Kids.inner_complete u hf.1.1.2.1)
      (Kids.inner_complete t hf.1.2.1.1)).append (Stmt.inner_complete b hf.2)
  | .forInOf _ l r b, hf => by
    simp only [Stmt.inF, Bool.and_eq_true] at hf
    exact ((Kids.inner_complete l hf.1.1.1).append (Kids.inner_complete r hf.1.2.1)).append (Stmt.inner_complete b hf.2)
  | .switchS _ d cs, hf => by
    simp only [Stmt.inF, Bool.and_eq_true] at hf
    exact (Kids.inner_complete d hf.1.1).append (Cases.inner_complete cs hf.2)
  | .tryS _ _ b _ _ ck _ _ f, hf => by
    simp only [Stmt.inF, Bool.and_eq_true] at hf
    exact .append3 (Stmts.inner_complete b hf.1.1.1.1) (Kids.inner_complete_catch ck hf.1.1.1.2) (Stmts.inner_complete f hf.1.1.2)
  | .labeled _ _ b, hf => Stmt.inner_complete b hf
  | .brk _ _, _ => .nil
  | .cont _ _, _ => .nil
  | .ret _ a, hf => by simp only [Stmt.inF, Bool.and_eq_true] at hf; exact Kids.inner_complete a hf.1
  | .throw _ a, hf => by simp only [Stmt.inF, Bool.and_eq_true] at hf; exact Kids.inner_complete a hf.1
theorem Stmts.inner_complete : ∀ (l : Stmts), l.inF = true → InnerFrom l.getters l.inner
  | .nil, _ => .nil
  | .cons s r, hf => by
    simp only [Stmts.inF, Bool.and_eq_true] at hf
    exact (Stmt.inner_complete s hf.1).append (Stmts.inner_complete r hf.2)
theorem Kid.inner_complete : ∀ (k : Kid), k.okF = true → InnerFrom k.getters k.inner
  | .expr _ ks, hf => Kids.inner_complete ks hf
  | .fnScope q ks, hf => Kids.inner_complete_fn q ks hf
  | .block _ b, hf => Stmts.inner_complete b hf
  | .stmt s, hf => Stmt.inner_complete s hf
theorem Kids.inner_complete : ∀ (ks : Kids), ks.okF = true → InnerFrom ks.getters ks.inner
  | .nil, _ => .nil
  | .cons k r, hf => by
    simp only [Kids.okF, Bool.and_eq_true] at hf
    exact (Kid.inner_complete k hf.1).append (Kids.inner_complete r hf.2)
/-- the kids of a function scope at `q`: its own body block, and the functions nested in parameters and body -/
theorem Kids.inner_complete_fn (q : Nat) : ∀ (ks : Kids), ks.okFn = true →
    InnerFrom (ks.fnBodies q ++ ks.getters) (fun p => ks.entryReach p || ks.flowReach p || ks.inner p)
  | .nil, _ => .nil
  | .cons (.block b body) .nil, hf => by
    have hf' : body.inF = true := by simpa [Kids.okFn, Kids.isNil] using hf
    intro p hp
    simp only [Kids.entryReach, Kids.flowReach, Kid.flowReach, Kids.inner, Kid.inner, Bool.or_false, Bool.and_false,
      Bool.or_self, Bool.or_eq_true] at hp
    rcases hp with hp | hp
    · exact ⟨⟨q, b, body⟩, by simp [Kids.fnBodies], hf', by simpa [Getter.reach] using hp⟩
    · obtain ⟨g, hg, hr⟩ := Stmts.inner_complete body hf' p hp
      exact ⟨g, by simp [Kids.getters, Kid.getters, hg], hr⟩
  | .cons (.block _ _) (.cons _ _), hf => by simp [Kids.okFn, Kids.isNil] at hf
  | .cons (.expr e ks') r, hf => by
    simp only [Kids.okFn, Bool.and_eq_true] at hf
    -- the parameter is pure: it completes normally and nothing in it is reached
    have hkn : (Kid.expr e ks').compl.n = true := by rw [Kid.compl_pure (.expr e ks') (by simpa [Kid.pure] using hf.1.2)]
    refine ((Kids.inner_complete ks' hf.1.1).append (Kids.inner_complete_fn q r hf.2)).mono ?_ ?_
    · intro g hg; simp only [Kids.fnBodies, Kids.getters, Kid.getters, List.mem_append] at hg ⊢
      rcases hg with h | h | h
      · exact Or.inr (Or.inl h)
      · exact Or.inl h
      · exact Or.inr (Or.inr h)
    · intro p
      simp only [Kids.entryReach, Kids.flowReach, Kid.flowReach, Kids.flowReach_pure ks' p hf.1.2, hkn, Kids.inner, Kid.inner,
        Bool.false_or, Bool.true_and]
      cases ks'.inner p <;> cases r.entryReach p <;> cases r.flowReach p <;> cases r.inner p <;> rfl
  | .cons (.fnScope q' ks') r, hf => by
    simp only [Kids.okFn, Bool.and_eq_true] at hf
    refine ((Kids.inner_complete_fn q' ks' hf.1).append (Kids.inner_complete_fn q r hf.2)).mono ?_ ?_
    · intro g hg; simp only [Kids.fnBodies, Kids.getters, Kid.getters, List.mem_append] at hg ⊢
      rcases hg with (h | h) | h | h
      · exact Or.inr (Or.inl (Or.inl h))
      · exact Or.inr (Or.inl (Or.inr h))
      · exact Or.inl h
      · exact Or.inr (Or.inr h)
    · intro p
      simp only [Kids.entryReach, Kids.flowReach, Kid.flowReach, Kids.inner, Kid.inner, Bool.false_or,
        show (Kid.fnScope q' ks').compl.n = true from rfl, Bool.true_and]
      cases ks'.entryReach p <;> cases ks'.flowReach p <;> cases ks'.inner p <;> cases r.entryReach p <;>
        cases r.flowReach p <;> cases r.inner p <;> rfl
  | .cons (.stmt _) _, hf => by cases hf
/-- the kids of a catch clause (same shape; the body block is not a function entry) -/
theorem Kids.inner_complete_catch : ∀ (ks : Kids), ks.okFn = true → InnerFrom ks.getters ks.inner
  | .nil, _ => .nil
  | .cons (.block b body) .nil, hf => by
    have hf' : body.inF = true := by simpa [Kids.okFn, Kids.isNil] using hf
    exact (Stmts.inner_complete body hf').append .nil
  | .cons (.block _ _) (.cons _ _), hf => by simp [Kids.okFn, Kids.isNil] at hf
  | .cons (.expr e ks') r, hf => by
    simp only [Kids.okFn, Bool.and_eq_true] at hf
    exact (Kids.inner_complete ks' hf.1.1).append (Kids.inner_complete_catch r hf.2)
  | .cons (.fnScope q' ks') r, hf => by
    simp only [Kids.okFn, Bool.and_eq_true] at hf
    exact (Kids.inner_complete_fn q' ks' hf.1).append (Kids.inner_complete_catch r hf.2)
  | .cons (.stmt _) _, hf => by cases hf
theorem Cases.inner_complete : ∀ (cs : Cases), cs.inF = true → InnerFrom cs.getters cs.inner
  | .nil, _ => .nil
  | .cons _ _ t b r, hf => by
    simp only [Cases.inF, Bool.and_eq_true] at hf
    exact .append3 (Kids.inner_complete t hf.1.1.1) (Stmts.inner_complete b hf.1.2) (Cases.inner_complete r hf.2)
end

theorem itemsInner_complete : ∀ (items : List Item), itemsInF items = true → InnerFrom (itemsGetters items) (itemsInner items)
  | [], _ => .nil
  | .stmt s :: r, hf => by
    simp only [itemsInF, Item.inF, Bool.and_eq_true] at hf
    exact (Stmt.inner_complete s hf.1).append (itemsInner_complete r hf.2)
  | .decl k :: r, hf => by
    simp only [itemsInF, Item.inF, Bool.and_eq_true] at hf
    exact (Kids.inner_complete k hf.1).append (itemsInner_complete r hf.2)

/-- **completeness of `Program.reachable`** on the fragment (the fragment is only needed for the entries of functions:
parameters are pure there) -/
theorem Program.Reaches.complete (prog : Program) (hf : itemsInF prog.items = true) (p : Nat)
    (h : prog.reachable p = true) : prog.Reaches p := by
  unfold Program.reachable at h
  rcases (Bool.or_eq_true _ _).mp h with h | h
  · exact Or.inl (itemsReach_complete prog.items p h)
  · obtain ⟨g, hg, _, hr⟩ := itemsInner_complete prog.items hf p h
    refine Or.inr ⟨g, hg, ?_⟩
    simp only [Getter.reach, Bool.or_eq_true, beq_iff_eq] at hr
    exact hr.imp id (fun h => Stmts.reach_complete g.body p h)

end DL.CF
