import DL.Lemmas.CFSound

/-! Soundness invariant, `try`/`catch`/`finally`: the two joins of `visit_try_stmt`, the handler and finalizer phases (each a
second part entered under a guard, in a child scope: `PostL.guarded`, `PostL.scope`), the statement. -/
namespace DL.CF

theorem tryCatchJoin_stops (te : Option End) (y : A) (h : stopsEnd (tryCatchJoin te true y).sc.end_ = true) :
    stopsEnd te = true ∧ stopsEnd y.sc.end_ = true := by
  unfold tryCatchJoin at h
  simp only [if_true] at h
  rcases hy : y.sc.end_ with _ | ⟨r2, t2, i2⟩ | _ | _ <;> rcases te with _ | ⟨r, t, i⟩ | _ | _ <;>
    simp only [hy] at h <;> (try cases r <;> cases t <;> cases i) <;> simp_all [A.setEnd]

theorem tryCatchJoin_false (te : Option End) (y : A) : (tryCatchJoin te false y).sc.end_ = te := by
  simp [tryCatchJoin]

theorem finallyJoin_stops (te : Option End) (w : A) (h : stopsEnd (finallyJoin te w).sc.end_ = true) :
    stopsEnd te = true ∨ stopsEnd w.sc.end_ = true := by
  unfold finallyJoin at h
  rcases hw : w.sc.end_ with _ | ⟨r2, t2, i2⟩ | _ | _ <;> rcases te with _ | ⟨r, t, i⟩ | _ | _ <;>
    simp only [hw] at h <;> simp_all [A.setEnd]

/-- the state the catch clause is visited from -/
def handlerStart (prev : Option End) (a1 : A) : A :=
  { (if a1.sc.mayThrow then a1.setEnd prev else a1) with
    sc := { (if a1.sc.mayThrow then a1.setEnd prev else a1).sc with mayThrow := false } }

theorem tryHandler_true (cp : Nat) (ck : Kids) (prev : Option End) (a1 : A) :
    tryHandler true cp ck prev a1 =
      tryCatchJoin a1.sc.end_ a1.sc.mayThrow (withChild .catch_ cp (visitKids ck) (handlerStart prev a1)) := rfl

theorem handlerStart_facts (prev : Option End) (a1 : A) :
    (handlerStart prev a1).info = a1.info ∧ (handlerStart prev a1).sc.foundBreak = a1.sc.foundBreak ∧
    (handlerStart prev a1).sc.foundContinue = a1.sc.foundContinue ∧ (handlerStart prev a1).sc.mayThrow = false ∧
    (handlerStart prev a1).sc.end_ = (if a1.sc.mayThrow then prev else a1.sc.end_) := by
  unfold handlerStart
  cases a1.sc.mayThrow <;> simp [A.setEnd]

/-- the try block (`hx`: state `a` to `a1`, entered with `may_throw` reset) followed by the handler part -/
theorem handler_ok {live : Bool} {us ps : List Nat} {B : Compl} {rx ix : Nat → Bool} (hh : Bool) (cp : Nat) (ck : Kids) {a a1 : A}
    (hpre : Pre live (ps ++ (optPos hh cp ++ ck.positions)) a) (hmt0 : a.sc.mayThrow = false)
    (hx : PostL live us ps B rx ix a a1) (dx : Inside us ps rx ix) (hck : hh = true ∨ ck = .nil)
    (ih : ∀ child, Pre (live && B.t) ck.positions child →
      PostL (live && B.t) ck.upos ck.positions ck.catchCompl ck.catchReach ck.inner child (visitKids ck child)) :
    PostL live (us ++ ck.upos) (ps ++ (optPos hh cp ++ ck.positions)) (tryCatchCompl B hh ck.catchCompl)
      (fun q => rx q || (hh && B.t && ck.catchReach q)) (fun q => ix q || ck.inner q) a
      (tryHandler hh cp ck a.sc.end_ a1) := by
  cases hh with
  | false =>
    obtain rfl : ck = .nil := by rcases hck with h | h; cases h; exact h
    exact hx.conv (fun q hq => by simpa [Kids.upos] using hq) (fun q hq => List.mem_append.mpr (Or.inl hq))
      (by simp [tryCatchCompl]) (fun q => by simp) (fun q => by simp [Kids.inner])
  | true =>
  have hqs : optPos true cp ++ ck.positions = cp :: ck.positions := rfl
  rw [hqs] at hpre ⊢
  simp only [Bool.true_and]
  obtain ⟨hfresh, hnq, hdisj⟩ := hpre.after hx.frame
  rw [tryHandler_true]
  -- The clause is live iff the block can throw, and the analyzer knows it: if `may_throw` is unset the block cannot
  -- throw when live (`hnotT`); if set, the clause starts from the end before the `try`, which stops only if all is dead
  -- (`hsx`).  `PostL.guarded` then leaves the scope's end after `tryCatchJoin` and `may_throw`: the join stops only if
  -- both the block's end and the clause's do.
  obtain ⟨hsi, hsb, hsc, hsm, hse⟩ := handlerStart_facts a.sc.end_ a1
  generalize handlerStart a.sc.end_ a1 = x at hsi hsb hsc hsm hse
  have hnotT : a1.sc.mayThrow = false → (live && B.t) = false := by
    intro h
    cases hh : (live && B.t) with
    | false => rfl
    | true => rw [hx.pT hh] at h; cases h
  have hsx : stopsEnd x.sc.end_ = true → (live && B.t) = false := by
    intro h
    rw [hse] at h
    cases hm : a1.sc.mayThrow with
    | true => rw [hm] at h; simp [hpre.hs (by simpa using h)]
    | false => exact hnotT hm
  have hy := ((ih _ (childA_pre _ .catch_ _ x hsx (fun q hq => by rw [hsi]; exact hfresh q (List.mem_cons_of_mem _ hq))
    (List.nodup_cons.mp hnq).2)).widen (ps' := cp :: ck.positions) fun _ => List.mem_cons_of_mem _).scope
    (kind := .catch_) (p := cp) (op := visitKids ck) (a := x) hsx (fun _ => .head _) .rfl fun _ => rfl
  generalize withChild .catch_ cp (visitKids ck) x = y at hy
  have hj := tryCatchJoin_marks a1.sc.end_ a1.sc.mayThrow y
  have hl : (tryCatchCompl B true ck.catchCompl).hasCl = (B.hasCl || (B.t && ck.catchCompl.hasCl)) := by
    simp only [tryCatchCompl, if_true, union_hasCl, guard_hasCl]; rfl
  refine hx.guarded hy hsi hsb hsc hj hdisj dx (ck.insideCatch.mono fun _ => List.mem_cons_of_mem _)
    (by simp [tryCatchCompl]) (by simp [tryCatchCompl]) (fun h => Bool.or_eq_true_iff.mp (hl ▸ h)) ?_
    (fun hh => by rw [hmt0] at hh; cases hh) ?_
  · intro hst
    have hn : (tryCatchCompl B true ck.catchCompl).n = (B.n || (B.t && ck.catchCompl.n)) := by simp [tryCatchCompl]
    rw [hn]
    cases hm : a1.sc.mayThrow with
    | false =>
      rw [hm, tryCatchJoin_false] at hst
      have h1 := hx.p1 hst
      have h2 := hnotT hm
      revert h1 h2; cases live <;> cases B.n <;> cases B.t <;> simp
    | true =>
      rw [hm] at hst
      obtain ⟨s1, s2⟩ := tryCatchJoin_stops _ _ hst
      have h1 := hx.p1 s1
      have h2 := hy.p1 s2
      revert h1 h2; cases live <;> cases B.n <;> cases B.t <;> cases ck.catchCompl.n <;> simp
  · intro hh
    have ht : (tryCatchCompl B true ck.catchCompl).t = (B.t && ck.catchCompl.t) := by simp [tryCatchCompl]
    rw [ht, ← Bool.and_assoc] at hh
    rw [hj.mt]; exact hy.pT hh

theorem tryFinalizer_true (fp : Nat) (f : Stmts) (prev : Option End) (a2 : A) :
    tryFinalizer true fp f prev a2 =
      finallyJoin a2.sc.end_ (withChild .finally_ fp (fun x => blockTail fp (visitStmts f x)) (a2.setEnd prev)) := rfl

theorem finallyCompl_true (R1 F : Compl) :
    (finallyCompl R1 true F).n = (R1.any && (F.n && R1.n)) ∧
    (finallyCompl R1 true F).b = (R1.any && ((F.n && R1.b) || F.b)) ∧
    (finallyCompl R1 true F).c = (R1.any && ((F.n && R1.c) || F.c)) ∧
    (finallyCompl R1 true F).hasCl = (R1.any && ((F.n && R1.hasCl) || F.hasCl)) ∧
    (finallyCompl R1 true F).t = (R1.any && ((F.n && R1.t) || F.t)) := by
  simp only [finallyCompl, if_true]
  refine ⟨by simp, by simp, by simp, by simp, by simp⟩

/-- what survives the finalizer either was there before it, or the finalizer (entered after any completion) does it -/
theorem finally_cases {g n x y : Bool} (h : (g && ((n && x) || y)) = true) : x = true ∨ (g && y) = true := by
  revert h; cases g <;> cases n <;> cases x <;> cases y <;> simp

/-- try block and handler (`hx`: completions `R1`) followed by the finalizer part, which is entered after any completion -/
theorem finalizer_ok {live : Bool} {us ps : List Nat} {R1 : Compl} {rx ix : Nat → Bool} (hf : Bool) (fp : Nat) (f : Stmts) {a a2 : A}
    (hpre : Pre live (ps ++ (optPos hf fp ++ f.positions)) a)
    (hx : PostL live us ps R1 rx ix a a2) (dx : Inside us ps rx ix) (hfin : hf = true ∨ f = .nil)
    (ih : ∀ a0, Pre (live && R1.any) f.positions a0 →
      PostL (live && R1.any) f.upos f.positions f.compl f.reach f.inner a0 (visitStmts f a0)) :
    PostL live (us ++ f.upos) (ps ++ (optPos hf fp ++ f.positions)) (finallyCompl R1 hf f.compl)
      (fun q => rx q || (hf && R1.any && f.reach q)) (fun q => ix q || f.inner q) a
      (tryFinalizer hf fp f a.sc.end_ a2) := by
  cases hf with
  | false =>
    obtain rfl : f = .nil := by rcases hfin with h | h; cases h; exact h
    exact hx.conv (fun q hq => by simpa [Stmts.upos] using hq) (fun q hq => List.mem_append.mpr (Or.inl hq))
      (by simp [finallyCompl]) (fun q => by simp) (fun q => by simp [Stmts.inner])
  | true =>
  have hqs : optPos true fp ++ f.positions = fp :: f.positions := rfl
  rw [hqs] at hpre ⊢
  simp only [Bool.true_and]
  obtain ⟨hfresh, hnq, hdisj⟩ := hpre.after hx.frame
  rw [tryFinalizer_true]
  -- the finalizer starts from the end before the `try`; after `finallyJoin` the scope's end stops only if that of
  -- block-and-handler did (then they do not complete normally) or the finalizer's does (then it does not)
  have hsx : stopsEnd (a2.setEnd a.sc.end_).sc.end_ = true → (live && R1.any) = false := fun h => by simp [hpre.hs h]
  have hy := (blockKid_ok _ fp f _ (childA_pre _ .finally_ _ _ hsx hfresh hnq) ih).scope (kind := .finally_) (p := fp)
    (op := fun x => blockTail fp (visitStmts f x)) (a := a2.setEnd a.sc.end_) hsx (fun _ => .head _) .rfl fun _ => rfl
  have w := withChild_sees .finally_ fp (fun x => blockTail fp (visitStmts f x)) (a2.setEnd a.sc.end_)
  generalize withChild .finally_ fp (fun x => blockTail fp (visitStmts f x)) (a2.setEnd a.sc.end_) = y at hy w
  have hj := finallyJoin_marks a2.sc.end_ y
  obtain ⟨hn, hb, hc, hl, ht⟩ := finallyCompl_true R1 f.compl
  refine hx.guarded hy rfl rfl rfl hj hdisj dx (f.inside.mono (fun q h => List.mem_cons_of_mem _ h))
    (fun h => finally_cases (hb ▸ h)) (fun h => finally_cases (hc ▸ h)) (fun h => finally_cases (hl ▸ h)) ?_
    (fun hh => by rw [hj.mt, w.mt]; simp only [setEnd_mayThrow]; rw [hx.monoT hh]; rfl) ?_
  · intro hst
    rw [hn]
    rcases finallyJoin_stops _ _ hst with s | s
    · have := hx.p1 s
      revert this; cases live <;> cases R1.n <;> simp
    · have := hy.p1 s
      revert this; cases live <;> cases R1.any <;> cases f.compl.n <;> simp
  · intro hh
    simp only [Bool.and_eq_true] at hh
    rcases finally_cases (ht ▸ hh.2) with h | h
    · rw [hj.mt, w.mt]; simp only [setEnd_mayThrow]; rw [hx.pT (by rw [hh.1, h]; rfl)]; rfl
    · rw [hj.mt]; exact hy.pT (by rw [Bool.and_assoc, hh.1, h]; rfl)

theorem tryFin_stops (p : Nat) (a : A) : stopsEnd (tryFin p a).sc.end_ = stopsEnd a.sc.end_ := by
  unfold tryFin
  rcases he : a.sc.end_ with _ | e
  · simp [he]
  · simp only; rw [markAsEnd_stops, he]; simp

/-- what `visit_try_stmt` records under the statement's position stops only if the scope's end does -/
theorem tryFin_at (p : Nat) (a : A) (h : stopsEnd ((tryFin p a).info.endAt p) = true) :
    stopsEnd a.sc.end_ = true ∨ stopsEnd (a.info.endAt p) = true := by
  unfold tryFin at h
  rcases he : a.sc.end_ with _ | e
  · rw [he] at h; exact .inr h
  · rw [he] at h
    exact .inl ((markAsEnd_self_stops _ _ _ h).elim (fun h' => he ▸ h') id)

theorem try_ok (live : Bool) (ls : List Id) (p bp : Nat) (b : Stmts) (hh : Bool) (cp : Nat) (ck : Kids) (hf : Bool)
    (fp : Nat) (f : Stmts) (a : A)
    (hfr : (Stmt.tryS p bp b hh cp ck hf fp f).inF = true)
    (hpre : Pre live (Stmt.tryS p bp b hh cp ck hf fp f).positions a)
    (ihb : ∀ (l : Bool) a0, b.inF = true → Pre l b.positions a0 →
      PostL l b.upos b.positions b.compl b.reach b.inner a0 (visitStmts b a0))
    (ihc : ∀ (l : Bool) child, ck.okFn = true → Pre l ck.positions child →
      PostL l ck.upos ck.positions ck.catchCompl ck.catchReach ck.inner child (visitKids ck child))
    (ihf : ∀ (l : Bool) a0, f.inF = true → Pre l f.positions a0 →
      PostL l f.upos f.positions f.compl f.reach f.inner a0 (visitStmts f a0)) :
    PostS live ls (.tryS p bp b hh cp ck hf fp f) a (visitStmt (.tryS p bp b hh cp ck hf fp f) a) := by
  simp only [Stmt.inF, Bool.and_eq_true, Bool.or_eq_true] at hfr
  obtain ⟨⟨⟨⟨hbf, hcf⟩, hff⟩, hck⟩, hfin⟩ := hfr
  replace hck : hh = true ∨ ck = .nil := hck.imp id fun h => by cases ck <;> simp_all [Kids.isNil]
  replace hfin : hf = true ∨ f = .nil := hfin.imp id fun h => by cases f <;> simp_all [Stmts.isNil]
  simp only [Stmt.positions] at hpre
  have hnd := List.nodup_cons.mp hpre.nodup
  rw [visitStmt_try]
  have s0i : (tryStart p a).info = (flagA a p .other).info := rfl
  -- the three phases: the positions accumulate from the left
  have hP : ((bp :: b.positions) ++ (optPos hh cp ++ ck.positions)) ++ (optPos hf fp ++ f.positions) =
      bp :: (b.positions ++ ((optPos hh cp ++ ck.positions) ++ (optPos hf fp ++ f.positions))) := by
    simp only [List.cons_append, List.append_assoc]
  have hpre0 : Pre live (((bp :: b.positions) ++ (optPos hh cp ++ ck.positions)) ++ (optPos hf fp ++ f.positions))
      (tryStart p a) := by
    rw [hP]
    exact ⟨hpre.hs, fun q hq => by rw [s0i, flagA_endAt]; exact hpre.fresh q (List.mem_cons_of_mem _ hq), hnd.2⟩
  have d1 : Inside b.upos (bp :: b.positions) b.reach b.inner := b.inside.mono (fun q h => List.mem_cons_of_mem _ h)
  have h1 := blockKid_ok live bp b _ hpre0.left.left (ihb _ · hbf)
  have d2 := d1.seq (ck.insideCatch.mono (ps' := optPos hh cp ++ ck.positions) fun q h => List.mem_append.mpr (Or.inr h)) (hh && b.compl.t)
  have h2 := handler_ok hh cp ck hpre0.left rfl h1 d1 hck (ihc _ · hcf)
  have d3 := d2.seq (f.inside.mono (ps' := optPos hf fp ++ f.positions) fun q h => List.mem_append.mpr (Or.inr h))
    (hf && (tryCatchCompl b.compl hh ck.catchCompl).any)
  have h3 := finalizer_ok hf fp f hpre0 h2 d2 hfin (ihf _ · hff)
  rw [hP, List.append_assoc] at h3 d3
  rw [show (tryStart p a).sc.end_ = a.sc.end_ from rfl] at h3
  generalize tryFinalizer hf fp f a.sc.end_ _ = a3 at h3 ⊢
  -- the end of the statement: the mark at `p` if the scope has an end, `may_throw` restored, and the flag recorded first
  have hst : stopsEnd (tryFin p a3).sc.end_ = true → (live && (finallyCompl (tryCatchCompl b.compl hh ck.catchCompl) hf f.compl).n) = false :=
    fun h => h3.p1 (tryFin_stops p a3 ▸ h)
  have h4 := (((h3.widen (ps' := p :: _) fun _ => List.mem_cons_of_mem _).marks (tryFin_marks p a3)
    (fun _ hq => List.mem_singleton.mp hq ▸ .head _) hst).tail (a2 := tryDone a.sc.mayThrow (tryFin p a3)) (fun _ => rfl)
    (fun _ _ => rfl) id id (fun h => by simp [tryDone, h]) hst).flagFrom (a := a) (t := .other) rfl rfl rfl
    (fun h => by simp [tryDone, h]) hpre.hs (((tryFin_marks p a3).ur p).trans (ur_eq_of_info_eq (h3.frame p hnd.1)))
    (fun h => hnd.1 (d3.us p h)) (d3.i p hnd.1)
  refine .of h4 rfl rfl (by simp [Stmt.compl]) (fun q => by simp [Stmt.reach, Bool.or_assoc])
    (fun q => by simp [Stmt.inner, Bool.or_assoc]) fun _ hs => ?_
  rcases tryFin_at p a3 hs with h | h
  · exact h3.p1 h
  · rw [endAt_eq_of_info_eq (h3.frame p hnd.1), s0i, flagA_endAt, hpre.fresh p List.mem_cons_self] at h
    simp at h

end DL.CF
