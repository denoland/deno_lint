import DL.Lemmas.RxSpecUni

/-! # Soundness w.r.t. the grammar: `CharacterEscape` -/
namespace DL.Rx
open DL.RxSpec

attribute [local irreducible] isScalar
variable {src : List Nat} {N : Nat}

theorem controlLetter_of_isAsciiAlphabetic {x : Nat} (h : isAsciiAlphabetic x = true) : ControlLetter x := by
  unfold isAsciiAlphabetic at h
  by_cases hs : isScalar x = true
  · rw [if_pos hs] at h
    have h' : (0x41 ≤ x ∧ x ≤ 0x5a) ∨ (0x61 ≤ x ∧ x ≤ 0x7a) := of_decide_eq_true h
    show (0x61 ≤ x ∧ x ≤ 0x7a) ∨ (0x41 ≤ x ∧ x ≤ 0x5a)
    omega
  · rw [if_neg hs] at h; cases h

theorem isAsciiAlphabetic_of_controlLetter {x : Nat} (h : ControlLetter x) : isAsciiAlphabetic x = true := by
  have h' : (0x61 ≤ x ∧ x ≤ 0x7a) ∨ (0x41 ≤ x ∧ x ≤ 0x5a) := h
  unfold isAsciiAlphabetic
  rw [if_pos (isScalar_ascii x (by omega))]
  exact decide_eq_true (by omega)

theorem syntaxCharacter_iff (x : Nat) : isSyntaxCharacter x = true ↔ SyntaxCharacter x := by
  unfold isSyntaxCharacter SyntaxCharacter
  simp only [Bool.or_eq_true, beq_iff_eq, List.mem_cons, List.not_mem_nil, or_false, or_assoc]

/-- what each alternative of `consume_character_escape` establishes: `true` with an escape read and its value
recorded, or `false` with the reader where it was -/
abbrev EscapeRead (src : List Nat) (N : Nat) (r : List Nat) (s : St) (b : Bool) (s1 : St) : Prop :=
  Keep s s1 ∧
    if b = true then ∃ r1 v, UAt src N r1 s1 ∧ CharacterEscape r r1 v ∧ s1.lastIntValue = (v : Nat) else UAt src N r s1

theorem eatControlEscape_wp (r : List Nat) (s : St) (h : UAt src N r s) : Wp (eatControlEscape s) (EscapeRead src N r s) := by
  unfold eatControlEscape
  rx4_auto
  all_goals (try rx4_false)
  all_goals rx4_true
  · exact ⟨_, 12, by rx4_at, CharacterEscape.f _, rfl⟩
  · exact ⟨_, 10, by rx4_at, CharacterEscape.n _, rfl⟩
  · exact ⟨_, 13, by rx4_at, CharacterEscape.r _, rfl⟩
  · exact ⟨_, 9, by rx4_at, CharacterEscape.t _, rfl⟩
  · exact ⟨_, 11, by rx4_at, CharacterEscape.v _, rfl⟩

theorem eatControlLetter_wp (r : List Nat) (s : St) (h : UAt src N r s) :
    Wp (eatControlLetter s) (fun b s1 => Keep s s1 ∧
      if b = true then ∃ l r1, r = l :: r1 ∧ ControlLetter l ∧ UAt src N r1 s1 ∧ s1.lastIntValue = ((l % 32 : Nat) : Int)
      else UAt src N r s1) := by
  unfold eatControlLetter
  rx4_auto
  all_goals (try rx4_false)
  rename_i l r1 hc hat
  rx4_true
  exact ⟨l, r1, rfl, controlLetter_of_isAsciiAlphabetic hc, by rx4_at, by st_norm; omega⟩

theorem eatCControlLetter_wp (r : List Nat) (s : St) (h : UAt src N r s) :
    Wp (eatCControlLetter s) (EscapeRead src N r s) := by
  unfold eatCControlLetter
  rx4_auto
  all_goals (try rx4_false)
  rename_i m hat0 s1 hk l r1 hm hl hat1 hv
  rx4_true
  exact ⟨r1, l % 32, hat1, by rw [hm]; exact CharacterEscape.controlLetter l r1 hl, hv⟩

theorem eatZero_wp (r : List Nat) (s : St) (h : UAt src N r s) :
    Wp (eatZero s) (EscapeRead src N r s) := by
  unfold eatZero
  rx4_auto
  all_goals (try rx4_false)
  rename_i x r' hx hn hat
  have hx0 : x = ch '0' := by simpa using hx
  subst hx0
  rx4_true
  refine ⟨r', 0, by rx4_at, CharacterEscape.zero _ ?_, rfl⟩
  intro d hd hdd
  apply hn
  cases r' with
  | nil => cases hd
  | cons y r'' =>
    cases hd
    exact isAsciiDigit_of_decimalDigit hdd

theorem eatHexEscapeSequence_wp (r : List Nat) (s : St) (h : UAt src N r s) :
    Wp (eatHexEscapeSequence s) (EscapeRead src N r s) := by
  unfold eatHexEscapeSequence
  rx4_auto
  all_goals (try rx4_false)
  rename_i m hat0 s1 hk ds r1 hm hlen hds hat1 hv
  rx4_true
  rcases ds with _ | ⟨a, _ | ⟨b, _ | ⟨e, t⟩⟩⟩ <;> simp at hlen
  refine ⟨r1, mvHex [a, b], hat1, ?_, hv⟩
  rw [hm]
  exact CharacterEscape.hex a b r1 (hds a (by simp)) (hds b (by simp))

theorem isIdContinue_pure (cp : Nat) (s : St) : ∃ b, isIdContinue cp s = .ok b s ∨ isIdContinue cp s = .outOfFuel s := by
  rcases isIdContinue_tests cp s with ⟨b, hb, _⟩ | hb
  · exact ⟨b, .inl hb⟩
  · exact ⟨false, .inr hb⟩

theorem eatIdentityEscape_wp (r : List Nat) (s : St) (h : UAt src N r s) :
    Wp (eatIdentityEscape s) (EscapeRead src N r s) := by
  unfold eatIdentityEscape isValidIdentityEscape
  rx4_auto
  all_goals (try rx4_false)
  rename_i x r1 hc hat
  rx4_true
  refine ⟨r1, x, by rx4_at, CharacterEscape.identity x r1 ?_, rfl⟩
  rcases Bool.or_eq_true _ _ |>.mp hc with h1 | h1
  · exact .inl ((syntaxCharacter_iff x).mp h1)
  · exact .inr (by simpa using h1)

theorem consumeCharacterEscape_wp (n : Nat) (r : List Nat) (s : St) (h : UAt src N r s) :
    Wp (consumeCharacterEscape n s) (EscapeRead src N r s) := by
  unfold consumeCharacterEscape
  refine .orM_at (eatControlEscape_wp r s h) fun s1 _ h1 => ?_
  refine .orM_at (eatCControlLetter_wp r s1 h1) fun s2 _ h2 => ?_
  refine .orM_at (eatZero_wp r s2 h2) fun s3 _ h3 => ?_
  refine .orM_at (eatHexEscapeSequence_wp r s3 h3) fun s4 _ h4 => ?_
  refine .orM_at ((eatRegexpUnicodeEscapeSequence_wp n false r s4 h4).mono fun b s5 hq => ⟨hq.1, ?_⟩) fun s5 _ h5 => ?_
  · cases b
    · exact hq.2
    · obtain ⟨r1, v, hat, hu, hv⟩ := hq.2
      exact ⟨r1, v, hat, .unicode _ _ _ hu, hv⟩
  refine .orM_at ?_ fun s6 _ h6 => eatIdentityEscape_wp r s6 h6
  -- the legacy octal escape is not tried in strict mode
  rx4_auto
  rx4_false

end DL.Rx
