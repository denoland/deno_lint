import DL.Lemmas.RxBCompFollow

/-! # Annex B (no `u` flag), completeness: the recursive productions — what is shown of each symbol, one lemma per
production, and the induction over the derivation -/
namespace DL.Rx
open DL.RxSpec DL.Gen.Unicode

attribute [local irreducible] isScalar
variable {src : List Nat} {K : Bool × Nat}

/-- more side conditions: the bookkeeping of new group names -/
macro_rules
  | `(tactic| rx7_side) => `(tactic| first
    | exact ND.left ‹ND _ (_ ++ _)›
    | exact ND.right ‹ND _ (_ ++ _)› (TrackC.gn ‹TrackC _ _ _›)
    | exact ND.right ‹ND _ (_ ++ _)› (TrackC.gn (by rx5_track))
    | exact AltFollow.noQB ‹AltFollow _›
    | exact DFollow.alt ‹DFollow _›
    | (rw [KeepN.gn ‹KeepN _ _›]; assumption)
    | rx5_ne2
    | rx5_ne3
    | assumption)

def PTB (src : List Nat) (K : Bool × Nat) (i r : List Nat) (a : Attr) : Prop :=
  ∀ n s, BAt src K i s → NoQB r → ND s.groupNames a →
    Wc (consumeTerm n s) (fun b s1 => b = true ∧ BAt src K r s1 ∧ TrackC s s1 a)

def PAB (src : List Nat) (K : Bool × Nat) (i r : List Nat) (a : Attr) : Prop :=
  ∀ n s, BAt src K i s → ND s.groupNames a →
    Wc (consumeAssertion n s) (fun b s1 => b = true ∧ BAt src K r s1 ∧ TrackC s s1 a)

/-- a quantifiable assertion leaves the flag set -/
def PQAB (src : List Nat) (K : Bool × Nat) (i r : List Nat) (a : Attr) : Prop :=
  ∀ n s, BAt src K i s → ND s.groupNames a →
    Wc (consumeAssertion n s) (fun b s1 => b = true ∧ BAt src K r s1 ∧ TrackC s s1 a ∧
      s1.lastAssertionIsQuantifiable = true)

def PAtB (src : List Nat) (K : Bool × Nat) (i r : List Nat) (a : Attr) : Prop :=
  ∀ n s, BAt src K i s → ND s.groupNames a →
    Wc (consumeExtendedAtom n s) (fun b s1 => b = true ∧ BAt src K r s1 ∧ TrackC s s1 a)

def PDB (src : List Nat) (K : Bool × Nat) (i r : List Nat) (a : Attr) : Prop :=
  ∀ n s, BAt src K i s → DFollow r → ND s.groupNames a →
    Wc ((consumeAlternative n >>= fun _ => consumeDisjunctionLoop n) s) (fun _ s1 => BAt src K r s1 ∧ TrackC s s1 a)

theorem alt_loopB {i r : List Nat} {a : Attr} (h : TermsPB K (PTB src K) i r a) (hf : AltFollow r) :
    ∀ n s, BAt src K i s → ND s.groupNames a →
      Wc (consumeAlternative n s) (fun _ s1 => BAt src K r s1 ∧ TrackC s s1 a) := by
  induction h with
  | nil r =>
    intro n s hat hnd
    cases n with
    | zero => exact Wc.outOfFuel
    | succ n =>
      have hterm := fun s (h : BAt src K r s) => consumeTerm_wdn (src := src) (K := K) n r s h hf
      unfold consumeAlternative
      rx7_autos
      · exact ⟨‹BAt src K _ _›, TrackC.ofKeepN ‹KeepN s _›⟩
      · exact ⟨hat, TrackC.ofKeepN (KeepN.refl _)⟩
  | cons i m r a₁ a₂ ht hp hrest ih =>
    intro n s hat hnd
    have ih' := ih hf
    unfold PTB at hp
    have hq : NoQB m := hrest.noQ hf.noQB
    obtain ⟨x, i', rfl⟩ := term_consB ht rfl
    cases n with
    | zero => exact Wc.outOfFuel
    | succ n =>
      unfold consumeAlternative
      rx7_autos
      exact ⟨‹BAt src K r _›, TrackC.trans ‹TrackC s _ a₁› ‹TrackC _ _ a₂›⟩

/-- the specification of `consume_disjunction` that the callers use -/
def PDjB (src : List Nat) (K : Bool × Nat) (i r : List Nat) (a : Attr) : Prop :=
  ∀ n s, BAt src K i s → ND s.groupNames a →
    Wc (consumeDisjunction n s) (fun _ s1 => BAt src K r s1 ∧ TrackC s s1 a)

theorem disj_of_bodyB {i r : List Nat} {a : Attr} (hd : PDB src K i r a) (hf : DFollow r) : PDjB src K i r a := by
  intro n s hat hnd
  cases n with
  | zero => exact Wc.outOfFuel
  | succ n =>
    have e : consumeDisjunction (n + 1) = ((consumeAlternative n >>= fun _ => consumeDisjunctionLoop n) >>= fun _ => do
        if ← consumeQuantifier n true then fail "Nothing to repeat"
        else if ← eat '{' then fail "Lone quantifier brackets"
        else pure ()) := by
      conv => lhs; unfold consumeDisjunction
      rw [bind_assoc']
    rw [e]
    refine Wc.call (hd n s hat hf hnd) (fun _ s1 ⟨hat1, htr⟩ => ?_)
    have hnq : NoQB r := hf.alt.noQB
    have hq := fun s (h : BAt src K r s) => consumeQuantifier_wdn (src := src) (K := K) n true r s h hnq
    have h4 : r.head? ≠ some (ch '{') := by
      rcases hf with rfl | hf
      · exact nil_head_ne _
      · rw [hf]; decide
    rx7_autos
    exact ⟨‹BAt src K r _›, TrackC.post htr ‹KeepN s1 _›⟩

theorem uncapturing_wd {m r : List Nat} {a : Attr} (hdj : PDjB src K m (ch ')' :: r) a) :
    ∀ n s, BAt src K (ch '(' :: ch '?' :: ch ':' :: m) s → ND s.groupNames a →
      Wc (consumeUncapturingGroup n s) (fun b s1 => b = true ∧ BAt src K r s1 ∧ TrackC s s1 a) := by
  intro n s hat hnd
  unfold PDjB at hdj
  cases n with
  | zero => exact Wc.outOfFuel
  | succ n =>
    unfold consumeUncapturingGroup
    rx7_autos
    exact ⟨rfl, by rx6_at, by rx5_track⟩

theorem capturing_named_wd {m m₂ r : List Nat} {nm : Name} {a : Attr} (hg : RxSpecB.GroupName m m₂ nm)
    (hdj : PDjB src K m₂ (ch ')' :: r) a) :
    ∀ n s, BAt src K (ch '(' :: ch '?' :: m) s → ND s.groupNames (⟨[some nm], []⟩ ++ a) →
      Wc (consumeCapturingGroup n s) (fun b s1 => b = true ∧ BAt src K r s1 ∧ TrackC s s1 (⟨[some nm], []⟩ ++ a)) := by
  intro n s hat hnd
  unfold PDjB at hdj
  have hnew : ¬nm ∈ s.groupNames := ND.new hnd
  cases n with
  | zero => exact Wc.outOfFuel
  | succ n =>
    unfold consumeCapturingGroup
    rx7_autos
    rename_i t1 _ _ _ t2 _
    exact ⟨rfl, by rx6_at, TrackC.move _ _ (TrackC.trans t1 t2) rfl rfl rfl rfl⟩

theorem capturing_empty_wd {m r : List Nat} {a : Attr} (hq : m.head? ≠ some (ch '?'))
    (hdj : PDjB src K m (ch ')' :: r) a) :
    ∀ n s, BAt src K (ch '(' :: m) s → ND s.groupNames (⟨[none], []⟩ ++ a) →
      Wc (consumeCapturingGroup n s) (fun b s1 => b = true ∧ BAt src K r s1 ∧ TrackC s s1 (⟨[none], []⟩ ++ a)) := by
  intro n s hat hnd
  unfold PDjB at hdj
  have hnd' : ND s.groupNames a := ND.right_none hnd
  cases n with
  | zero => exact Wc.outOfFuel
  | succ n =>
    unfold consumeCapturingGroup
    rx7_autos
    rename_i t1 _
    exact ⟨rfl, by rx6_at, TrackC.move _ _
      (TrackC.trans (TrackC.none (⟨rfl, rfl⟩ : KeepN s (s.setPos src (s.reader.index + 1)))) t1) rfl rfl rfl rfl⟩

/-- the four lookaround assertions: after `(?`, an optional `<` (`lb`), then `=` or `!`; only a lookahead can be
quantified -/
theorem lookaround_wd {m r : List Nat} {a : Attr}
    (hdj' : ∀ n s, BAt src K m s → ND s.groupNames a →
      Wc (consumeDisjunction n s) (fun _ s1 => BAt src K (ch ')' :: r) s1 ∧ TrackC s s1 a))
    {lb : Bool} {x : Nat} {i : List Nat} (hi : lb = false ∧ i = x :: m ∨ lb = true ∧ i = ch '<' :: x :: m)
    (hx : x = ch '=' ∨ x = ch '!') (n start : Nat) (s : St) (hat : BAt src K i s) (hnd : ND s.groupNames a) :
    Wc (lookaround n start s) (fun b s1 => b = true ∧ BAt src K r s1 ∧ TrackC s s1 a ∧
      s1.lastAssertionIsQuantifiable = !lb) := by
  rcases hi with ⟨rfl, rfl⟩ | ⟨rfl, rfl⟩ <;> rcases hx with rfl | rfl
  all_goals
    unfold lookaround lookaroundBody
    rx7_autos
    refine ⟨rfl, by rx6_at, by rx5_track, ?_⟩
    rename_i hlast
    dsimp only
    rw [BAt.strict' hlast]; rfl

theorem assertion_look {m r : List Nat} {a : Attr} (hdj : PDjB src K m (ch ')' :: r) a) {lb : Bool} {x : Nat}
    {i : List Nat} (hi : lb = false ∧ i = x :: m ∨ lb = true ∧ i = ch '<' :: x :: m) (hx : x = ch '=' ∨ x = ch '!')
    (n : Nat) (s : St) (hat : BAt src K (ch '(' :: ch '?' :: i) s) (hnd : ND s.groupNames a) :
    Wc (consumeAssertion n s) (fun b s1 => b = true ∧ BAt src K r s1 ∧ TrackC s s1 a ∧
      s1.lastAssertionIsQuantifiable = !lb) := by
  cases n with
  | zero => exact Wc.outOfFuel
  | succ n =>
    refine consumeAssertion_frame hat (head_ne_of_ne (by decide) _) (head_ne_of_ne (by decide) _) (no_eat2_ne1 (by decide))
      (no_eat2_ne1 (by decide))
      (fun m' s' e h' k => ?_) (fun hno => absurd ⟨_, rfl⟩ hno)
    cases e
    refine (lookaround_wd hdj hi hx n _ s' h' (k.gn ▸ hnd)).mono fun b s1 hq => ⟨hq.1, hq.2.1, hq.2.2.1.pre k, hq.2.2.2⟩

/-- the assertions without a body -/
macro "simple_assertionB_proof" : tactic => `(tactic| (
  intro n s hat hnd
  cases n with
  | zero => exact Wc.outOfFuel
  | succ n =>
    unfold consumeAssertion
    rx7_autos
    exact ⟨rfl, by rx6_at, TrackC.ofKeepN ⟨rfl, rfl⟩⟩))

theorem caret_wd {r : List Nat} : PAB src K (ch '^' :: r) r Attr.nil := by simple_assertionB_proof
theorem dollar_wd {r : List Nat} : PAB src K (ch '$' :: r) r Attr.nil := by simple_assertionB_proof
theorem wordBoundary_wd {r : List Nat} : PAB src K (ch '\\' :: ch 'b' :: r) r Attr.nil := by simple_assertionB_proof
theorem notWordBoundary_wd {r : List Nat} : PAB src K (ch '\\' :: ch 'B' :: r) r Attr.nil := by simple_assertionB_proof

theorem PQAB.toPAB {i r : List Nat} {a : Attr} (h : PQAB src K i r a) : PAB src K i r a :=
  fun n s hat hnd => (h n s hat hnd).mono (fun _ _ hp => ⟨hp.1, hp.2.1, hp.2.2.1⟩)

def MotiveB (src : List Nat) (K : Bool × Nat) : RxSpecB.Sym → List Nat → List Nat → Attr → Prop
  | .Disjunction => PDB src K
  | .Alternative => TermsPB K (PTB src K)
  | .Term => PTB src K
  | .Assertion => PAB src K
  | .QuantifiableAssertion => PQAB src K
  | .ExtendedAtom => PAtB src K

theorem term_of_assertionB {i r : List Nat} {a : Attr} (ih : PAB src K i r a) : PTB src K i r a := by
  intro n s hat hnq hnd
  unfold PAB at ih
  cases n with
  | zero => exact Wc.outOfFuel
  | succ n =>
    have hoq := fun s (h : BAt src K r s) => consumeOptionalQuantifier_wdn (src := src) (K := K) n r s h hnq
    unfold consumeTerm
    rx7_autos
    · exact ⟨rfl, ‹BAt src K r _›, TrackC.post ‹TrackC s _ a› ‹KeepN _ _›⟩
    · exact ⟨rfl, ‹BAt src K r _›, ‹TrackC s _ a›⟩

theorem term_of_qassertion_quantified {i m r : List Nat} {a : Attr} (ih : PQAB src K i m a)
    (hq : Quantifier qokSat m r) : PTB src K i r a := by
  intro n s hat hnq hnd
  unfold PQAB at ih
  have hf3 := hnq.2.2.1
  cases n with
  | zero => exact Wc.outOfFuel
  | succ n =>
    unfold consumeTerm
    rx7_autos
    rename_i htr _ _ _ _ _ hk
    exact ⟨rfl, ‹BAt src K r _›, TrackC.post htr hk⟩

theorem term_of_atomB {i r : List Nat} {a : Attr} (hatom : RxSpecB.Derives K.1 qokSat K.2 .ExtendedAtom i r a)
    (hw : ¬RxSpecB.StartsWordBoundary i) (ih : PAtB src K i r a) : PTB src K i r a := by
  intro n s hat hnq hnd
  unfold PAtB at ih
  have hnas := atom_nasB hatom hw
  cases n with
  | zero => exact Wc.outOfFuel
  | succ n =>
    have hoq := fun s (h : BAt src K r s) => consumeOptionalQuantifier_wdn (src := src) (K := K) n r s h hnq
    unfold consumeTerm
    rx7_autos
    rename_i hk1 _ _ _ _ htr _ _ _ _ hk2
    exact ⟨by assumption, ‹BAt src K r _›, TrackC.pre hk1 (TrackC.post htr hk2)⟩

theorem term_of_quantifiedB {i m r : List Nat} {a : Attr} (hatom : RxSpecB.Derives K.1 qokSat K.2 .ExtendedAtom i m a)
    (hw : ¬RxSpecB.StartsWordBoundary i) (hq : Quantifier qokSat m r) (ih : PAtB src K i m a) : PTB src K i r a := by
  intro n s hat hnq hnd
  unfold PAtB at ih
  have hnas := atom_nasB hatom hw
  have hf3 := hnq.2.2.1
  cases n with
  | zero => exact Wc.outOfFuel
  | succ n =>
    unfold consumeTerm
    rx7_autos
    rename_i hk1 _ _ _ _ htr _ _ _ _ hk2
    exact ⟨by assumption, ‹BAt src K r _›, TrackC.pre hk1 (TrackC.post htr hk2)⟩

theorem atomB_dot {r : List Nat} : PAtB src K (ch '.' :: r) r Attr.nil := by
  intro n s hat hnd
  cases n with
  | zero => exact Wc.outOfFuel
  | succ n =>
    unfold consumeExtendedAtom
    rx7_autos
    exact ⟨rfl, ‹BAt src K r _›, TrackC.ofKeepN ⟨rfl, rfl⟩⟩

theorem atomB_escape (hN : K.2 < 2 ^ 62) {m r : List Nat} {a : Attr} (hae : RxSpecB.AtomEscape K.1 K.2 m r a) :
    PAtB src K (ch '\\' :: m) r a := by
  intro n s hat hnd
  cases n with
  | zero => exact Wc.outOfFuel
  | succ n =>
    have hrs := fun s h => consumeReverseSolidusAtomEscape_wd (src := src) (K := K) hN n m r a s h hae
    unfold consumeExtendedAtom
    rx7_autos
    exact ⟨rfl, ‹BAt src K r _›, ‹TrackC _ _ a›⟩

theorem atomB_backslashC {r : List Nat} (hn : ∀ l, r.head? = some l → ¬ControlLetter l) :
    PAtB src K (ch '\\' :: ch 'c' :: r) (ch 'c' :: r) Attr.nil := by
  intro n s hat hnd
  cases n with
  | zero => exact Wc.outOfFuel
  | succ n =>
    have hrs := fun s h => consumeReverseSolidusAtomEscape_wdm (src := src) (K := K) n r s h hn
    unfold consumeExtendedAtom
    rx7_autos
    rename_i hk1 _ _ _ _ hk2
    exact ⟨rfl, ‹BAt src K (ch 'c' :: r) _›, TrackC.ofKeepN (KeepN.trans hk1 ⟨hk2.gn, hk2.bn⟩)⟩

theorem atomB_class {i r : List Nat} (hc : RxSpecB.CharacterClass K.1 i r) : PAtB src K i r Attr.nil := by
  intro n s hat hnd
  have hi : ∃ m, i = ch '[' :: m := by cases hc <;> exact ⟨_, rfl⟩
  obtain ⟨m, rfl⟩ := hi
  have h5 : ¬∃ m', ch '[' :: m = ch '\\' :: ch 'c' :: m' := no_eat2_ne1 (by decide)
  cases n with
  | zero => exact Wc.outOfFuel
  | succ n =>
    unfold consumeExtendedAtom
    rx7_autos
    exact ⟨rfl, ‹BAt src K r _›, TrackC.ofKeepN ‹KeepN _ _›⟩

/-- a text that begins with none of `.`, `\`, `[` is left to the last four alternatives of `consume_extended_atom`:
the first four fail without moving -/
theorem consumeExtendedAtom_groups {x : Nat} {r : List Nat} {n : Nat} {s : St} {Q : Bool → St → Prop}
    (h : BAt src K (x :: r) s) (h1 : x ≠ ch '.') (h2 : x ≠ ch '\\') (h3 : x ≠ ch '[')
    (hrest : Wc ((consumeUncapturingGroup n <or> consumeCapturingGroup n <or> consumeInvalidBracedQuantifier n
      <or> consumeExtendedPatternCharacter) s) Q) : Wc (consumeExtendedAtom (n + 1) s) Q := by
  unfold consumeExtendedAtom
  refine Wc.orM_skip (by rw [h.rat.eat_ne (head_ne_of_ne h1 _)]; exact ⟨rfl, rfl⟩) ?_
  refine Wc.orM_skip (consumeReverseSolidusAtomEscape_wdn n _ s h (head_ne_of_ne h2 _)) ?_
  refine Wc.orM_skip (consumeReverseSolidusFollowedByC_wdn _ s h (no_eat2_ne1 h2)) ?_
  exact Wc.orM_skip (consumeCharacterClass_wdn n _ s h (head_ne_of_ne h3 _)) hrest

theorem atomB_nonCapturing {m r : List Nat} {a : Attr} (hdj : PDjB src K m (ch ')' :: r) a) :
    PAtB src K (ch '(' :: ch '?' :: ch ':' :: m) r a := by
  intro n s hat hnd
  cases n with
  | zero => exact Wc.outOfFuel
  | succ n =>
    refine consumeExtendedAtom_groups hat (by decide) (by decide) (by decide) ?_
    exact Wc.orM_hit (uncapturing_wd hdj n s hat hnd)

theorem atomB_group_named {m m₂ r : List Nat} {nm : Name} {a : Attr} (hg : RxSpecB.GroupName m m₂ nm)
    (hdj : PDjB src K m₂ (ch ')' :: r) a) :
    PAtB src K (ch '(' :: ch '?' :: m) r (⟨[some nm], []⟩ ++ a) := by
  intro n s hat hnd
  have hgrp := capturing_named_wd (src := src) (K := K) hg hdj
  obtain ⟨m', rfl, _⟩ := hg
  cases n with
  | zero => exact Wc.outOfFuel
  | succ n =>
    refine consumeExtendedAtom_groups hat (by decide) (by decide) (by decide) ?_
    refine Wc.orM_skip (consumeUncapturingGroup_wdn n _ s hat (no_eat3_ne3 (by decide))) ?_
    exact Wc.orM_hit (hgrp n s hat hnd)

theorem atomB_group_empty {m r : List Nat} {a : Attr} (hq : m.head? ≠ some (ch '?'))
    (hdj : PDjB src K m (ch ')' :: r) a) :
    PAtB src K (ch '(' :: m) r (⟨[none], []⟩ ++ a) := by
  intro n s hat hnd
  have hne3 : ¬∃ r', ch '(' :: m = ch '(' :: ch '?' :: ch ':' :: r' := by
    rintro ⟨r', e⟩
    exact hq (by rw [(List.cons.inj e).2]; rfl)
  cases n with
  | zero => exact Wc.outOfFuel
  | succ n =>
    refine consumeExtendedAtom_groups hat (by decide) (by decide) (by decide) ?_
    refine Wc.orM_skip (consumeUncapturingGroup_wdn n _ s hat hne3) ?_
    exact Wc.orM_hit (capturing_empty_wd hq hdj n s hat hnd)

theorem atomB_patternCharacter {x : Nat} {r : List Nat} (hx : RxSpecB.ExtendedPatternCharacter x)
    (hno : ¬∃ r', RxSpecB.InvalidBracedQuantifier (x :: r) r') : PAtB src K (x :: r) r Attr.nil := by
  intro n s hat hnd
  have hx2 := hx.2
  simp only [List.mem_cons, List.not_mem_nil, or_false, not_or] at hx2
  have e : ∀ a, c a = ch a := fun _ => rfl
  simp only [e] at hx2
  have h4 : (x :: r).head? ≠ some (ch '(') := head_ne_of_ne hx2.2.2.2.2.2.2.2.1 _
  cases n with
  | zero => exact Wc.outOfFuel
  | succ n =>
    refine consumeExtendedAtom_groups hat hx2.2.2.2.1 hx2.2.2.1 hx2.2.2.2.2.2.2.2.2.2.1 ?_
    refine Wc.orM_skip (consumeUncapturingGroup_wdn n _ s hat (no_eat3_head h4)) ?_
    refine Wc.orM_skip (consumeCapturingGroup_wdn n _ s hat h4) ?_
    refine Wc.orM_next (consumeInvalidBracedQuantifier_wd n _ s hat hno) fun s1 ⟨hat1, hk1⟩ => ?_
    refine (consumeExtendedPatternCharacter_wd x r s1 hat1 hx).mono fun b s2 ⟨hb, hat2, hk2⟩ => ?_
    exact ⟨hb, hat2, TrackC.ofKeepN (KeepN.trans hk1 ⟨hk2.gn, hk2.bn⟩)⟩

theorem disj_oneB {i r : List Nat} {a : Attr} (ih : TermsPB K (PTB src K) i r a) : PDB src K i r a := by
  intro n s hat hf hnd
  refine Wc.call (alt_loopB ih hf.alt n s hat hnd) (fun _ s1 ⟨hat1, htr⟩ => ?_)
  have hne : r.head? ≠ some (ch '|') := by
    rcases hf with rfl | hf
    · exact nil_head_ne _
    · rw [hf]; decide
  cases n with
  | zero => exact Wc.outOfFuel
  | succ n =>
    unfold consumeDisjunctionLoop
    rx7_autos
    exact ⟨hat1, htr⟩

theorem disj_moreB {i m r : List Nat} {a₁ a₂ : Attr} (ih1 : TermsPB K (PTB src K) i (ch '|' :: m) a₁)
    (ih2 : PDB src K m r a₂) : PDB src K i r (a₁ ++ a₂) := by
  intro n s hat hf hnd
  refine Wc.call (alt_loopB ih1 (.inr (.inl rfl)) n s hat hnd.left) (fun _ s1 ⟨hat1, htr⟩ => ?_)
  cases n with
  | zero => exact Wc.outOfFuel
  | succ n =>
    unfold consumeDisjunctionLoop
    rx7_autos
    refine (ih2 n _ ‹BAt src K m _› hf (ND.right hnd (by rw [← htr.gn]; rfl))).mono ?_
    rintro _ s2 ⟨hat2, htr2⟩
    exact ⟨hat2, TrackC.trans htr (TrackC.move _ _ htr2 rfl rfl rfl rfl)⟩

/-- **completeness of the recursive productions without `u`**: the validator follows every derivation -/
theorem derives_completeB (hN : K.2 < 2 ^ 62) {sym : RxSpecB.Sym} {i r : List Nat} {a : Attr}
    (h : RxSpecB.Derives K.1 qokSat K.2 sym i r a) : MotiveB src K sym i r a := by
  induction h with
  | disjOne i r a _ ih => exact disj_oneB ih
  | disjMore i m r a₁ a₂ _ _ ih1 ih2 => exact disj_moreB ih1 ih2
  | altEmpty r => exact TermsPB.nil r
  | altSnoc i m r a₁ a₂ _ ht ih1 ih2 => exact TermsPB.snoc ih1 ht ih2
  | termQAssertionQuantified i m r a _ hq ih => exact term_of_qassertion_quantified ih hq
  | termAssertion i r a _ ih => exact term_of_assertionB ih
  | termAtomQuantified i m r a hatom hq hw ih => exact term_of_quantifiedB hatom hw hq ih
  | termAtom i r a hatom hw ih => exact term_of_atomB hatom hw ih
  | caret r => exact caret_wd
  | dollar r => exact dollar_wd
  | wordBoundary r => exact wordBoundary_wd
  | notWordBoundary r => exact notWordBoundary_wd
  | quantifiable i r a _ ih => exact PQAB.toPAB ih
  | lookahead i m r a hl _ ih =>
    have e : i = ch '(' :: ch '?' :: ch '=' :: m := hl
    subst e
    exact assertion_look (disj_of_bodyB ih (.inr rfl)) (.inl ⟨rfl, rfl⟩) (.inl rfl)
  | negativeLookahead i m r a hl _ ih =>
    have e : i = ch '(' :: ch '?' :: ch '!' :: m := hl
    subst e
    exact assertion_look (disj_of_bodyB ih (.inr rfl)) (.inl ⟨rfl, rfl⟩) (.inr rfl)
  | lookbehind i m r a hl _ ih =>
    have e : i = ch '(' :: ch '?' :: ch '<' :: ch '=' :: m := hl
    subst e
    exact fun n s hat hnd => (assertion_look (disj_of_bodyB ih (.inr rfl)) (.inr ⟨rfl, rfl⟩) (.inl rfl) n s hat hnd).mono
      fun _ _ hp => ⟨hp.1, hp.2.1, hp.2.2.1⟩
  | negativeLookbehind i m r a hl _ ih =>
    have e : i = ch '(' :: ch '?' :: ch '<' :: ch '!' :: m := hl
    subst e
    exact fun n s hat hnd => (assertion_look (disj_of_bodyB ih (.inr rfl)) (.inr ⟨rfl, rfl⟩) (.inr rfl) n s hat hnd).mono
      fun _ _ hp => ⟨hp.1, hp.2.1, hp.2.2.1⟩
  | dot r => exact atomB_dot
  | atomEscape m r a hae => exact atomB_escape hN hae
  | backslashC r hn => exact atomB_backslashC hn
  | characterClass i r hc => exact atomB_class hc
  | group m₁ m₂ r name a hg hd ih =>
    cases hg with
    | empty _ =>
      have hq : m₁.head? ≠ some (c '?') := derives_headB hd (.inl (head_cons_ne (by decide) _))
      exact atomB_group_empty hq (disj_of_bodyB ih (.inr rfl))
    | named m _ nm hgn => exact atomB_group_named hgn (disj_of_bodyB ih (.inr rfl))
  | nonCapturing i m r a hl _ ih =>
    have e : i = ch '(' :: ch '?' :: ch ':' :: m := hl
    subst e
    exact atomB_nonCapturing (disj_of_bodyB ih (.inr rfl))
  | extendedPatternCharacter x r hx hno => exact atomB_patternCharacter hx hno

end DL.Rx
