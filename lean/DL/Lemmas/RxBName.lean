import DL.Lemmas.RxBChar
import DL.Lemmas.RxSpecName2
import DL.Lemmas.RxBlocks

/-! # Annex B (no `u` flag): group names — the identifier characters (escapes and surrogate pairs are read in
Unicode mode, `force_u_flag`), then `RegExpIdentifierName` and `GroupName` -/
namespace DL.Rx
open DL.RxSpec DL.Gen.Unicode

attribute [local irreducible] isScalar
variable {src : List Nat} {K : Bool × Nat}

theorem BAt.of_index_eq {r r1 : List Nat} {s s1 : St} (h1 : BAt src K r1 s1) (h : BAt src K r s)
    (he : s1.reader.index = s.reader.index) : BAt src K r s1 := by
  have : r1 = r := by rw [← h1.rest, ← h.rest, he]
  rw [← this]; exact h1

theorem isRegexpIdentifierPart_wb (cp : Nat) (s : St) :
    Wp (isRegexpIdentifierPart cp s) (fun b s1 => s1 = s ∧ (b = true → IdentifierPartChar cp)) :=
  isRegexpIdentifierPart_wp cp s

theorem isRegexpIdentifierStart_wb (cp : Nat) (s : St) :
    Wp (isRegexpIdentifierStart cp s) (fun b s1 => s1 = s ∧ (b = true → IdentifierStartChar cp)) :=
  isRegexpIdentifierStart_wp cp s

theorem pair_value {l t : Nat} (hl : isLeadSurrogate (l : Int) = true) (ht : isTrailSurrogate (t : Int) = true) :
    isLead l ∧ isTrail t ∧
    i64AsU32 (combineSurrogatePair (l : Int) (t : Int)) = (l - 0xD800) * 0x400 + (t - 0xDC00) + 0x10000 := by
  have hL := (isLeadSurrogate_iff l).mp hl
  have hT := (isTrailSurrogate_iff t).mp ht
  refine ⟨hL, hT, ?_⟩
  rw [combine_eq hL hT]
  apply i64AsU32_small
  unfold isLead at hL; unfold isTrail at hT; omega

/-- the leaves of `eat_regexp_identifier_start` / `_part` that answer `true` -/
macro "ident_leaf" ctor:ident pctor:ident ector:ident : tactic => `(tactic| first
  | (-- an escape
     have hu := ‹RegExpUnicodeEscapeSequence _ _ _›
     have hv := ‹(_ : St).lastIntValue = ((_ : Nat) : Int)›
     have hp := ‹True → _› trivial
     have hx := ‹(_ == ch '\\') = true›
     simp only [beq_iff_eq] at hx
     subst hx
     rw [hv, i64AsU32_small (rues_le hu)] at hp
     rx6_true
     refine ⟨_, _, by rx6_at, $ector _ _ _ hu hp, ?_⟩
     st_norm; rw [hv, i64AsU32_small (rues_le hu)])
  | (-- a surrogate pair
     have hl := ‹isLeadSurrogate _ = true›
     have ht := ‹isTrailSurrogate _ = true›
     obtain ⟨hL, hT, hval⟩ := pair_value hl ht
     have hp := ‹True → _› trivial
     rw [hval] at hp
     rx6_true
     refine ⟨_, _, by rx6_at, $pctor _ _ _ ⟨_, _, rfl, hL, hT, rfl⟩ hp, ?_⟩
     st_norm; rw [hval])
  | (-- a character
     rx6_true
     exact ⟨_, _, by rx6_at, $ctor _ _ (‹True → _› trivial), rfl⟩))

/-- the code point an identifier character denotes without the `u` flag: the character itself, the value of a `\u`
escape (read as in Unicode mode), or the value of a surrogate pair -/
inductive IdentCpB : List Nat → List Nat → Nat → Prop
  | char (x : Nat) (r : List Nat) : IdentCpB (x :: r) r x
  | escape (m r : List Nat) (v : Nat) : RegExpUnicodeEscapeSequence m r v → IdentCpB (ch '\\' :: m) r v
  | pair (i r : List Nat) (v : Nat) : RxSpecB.SurrogatePair i r v → IdentCpB i r v

theorem IdentCpB.cons {r r1 : List Nat} {v : Nat} (h : IdentCpB r r1 v) : ∃ c r', r = c :: r' := by
  cases h with
  | char | escape => exact ⟨_, _, rfl⟩
  | pair _ _ _ hp =>
    obtain ⟨l, t, rfl, -⟩ := hp
    exact ⟨_, _, rfl⟩

theorem regExpIdentifierStart_iff {r r1 : List Nat} {x : Nat} :
    RxSpecB.RegExpIdentifierStart r r1 x ↔ IdentCpB r r1 x ∧ IdentifierStartChar x := by
  constructor
  · intro h
    cases h with
    | char _ _ hx => exact ⟨.char _ _, hx⟩
    | escape m _ _ hu hx => exact ⟨.escape m _ _ hu, hx⟩
    | pair _ _ _ hp hx => exact ⟨.pair _ _ _ hp, hx⟩
  · rintro ⟨h, hx⟩
    cases h with
    | char => exact .char _ _ hx
    | escape m _ _ hu => exact .escape m _ _ hu hx
    | pair _ _ _ hp => exact .pair _ _ _ hp hx

theorem regExpIdentifierPart_iff {r r1 : List Nat} {x : Nat} :
    RxSpecB.RegExpIdentifierPart r r1 x ↔ IdentCpB r r1 x ∧ IdentifierPartChar x := by
  constructor
  · intro h
    cases h with
    | char _ _ hx => exact ⟨.char _ _, hx⟩
    | escape m _ _ hu hx => exact ⟨.escape m _ _ hu, hx⟩
    | pair _ _ _ hp hx => exact ⟨.pair _ _ _ hp, hx⟩
  · rintro ⟨h, hx⟩
    cases h with
    | char => exact .char _ _ hx
    | escape m _ _ hu => exact .escape m _ _ hu hx
    | pair _ _ _ hp => exact .pair _ _ _ hp hx

theorem identStartCp_wb (n cp0 : Nat) (cp1 : Option Nat) (r : List Nat) (s : St) (h : BAt src K r s)
    (h1 : cp1 = r[0]?) :
    Wp (identStartCp n true cp0 cp1 s) (fun cp s1 => Keep s s1 ∧ ∃ r1, BAt src K r1 s1 ∧ IdentCpB (cp0 :: r) r1 cp) := by
  unfold identStartCp
  rx6_autos
  -- `cp0` stands for itself, whether or not an escape was tried first
  all_goals (try exact ⟨by rx6_keep, r, by assumption, .char cp0 r⟩)
  -- a surrogate pair: `cp1` is the head of `r`
  iterate 2
    obtain _ | ⟨c1, r'⟩ := r
    · cases h1
    cases h1
    rx6_autos
    obtain ⟨hL, hT, hval⟩ := pair_value (l := cp0) ‹(true && _) = true› ‹isTrailSurrogate _ = true›
    rw [hval]
    exact ⟨by rx6_keep, _, by assumption, .pair _ _ _ ⟨_, _, rfl, hL, hT, rfl⟩⟩
  · rename_i hc s1 hk r1 v hat hu hv
    have hx : cp0 = ch '\\' := by simpa using hc
    subst hx
    rw [hv, i64AsU32_small (rues_le hu)]
    exact ⟨hk, r1, hat, .escape r r1 v hu⟩

theorem identPartCp_wb (n : Nat) (cp0 cp1 : Option Nat) (r : List Nat) (s : St) (h : BAt src K r s)
    (h1 : cp1 = r[0]?) :
    Wp (identPartCp n true cp0 cp1 s) (fun cp s1 => Keep s s1 ∧ ∃ r1, BAt src K r1 s1 ∧
      ∀ v, cp = some v → ∃ x, cp0 = some x ∧ IdentCpB (x :: r) r1 v) := by
  obtain _ | x := cp0
  · rw [identPartCp_none]
    exact Wp.pure ⟨Keep.refl s, r, h, fun _ hv => nomatch hv⟩
  · rw [identPartCp_some]
    refine Wp.bind ((identStartCp_wb n x cp1 r s h h1).mono fun cp s1 ⟨k, r1, hat, hcp⟩ => ?_)
    exact Wp.pure ⟨k, r1, hat, fun v hv => ⟨x, rfl, Option.some.inj hv ▸ hcp⟩⟩

theorem identStartHit_wb (n : Nat) (r : List Nat) (s : St) (h : BAt src K r s) :
    Wp (identStartHit n true s) (fun b s1 => Keep s s1 ∧
      if b = true then ∃ r1 x, BAt src K r1 s1 ∧ RxSpecB.RegExpIdentifierStart r r1 x ∧ s1.lastIntValue = (x : Nat)
      else ∃ r', BAt src K r' s1) := by
  unfold identStartHit
  rx6_autos
  all_goals (try exact ⟨by rx6_keep, by rw [if_neg (by decide)]; exact ⟨_, by rx6_at⟩⟩)
  all_goals (
    rx6_true
    exact ⟨_, _, by rx6_at, regExpIdentifierStart_iff.mpr ⟨‹IdentCpB _ _ _›, ‹True → _› trivial⟩, rfl⟩)

theorem identPartHit_wb (n : Nat) (r : List Nat) (s : St) (h : BAt src K r s) :
    Wp (identPartHit n true s) (fun b s1 => Keep s s1 ∧
      if b = true then ∃ r1 x, BAt src K r1 s1 ∧ RxSpecB.RegExpIdentifierPart r r1 x ∧ s1.lastIntValue = (x : Nat)
      else ∃ r', BAt src K r' s1) := by
  unfold identPartHit
  rx6_autos
  all_goals (try exact ⟨by rx6_keep, by rw [if_neg (by decide)]; exact ⟨_, by rx6_at⟩⟩)
  iterate 2
    rename_i hcp s1 hk hat hp
    obtain ⟨x, hx, hcp⟩ := hcp _ rfl
    cases hx
    rx6_true
    exact ⟨_, _, by rx6_at, regExpIdentifierPart_iff.mpr ⟨hcp, hp trivial⟩, rfl⟩
  · -- at the end of the input there is no code point
    rename_i hcp s1 hk hat hp
    obtain ⟨x, hx, -⟩ := hcp _ rfl
    cases hx

/-- the frame of the two identifier functions: a failed attempt is rewound -/
theorem identFrame_wb {hit : Bool → M Bool} {P : List Nat → List Nat → Nat → Prop} (r : List Nat) (s : St)
    (h : BAt src K r s)
    (hhit : Wp (hit true s) (fun b s1 => Keep s s1 ∧
      if b = true then ∃ r1 x, BAt src K r1 s1 ∧ P r r1 x ∧ s1.lastIntValue = (x : Nat) else ∃ r', BAt src K r' s1)) :
    Wp (identFrame hit s) (fun b s1 => Keep s s1 ∧
      if b = true then ∃ r1 x, BAt src K r1 s1 ∧ P r r1 x ∧ s1.lastIntValue = (x : Nat) else BAt src K r s1) := by
  unfold identFrame
  rx6_step
  rx6_step
  dsimp only
  simp only [h.uFlag', Bool.not_false, Bool.true_and]
  refine Wp.call hhit (fun b s1 ⟨hk, hb⟩ => ?_)
  cases b
  · obtain ⟨r', hat⟩ := hb
    rx6_autos
    · rename_i hn
      exact ⟨hk, BAt.of_index_eq hat h (by simpa using hn)⟩
    · rx6_false
  · exact ⟨hk, hb⟩

theorem eatRegexpIdentifierPart_wb (n : Nat) (r : List Nat) (s : St) (h : BAt src K r s) :
    Wp (eatRegexpIdentifierPart n s) (fun b s1 => Keep s s1 ∧
      if b = true then ∃ r1 x, BAt src K r1 s1 ∧ RxSpecB.RegExpIdentifierPart r r1 x ∧ s1.lastIntValue = (x : Nat)
      else BAt src K r s1) := by
  rw [eatRegexpIdentifierPart_eq_frame]
  exact identFrame_wb r s h (identPartHit_wb n r s h)

theorem eatRegexpIdentifierStart_wb (n : Nat) (r : List Nat) (s : St) (h : BAt src K r s) :
    Wp (eatRegexpIdentifierStart n s) (fun b s1 => Keep s s1 ∧
      if b = true then ∃ r1 x, BAt src K r1 s1 ∧ RxSpecB.RegExpIdentifierStart r r1 x ∧ s1.lastIntValue = (x : Nat)
      else BAt src K r s1) := by
  rw [eatRegexpIdentifierStart_eq_frame]
  exact identFrame_wb r s h (identStartHit_wb n r s h)

theorem part_valueB {r r1 : List Nat} {x : Nat} (h : RxSpecB.RegExpIdentifierPart r r1 x) : IdentifierPartChar x := by
  cases h with
  | char _ _ h | escape _ _ _ _ h | pair _ _ _ _ h => exact h

theorem start_valueB {r r1 : List Nat} {x : Nat} (h : RxSpecB.RegExpIdentifierStart r r1 x) : IdentifierStartChar x := by
  cases h with
  | char _ _ h | escape _ _ _ _ h | pair _ _ _ _ h => exact h

/-- a sequence of `RegExpIdentifierPart`s with the code points they denote -/
inductive PartsRunB : List Nat → List Nat → List Nat → Prop
  | nil (r : List Nat) : PartsRunB r r []
  | cons (r m r1 : List Nat) (x : Nat) (xs : List Nat) : RxSpecB.RegExpIdentifierPart r m x → PartsRunB m r1 xs →
      PartsRunB r r1 (x :: xs)

theorem name_appendB {r m r1 : List Nat} {nm xs : List Nat} (h1 : RxSpecB.RegExpIdentifierName r m nm) (h2 : PartsRunB m r1 xs) :
    RxSpecB.RegExpIdentifierName r r1 (nm ++ xs) := by
  induction h2 generalizing nm with
  | nil r => rw [List.append_nil]; exact h1
  | cons r' m' r1' x xs hp _ ih =>
    have := ih (RxSpecB.RegExpIdentifierName.part r r' m' nm x h1 hp)
    rw [List.append_assoc] at this; exact this

theorem eatRegexpIdentifierNameLoop_wb : ∀ (n : Nat) (r : List Nat) (s : St), BAt src K r s →
    Wp (eatRegexpIdentifierNameLoop n s) (fun _ s1 => KeepN s s1 ∧ ∃ xs r1, PartsRunB r r1 xs ∧ BAt src K r1 s1 ∧
      s1.lastStrValue = s.lastStrValue ++ xs)
  | 0, _, _, _ => Wp.outOfFuel
  | n + 1, r, s, h => by
    have ih := eatRegexpIdentifierNameLoop_wb n
    unfold eatRegexpIdentifierNameLoop
    rx6_auto
    · rename_i s1 hk hat1
      exact ⟨hk.toN, [], r, PartsRunB.nil r, hat1, by rw [hk.str, List.append_nil]⟩
    · rename_i s1 hk r1 x hat1 hpart hv c hc _ s2 hk2 xs r2 hrun hat2 hstr
      have hpc := identifierPartChar_char (part_valueB hpart)
      rw [hv, i64AsU32_small hpc.2, hpc.1] at hc
      cases hc
      refine ⟨⟨hk2.gn.trans hk.gn, hk2.bn.trans hk.bn⟩, x :: xs, r2, PartsRunB.cons r r1 r2 x xs hpart hrun, hat2, ?_⟩
      rw [hstr]
      show (s1.lastStrValue ++ [x]) ++ xs = _
      rw [hk.str, List.append_assoc]; rfl

theorem eatRegexpIdentifierName_wb (n : Nat) (r : List Nat) (s : St) (h : BAt src K r s) :
    Wp (eatRegexpIdentifierName n s) (fun b s1 => KeepN s s1 ∧
      if b = true then ∃ r1 nm, BAt src K r1 s1 ∧ RxSpecB.RegExpIdentifierName r r1 nm ∧ s1.lastStrValue = nm
      else BAt src K r s1) := by
  unfold eatRegexpIdentifierName
  rx6_auto
  all_goals (try rx6_false)
  rename_i s1 hk r1 x hat1 hstart hv c hc _ s2 hk2 xs r2 hrun hat2 hstr
  have hpc := identifierPartChar_char (identifierStartChar_part (start_valueB hstart))
  rw [hv, i64AsU32_small hpc.2, hpc.1] at hc
  cases hc
  refine ⟨⟨hk2.gn.trans hk.gn, hk2.bn.trans hk.bn⟩, ?_⟩
  rw [if_pos rfl]
  exact ⟨r2, [x] ++ xs, hat2, name_appendB (RxSpecB.RegExpIdentifierName.start r r1 x hstart) hrun, hstr⟩

theorem eatGroupName_wb (n : Nat) (r : List Nat) (s : St) (h : BAt src K r s) :
    Wp (eatGroupName n s) (fun b s1 => KeepN s s1 ∧
      if b = true then ∃ r1 nm, BAt src K r1 s1 ∧ RxSpecB.GroupName r r1 nm ∧ s1.lastStrValue = nm
      else BAt src K r s1) := by
  unfold eatGroupName
  rx6_auto
  all_goals (try rx6_false)
  rename_i m hat0 s1 hk nm hstr r1 hat1 hat2 hname
  rx6_true
  exact ⟨r1, nm, by rx6_at, ⟨m, rfl, hname⟩, hstr⟩

end DL.Rx
