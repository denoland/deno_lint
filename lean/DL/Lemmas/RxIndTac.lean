import Lean
import DL.Lemmas.RxInd

/-! # History independence: the symbolic-execution tactic -/
namespace DL.Rx
set_option linter.unusedSimpArgs false

/-- `Sub Q W` for register sets built by `ins`/`insIf` over a common base: membership in `W` is evaluated -/
macro "rx_sub" : tactic => `(tactic| first
  | with_reducible exact Sub.refl _
  | repeat' first
    | with_reducible exact Sub.refl _
    | ((with_reducible refine Sub.ins_left ?hr ?_); case hr => with_unfolding_all exact rfl)
    | ((with_reducible refine Sub.insIf_left ?hr ?_); case hr => with_unfolding_all exact rfl)
    | with_reducible refine Sub.insIf_false ?_
    | with_reducible refine Sub.insIf_mono ?_
    | with_reducible refine Sub.ins_right _ ?_
    | with_reducible refine Sub.insIf_right _ _ ?_)

/-- `∀ s s', Eqv c W s s' → v s' = v s`: rewrite with the fields on which the runs agree until the two sides coincide
(`W r = true` by evaluation).  `simp only` with the same facts is slow here: it visits every subterm of the continuation. -/
macro "rx_reads" : tactic => `(tactic| (intro s0 s0' h; first
  | with_reducible rfl
  | repeat (first
      | rw [h.uFlag] | rw [h.strict] | rw [h.nFlag] | rw [h.reader] | rw [h.int rfl] | rw [h.str rfl]
      | rw [h.min rfl] | rw [h.max rfl] | rw [h.key rfl] | rw [h.val rfl] | rw [h.aiq rfl] | rw [h.ncp rfl]
      | rw [h.gn rfl] | rw [h.bn rfl] | rw [h.oc, h.oc'])))

/-- An assignment: the rule for the registers it writes; the values written must be the same in both runs.
`fail_if_success (fail_if_success t)` succeeds iff `t` does and leaves no trace: it tests that the head is a `modSt` at
all, so that the nine rules after it are not tried (each with its `rx_reads`) on any other head. -/
macro "rx2_modSt" : tactic => `(tactic| first
  | with_reducible refine Ind.bind_setInt ?_
  | with_reducible refine Ind.bind_setStr ?_
  | ((fail_if_success (fail_if_success (with_reducible refine Ind.bind_modSt (W' := ?_) ?_ ?_)));
     first
      | with_reducible refine Ind.bind_modStr (by rx_reads) ?_
      | with_reducible refine Ind.bind_modMinMax (by rx_reads) (by rx_reads) ?_
      | with_reducible refine Ind.bind_modKey (by rx_reads) ?_
      | with_reducible refine Ind.bind_modVal (by rx_reads) ?_
      | with_reducible refine Ind.bind_modKeyVal (by rx_reads) (by rx_reads) ?_
      | with_reducible refine Ind.bind_modAiq (by rx_reads) ?_
      | with_reducible refine Ind.bind_modCaps (by rx_reads) (by rx_reads) (by rx_reads) ?_
      | with_reducible refine Ind.bind_modNFlag (by rx_reads) ?_
      | with_reducible refine Ind.bind_modReader (by rx_reads) ?_))

open Lean Elab Tactic Meta in
/-- `f args >>= g` for an `f` that has its lemma `DL.Rx.I.f` (looked up by name from the head symbol, so that no
unification against the wrong lemma is ever attempted).  First directly, then through `Ind.pre` with the lemma's `W`
instantiated by the current register set (for lemmas whose precondition is `ins r W`: needs `r` in the current set). -/
elab "rx2_known" : tactic => do
  let g ← getMainGoal
  g.withContext do
    let t ← instantiateMVars (← g.getType)
    unless t.isAppOfArity ``DL.Rx.Ind 5 do throwError "rx2_known: not an Ind goal"
    let args := t.getAppArgs
    let wcur := args[2]!
    let comp := args[3]!
    unless comp.isAppOfArity ``Bind.bind 6 do throwError "rx2_known: not a bind"
    let m := comp.getAppArgs[4]!
    let .const n _ := m.getAppFn | throwError "rx2_known: no head constant"
    -- a local hypothesis (induction hypothesis) about the same function, possibly universally quantified
    for decl in (← getLCtx) do
      if decl.isImplementationDetail then continue
      let ty ← instantiateMVars decl.type
      let hit ← withNewMCtxDepth do
        let (_, _, concl) ← forallMetaTelescope ty
        if concl.isAppOfArity ``DL.Rx.Ind 5 then
          match concl.getAppArgs[3]!.getAppFn with
          | .const n' _ => pure (n' == n)
          | _ => pure false
        else pure false
      if hit then
        let (margs, _, _) ← forallMetaTelescope ty
        let h ← Term.exprToSyntax (mkAppN (mkFVar decl.fvarId) margs)
        evalTactic (← `(tactic|
          (with_reducible refine Ind.bind (Ind.pre $h ?hs) (fun _ => ?_); (case hs => rx_sub))))
        return
    let .str _ last := n | throwError "rx2_known: anonymous"
    let lem := Name.str (Name.str `DL.Rx "I") last
    unless (← getEnv).contains lem do throwError "rx2_known: no lemma {lem}"
    let id := mkIdent lem
    let w ← Term.exprToSyntax wcur
    evalTactic (← `(tactic| first
      | with_reducible refine Ind.bind ($id ..) (fun _ => ?_)
      | (with_reducible refine Ind.bind (Ind.pre ($id (W := $w) ..) ?hs) (fun _ => ?_); (case hs => rx_sub))))

/-- One step of symbolic execution; `rx2_known` comes first because it fails at once on a head that has no lemma.  The last
alternative is for a call in tail position (neither a bind nor a `pure`): `Ind.tail` puts `>>= pure` behind it, so that
the next step finds the lemma of the callee. -/
macro "rx2_step" : tactic => `(tactic| (show Ind _ _ _ _; first
  | rx2_known
  | with_reducible refine Ind.bind_pure ?_
  | ((with_reducible refine Ind.pure ?_); focus (rx_sub; done))
  | with_reducible refine Ind.bind_assoc ?_
  | with_reducible refine Ind.bind_orM ?_
  | with_reducible refine Ind.bind_andM ?_
  | ((with_reducible refine Ind.bind_getSt ?_ (fun _ => ?_)); focus rx_reads)
  | with_reducible exact Ind.bind_fail
  | with_reducible refine Ind.ite_true ?_
  | with_reducible refine Ind.ite_false ?_
  | with_reducible refine Ind.bind_ite_true ?_
  | with_reducible refine Ind.bind_ite_false ?_
  | rx_split Ind.bind_ite
  | rx_split Ind.ite
  | rx2_modSt
  | with_reducible refine Ind.bind_unwrap (fun _ _ => ?_)
  | with_reducible exact Ind.bind_rustPanic
  | with_reducible exact Ind.bind_outOfFuel
  | with_reducible exact Ind.outOfFuel
  | split
  | dsimp only
  | ((fail_if_success (with_reducible refine Ind.bind (W1 := ?_) ?_ (fun _ => ?_)));
     (fail_if_success (with_reducible refine Ind.pure ?_)); with_reducible refine Ind.tail ?_)))

macro "rx2_auto" : tactic => `(tactic| repeat' rx2_step)

end DL.Rx
