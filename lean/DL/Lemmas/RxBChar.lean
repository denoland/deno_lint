import DL.Lemmas.RxBLex
import DL.Lemmas.RxSpecUni
import DL.Lemmas.RxSpecChar

/-! # Annex B (no `u` flag): `\u…` escapes, `LegacyOctalEscapeSequence`, `CharacterEscape[~U, N]` -/
namespace DL.Rx
open DL.RxSpec

attribute [local irreducible] isScalar
variable {src : List Nat} {K : Bool × Nat}

/-- `\u…`: with `force_u_flag` (inside a group name) the Unicode-mode escapes, otherwise `u` and four hex digits only -/
theorem eatRegexpUnicodeEscapeSequence_wb (n : Nat) (f : Bool) (r : List Nat) (s : St) (h : BAt src K r s) :
    Wp (eatRegexpUnicodeEscapeSequence n f s) (fun b s1 => Keep s s1 ∧
      if b = true then ∃ r1 v, BAt src K r1 s1 ∧
        (if f = true then RegExpUnicodeEscapeSequence r r1 v else ∃ m, r = ch 'u' :: m ∧ Hex4Digits m r1 v) ∧
        s1.lastIntValue = (v : Nat)
      else BAt src K r s1 ∧ (f = false → ¬∃ m r' v, r = ch 'u' :: m ∧ Hex4Digits m r' v)) := by
  cases f with
  | true =>
    unfold eatRegexpUnicodeEscapeSequence
    rx6_auto
    all_goals (try (rx6_falsen; exact fun h => nomatch h))
    · -- `u{ CodePoint }`
      rename_i m hat0 s1 hk1 hat1 hnp s2 hk2 hat2 hn4 s3 hk3 ds r1 hm hne hds hle hat3 hv
      rx6_true
      refine ⟨r1, mvHex ds, hat3, ?_, hv⟩
      rw [hm]
      exact RegExpUnicodeEscapeSequence.codePoint _ r1 ds ⟨rfl, hne, hds⟩ hle
    · -- four digits, not the first half of a pair
      rename_i m hat0 s1 hk1 hat1 hnp s2 hk2 ds r1 hm hlen hds hat2 hv
      rx6_true
      refine ⟨r1, mvHex ds, hat2, ?_, hv⟩
      have h4 := hex4_of hm hlen hds
      by_cases hL : isLead (mvHex ds)
      · refine RegExpUnicodeEscapeSequence.lead m r1 _ h4 hL ?_
        rintro ⟨m', r', t, hr1, ⟨a, b, c', d, hm', ha, hb, hc, hd, ht⟩, hT⟩
        refine hnp ⟨r', mvHex ds, t, ds, [a, b, c', d], ?_, hlen, rfl, hds, ?_, rfl, ht, hL, hT⟩
        · rw [hm, hr1, hm']; rfl
        · intro x hx
          simp only [List.mem_cons, List.not_mem_nil, or_false] at hx
          rcases hx with rfl | rfl | rfl | rfl <;> assumption
      · exact RegExpUnicodeEscapeSequence.nonLead m r1 _ h4 hL
    · -- a surrogate pair
      rename_i m hat0 s1 hk1 r1 lead trail hp hat1 hv
      rx6_true
      refine ⟨r1, _, hat1, ?_, hv⟩
      obtain ⟨ds1, ds2, hm, l1, l2, hd1, hd2, hl, ht, hL, hT⟩ := hp
      subst hl ht
      exact RegExpUnicodeEscapeSequence.surrogatePair m (ds2 ++ r1) r1 _ _ (hex4_of hm l1 hd1) hL (hex4_of rfl l2 hd2) hT
  | false =>
    unfold eatRegexpUnicodeEscapeSequence
    rx6_auto
    · rx6_falsen
      rename_i m _ _ _ _ hno _
      rintro _ ⟨m', r', v, e, a, b, c', d, e2, ha, hb, hc, hd, _⟩
      have e' : m = m' := (List.cons.inj e).2
      subst e'
      refine hno ⟨[a, b, c', d], r', e2, rfl, ?_⟩
      intro x hx
      simp only [List.mem_cons, List.not_mem_nil, or_false] at hx
      rcases hx with rfl | rfl | rfl | rfl <;> assumption
    · rename_i m hat0 s1 hk1 ds r1 hm hlen hds hat1 hv
      rx6_true
      exact ⟨r1, mvHex ds, hat1, ⟨m, rfl, hex4_of hm hlen hds⟩, hv⟩
    · rx6_falsen
      rename_i hne
      rintro _ ⟨m', r', v, e, _⟩
      exact hne (by rw [e]; rfl)

theorem ne_of_head_ne' {x y : Nat} {m : List Nat} (h : (x :: m).head? ≠ some y) : x ≠ y := by
  intro he; exact h (by rw [he]; rfl)

/-- the five `ControlEscape` letters -/
theorem characterEscapeB_ctl {nf : Bool} {x v : Nat} {r1 : List Nat} (h : ctlVal x = some v) :
    RxSpecB.CharacterEscape nf (x :: r1) r1 v := by
  unfold ctlVal at h
  by_cases h1 : x = ch 'f'
  · rw [if_pos h1] at h; cases h; subst h1; exact .f _
  by_cases h2 : x = ch 'n'
  · rw [if_neg h1, if_pos h2] at h; cases h; subst h2; exact .n _
  by_cases h3 : x = ch 'r'
  · rw [if_neg h1, if_neg h2, if_pos h3] at h; cases h; subst h3; exact .r _
  by_cases h4 : x = ch 't'
  · rw [if_neg h1, if_neg h2, if_neg h3, if_pos h4] at h; cases h; subst h4; exact .t _
  by_cases h5 : x = ch 'v'
  · rw [if_neg h1, if_neg h2, if_neg h3, if_neg h4, if_pos h5] at h; cases h; subst h5; exact .v _
  · rw [if_neg h1, if_neg h2, if_neg h3, if_neg h4, if_neg h5] at h; cases h

theorem eatControlEscape_wb (r : List Nat) (s : St) (h : BAt src K r s) :
    Wp (eatControlEscape s) (fun b s1 => Keep s s1 ∧
      if b = true then ∃ r1 v, BAt src K r1 s1 ∧ RxSpecB.CharacterEscape K.1 r r1 v ∧ s1.lastIntValue = (v : Nat)
      else BAt src K r s1 ∧ ∀ x, r.head? = some x → x ∉ [c 'f', c 'n', c 'r', c 't', c 'v']) := by
  refine (eatControlEscape_at BAt.like r s h).mono fun b s1 ⟨k, hb⟩ => ⟨k, ?_⟩
  cases b
  · obtain ⟨rfl, hn⟩ := (if_neg Bool.false_ne_true).mp hb
    refine (if_neg Bool.false_ne_true).mpr ⟨h, fun x hx hm => ?_⟩
    rw [hx] at hn
    simp only [List.mem_cons, List.not_mem_nil, or_false] at hm
    rcases hm with rfl | rfl | rfl | rfl | rfl <;> cases hn
  · obtain ⟨x, r1, v, rfl, hv, h1, hi⟩ := (if_pos rfl).mp hb
    exact (if_pos rfl).mpr ⟨r1, v, h1, characterEscapeB_ctl hv, hi⟩

theorem eatControlLetter_wb (r : List Nat) (s : St) (h : BAt src K r s) :
    Wp (eatControlLetter s) (fun b s1 => Keep s s1 ∧
      if b = true then ∃ l r1, r = l :: r1 ∧ ControlLetter l ∧ BAt src K r1 s1 ∧ s1.lastIntValue = ((l % 32 : Nat) : Int)
      else BAt src K r s1 ∧ ∀ l, r.head? = some l → ¬ControlLetter l) := by
  refine (eatControlLetter_at BAt.like r s h).mono fun b s1 ⟨k, hb⟩ => ⟨k, ?_⟩
  cases b
  · obtain ⟨rfl, hn⟩ := (if_neg Bool.false_ne_true).mp hb
    exact (if_neg Bool.false_ne_true).mpr ⟨h, hn⟩
  · exact hb

theorem eatCControlLetter_wb (r : List Nat) (s : St) (h : BAt src K r s) :
    Wp (eatCControlLetter s) (fun b s1 => Keep s s1 ∧
      if b = true then ∃ r1 v, BAt src K r1 s1 ∧ RxSpecB.CharacterEscape K.1 r r1 v ∧ s1.lastIntValue = (v : Nat)
      else BAt src K r s1 ∧ ¬∃ l r', r = c 'c' :: l :: r' ∧ ControlLetter l) := by
  refine (eatCControlLetter_at BAt.like r s h).mono fun b s1 ⟨k, hb⟩ => ⟨k, ?_⟩
  cases b
  · obtain ⟨rfl, hn⟩ := (if_neg Bool.false_ne_true).mp hb
    exact (if_neg Bool.false_ne_true).mpr ⟨h, hn⟩
  · obtain ⟨l, r1, rfl, hl, h1, hv⟩ := (if_pos rfl).mp hb
    exact (if_pos rfl).mpr ⟨r1, l % 32, h1, .controlLetter l r1 hl, hv⟩

theorem eatZero_wb (r : List Nat) (s : St) (h : BAt src K r s) :
    Wp (eatZero s) (fun b s1 => Keep s s1 ∧
      if b = true then ∃ r1 v, BAt src K r1 s1 ∧ RxSpecB.CharacterEscape K.1 r r1 v ∧ s1.lastIntValue = (v : Nat)
      else BAt src K r s1) := by
  unfold eatZero
  rx6_auto
  all_goals (try rx6_false)
  rename_i x r' hx hn hat
  have hx0 : x = ch '0' := by simpa using hx
  subst hx0
  rx6_true
  refine ⟨r', 0, by rx6_at, RxSpecB.CharacterEscape.zero _ ?_, rfl⟩
  intro d hd hdd
  apply hn
  cases r' with
  | nil => cases hd
  | cons y r'' =>
    cases hd
    exact isAsciiDigit_of_decimalDigit hdd

theorem eatHexEscapeSequence_wb (r : List Nat) (s : St) (h : BAt src K r s) :
    Wp (eatHexEscapeSequence s) (fun b s1 => Keep s s1 ∧
      if b = true then ∃ r1 v, BAt src K r1 s1 ∧ RxSpecB.CharacterEscape K.1 r r1 v ∧ s1.lastIntValue = (v : Nat)
      else BAt src K r s1 ∧ ¬∃ a b r', r = c 'x' :: a :: b :: r' ∧ HexDigit a ∧ HexDigit b) := by
  unfold eatHexEscapeSequence
  rx6_auto
  · rx6_falsen
    rename_i m _ _ _ _ hno _
    rintro ⟨a, b, r', e, ha, hb⟩
    have e' : m = a :: b :: r' := (List.cons.inj e).2
    refine hno ⟨[a, b], r', e', rfl, ?_⟩
    intro d hd
    simp only [List.mem_cons, List.not_mem_nil, or_false] at hd
    rcases hd with rfl | rfl <;> assumption
  · rename_i m hat0 s1 hk ds r1 hm hlen hds hat1 hv
    rx6_true
    rcases ds with _ | ⟨a, _ | ⟨b, _ | ⟨e, t⟩⟩⟩ <;> simp at hlen
    refine ⟨r1, mvHex [a, b], hat1, ?_, hv⟩
    rw [hm]
    exact RxSpecB.CharacterEscape.hex a b r1 (hds a (by simp)) (hds b (by simp))
  · rx6_falsen
    rename_i hne
    rintro ⟨a, b, r', e, _⟩
    exact hne (by rw [e]; rfl)

theorem BAt.mem_src {r : List Nat} {s : St} (h : BAt src K r s) {x : Nat} (hx : x ∈ r) : x ∈ src := by
  rw [← h.rest] at hx
  exact List.mem_of_mem_drop hx

/-- `eat_identity_escape` alone: any unit other than `c` (and `k` with named groups) -/
theorem eatIdentityEscape_wb (hsrc : ∀ x ∈ src, x ≤ 0xFFFF) (r : List Nat) (s : St) (h : BAt src K r s) :
    Wp (eatIdentityEscape s) (fun b s1 => Keep s s1 ∧
      if b = true then ∃ x r1, r = x :: r1 ∧ RxSpecB.SourceCharacter x ∧ x ≠ c 'c' ∧ (K.1 = true → x ≠ c 'k') ∧
        BAt src K r1 s1 ∧ s1.lastIntValue = (x : Nat)
      else BAt src K r s1 ∧ ∀ x, r.head? = some x → x = c 'c' ∨ (K.1 = true ∧ x = c 'k')) := by
  unfold eatIdentityEscape isValidIdentityEscape
  rx6_auto
  · rx6_falsen
    rename_i x r1 hn hc
    intro y hy; cases hy
    exact .inl (by simpa using hc)
  · rename_i x r1 hn hc hat
    rx6_true
    exact ⟨x, r1, rfl, hsrc x (h.mem_src (by simp)), by simpa using hc, fun hk => absurd (h.nFlag'.trans hk) hn,
      by rx6_at, rfl⟩
  · rx6_falsen
    rename_i x r1 hnf hc
    intro y hy; cases hy
    have hc0 : ¬x = ch 'c' → x = ch 'k' := by simpa using hc
    have hc' : x = ch 'c' ∨ x = ch 'k' := by
      by_cases e : x = ch 'c'
      · exact .inl e
      · exact .inr (hc0 e)
    rcases hc' with e | e
    · exact .inl e
    · exact .inr ⟨h.nFlag'.symm.trans hnf, e⟩
  · rename_i x r1 hnf hc hat
    rx6_true
    have hc' : x ≠ ch 'c' ∧ x ≠ ch 'k' := by simpa using hc
    exact ⟨x, r1, rfl, hsrc x (h.mem_src (by simp)), hc'.1, fun _ => hc'.2, by rx6_at, rfl⟩
  · rx6_falsen
    exact fun x hx => nomatch hx

open DL.RxSpecB

theorem isDigit8_iff (x : Nat) : isDigit x 8 = true ↔ OctalDigit x := by
  have ho : OctalDigit x ↔ 0x30 ≤ x ∧ x ≤ 0x37 := Iff.rfl
  rw [ho]
  unfold isDigit
  by_cases hs : isScalar x = true
  · rw [if_pos hs]
    unfold charToDigit
    by_cases h1 : 0x30 ≤ x ∧ x ≤ 0x39
    · rw [if_pos h1]; dsimp only
      by_cases h2 : x - 0x30 < 8
      · rw [if_pos h2]; simp; omega
      · rw [if_neg h2]; simp; omega
    · rw [if_neg h1]
      by_cases h3 : 0x61 ≤ x ∧ x ≤ 0x7a
      · rw [if_pos h3]; dsimp only
        rw [if_neg (by omega)]; simp; omega
      · rw [if_neg h3]
        by_cases h4 : 0x41 ≤ x ∧ x ≤ 0x5a
        · rw [if_pos h4]; dsimp only
          rw [if_neg (by omega)]; simp; omega
        · rw [if_neg h4]; simp; omega
  · rw [if_neg hs]
    constructor
    · intro h; cases h
    · intro h; exact absurd (isScalar_ascii x (by omega)) hs

theorem toDigit8_eq {x : Nat} (h : OctalDigit x) : toDigit x 8 = some (octVal x) := by
  have h' : 0x30 ≤ x ∧ x ≤ 0x37 := h
  unfold toDigit
  rw [if_pos (isScalar_ascii x (by omega))]
  unfold charToDigit
  rw [if_pos (by omega)]; dsimp only
  rw [if_pos (by omega)]; rfl

/-- one octal digit, or nothing (then the register is 0) -/
theorem eatOctalDigit_wb (r : List Nat) (s : St) (h : BAt src K r s) :
    Wp (eatOctalDigit s) (fun b s1 => Keep s s1 ∧
      if b = true then ∃ x r1, r = x :: r1 ∧ OctalDigit x ∧ BAt src K r1 s1 ∧ s1.lastIntValue = (octVal x : Nat)
      else BAt src K r s1 ∧ ∀ d, r.head? = some d → ¬OctalDigit d) := by
  unfold eatOctalDigit
  rx6_auto
  · rename_i x r' hn
    rx6_falsen
    intro d hd hod
    cases hd
    exact hn ((isDigit8_iff _).mpr hod)
  · rename_i x r' hc hat y hy
    have ho := (isDigit8_iff x).mp hc
    rw [toDigit8_eq ho] at hy
    cases hy
    rx6_true
    exact ⟨x, r', rfl, ho, by rx6_at, rfl⟩
  · rx6_falsen
    exact fun d hd => nomatch hd

theorem octal_facts {x : Nat} (h : OctalDigit x) : 0x30 ≤ x ∧ x ≤ 0x37 ∧ octVal x = x - 0x30 := ⟨h.1, h.2, rfl⟩

/-- what the octal alternative reads: a `LegacyOctalEscapeSequence`, or a lone `0` (which the alternative `\0` before it
has left only when a digit follows, so that this case does not arise in `consume_character_escape`) -/
def OctalRead (r r1 : List Nat) (v : Nat) : Prop :=
  LegacyOctalEscapeSequence r r1 v ∨ (r = c '0' :: r1 ∧ v = 0 ∧ ∀ d, r1.head? = some d → ¬DecimalDigit d)

theorem OctalRead.characterEscape {nf : Bool} {r r1 : List Nat} {v : Nat} (h : OctalRead r r1 v) :
    RxSpecB.CharacterEscape nf r r1 v := by
  rcases h with h | ⟨rfl, rfl, h⟩
  · exact .legacyOctal _ _ _ h
  · exact .zero _ h

theorem eatLegacyOctalEscapeSequence_wb (r : List Nat) (s : St) (h : BAt src K r s) :
    Wp (eatLegacyOctalEscapeSequence s) (fun b s1 => Keep s s1 ∧
      if b = true then ∃ r1 v, BAt src K r1 s1 ∧ OctalRead r r1 v ∧ s1.lastIntValue = (v : Nat)
      else BAt src K r s1 ∧ ∀ d, r.head? = some d → ¬OctalDigit d) := by
  unfold eatLegacyOctalEscapeSequence
  rx6_auto
  all_goals (try (rx6_falsen; assumption))
  · -- one digit
    rename_i s1 hk1 a m hr ha hat1 hv1 s2 hk2 hat2 hno
    rx6_true
    subst hr
    obtain ⟨a1, a2, a3⟩ := octal_facts ha
    by_cases h0 : a = 0x30
    · subst h0
      by_cases h89 : ∃ d, m.head? = some d ∧ (d = c '8' ∨ d = c '9')
      · refine ⟨m, 0, by rx6_at, .inl (.zero89 m h89), ?_⟩
        st_norm; rw [hv1]; rfl
      · refine ⟨m, 0, by rx6_at, .inr ⟨rfl, rfl, ?_⟩, ?_⟩
        · intro d hd hdd
          have hdd' : 0x30 ≤ d ∧ d ≤ 0x39 := hdd
          by_cases ho : OctalDigit d
          · exact hno d hd ho
          · have : ¬(0x30 ≤ d ∧ d ≤ 0x37) := ho
            exact h89 ⟨d, hd, by
              have e8 : c '8' = 0x38 := rfl
              have e9 : c '9' = 0x39 := rfl
              rw [e8, e9]; omega⟩
        · st_norm; rw [hv1]; rfl
    · refine ⟨m, octVal a, by rx6_at, .inl (.one a m ?_ hno), ?_⟩
      · show 0x31 ≤ a ∧ a ≤ 0x37; omega
      · st_norm; rw [hv1]
  · -- two digits, the first 4–7
    rename_i s1 hk1 a m hr ha hat1 hv1 s2 hk2 b m2 hm hb hat2 hv2 hn
    rx6_true
    subst hr hm
    obtain ⟨a1, a2, a3⟩ := octal_facts ha
    refine ⟨m2, octVal a * 8 + octVal b, by rx6_at, .inl (.two47 a b m2 ?_ hb), ?_⟩
    · have : ¬(s1.lastIntValue ≤ 3) := fun hle => hn (decide_eq_true hle)
      rw [hv1, a3] at this
      show 0x34 ≤ a ∧ a ≤ 0x37; omega
    · st_norm; rw [hv1, hv2]; omega
  · -- two digits, the first 0–3, no third
    rename_i s1 hk1 a m hr ha hat1 hv1 s2 hk2 b m2 hm hb hat2 hv2 hc s3 hk3 hat3 hno
    rx6_true
    subst hr hm
    obtain ⟨a1, a2, a3⟩ := octal_facts ha
    refine ⟨m2, octVal a * 8 + octVal b, by rx6_at, .inl (.two03 a b m2 ?_ hb hno), ?_⟩
    · have : s1.lastIntValue ≤ 3 := of_decide_eq_true hc
      rw [hv1, a3] at this
      show 0x30 ≤ a ∧ a ≤ 0x33; omega
    · st_norm; rw [hv1, hv2]; omega
  · -- three digits
    rename_i s1 hk1 a m hr ha hat1 hv1 s2 hk2 b m2 hm hb hat2 hv2 hc s3 hk3 d m3 hm2 hd hat3 hv3
    rx6_true
    subst hr hm hm2
    obtain ⟨a1, a2, a3⟩ := octal_facts ha
    refine ⟨m3, octVal a * 64 + octVal b * 8 + octVal d, by rx6_at, .inl (.three a b d m3 ?_ hb hd), ?_⟩
    · have : s1.lastIntValue ≤ 3 := of_decide_eq_true hc
      rw [hv1, a3] at this
      show 0x30 ≤ a ∧ a ≤ 0x33; omega
    · st_norm; rw [hv1, hv2, hv3]; omega

theorem octal_zero : OctalDigit (c '0') := ⟨by decide, by decide⟩
theorem octal_of_nonZero {a : Nat} (h : NonZeroOctalDigit a) : OctalDigit a := ⟨Nat.le_trans (by decide) h.1, h.2⟩
theorem octal_of_03 {a : Nat} (h : ZeroToThree a) : OctalDigit a := ⟨h.1, Nat.le_trans h.2 (by decide)⟩
theorem octal_of_47 {a : Nat} (h : FourToSeven a) : OctalDigit a := ⟨Nat.le_trans (by decide) h.1, h.2⟩

theorem legacyOctal_head {i r : List Nat} {v : Nat} (h : LegacyOctalEscapeSequence i r v) :
    ∃ x m, i = x :: m ∧ OctalDigit x := by
  cases h with
  | zero89 => exact ⟨_, _, rfl, octal_zero⟩
  | one _ _ ha => exact ⟨_, _, rfl, octal_of_nonZero ha⟩
  | two03 _ _ _ ha | three _ _ _ _ ha => exact ⟨_, _, rfl, octal_of_03 ha⟩
  | two47 _ _ _ ha => exact ⟨_, _, rfl, octal_of_47 ha⟩

theorem octal_not89 {b : Nat} (hb : OctalDigit b) : ¬(b = c '8' ∨ b = c '9') := by
  rintro (rfl | rfl) <;> exact absurd hb.2 (by decide)

theorem zeroToThree_not47 {a : Nat} (h : ZeroToThree a) (h' : FourToSeven a) : False :=
  absurd (Nat.le_trans h'.1 h.2) (by decide)

/-- the lookaheads make `LegacyOctalEscapeSequence` a partial function of the text: of any two alternatives at the
same text, the digits or the lookahead of one contradict the other -/
theorem legacyOctal_unique {i r r' : List Nat} {v v' : Nat} (h : LegacyOctalEscapeSequence i r v)
    (h' : LegacyOctalEscapeSequence i r' v') : r = r' ∧ v = v' := by
  -- `0` before `8` or `9` against a second octal digit
  have z89 : ∀ {b : Nat} {m : List Nat}, (∃ d, (b :: m).head? = some d ∧ (d = c '8' ∨ d = c '9')) → OctalDigit b → False :=
    fun ⟨_, hd, h8⟩ hb => by cases hd; exact octal_not89 hb h8
  cases h with
  | zero89 _ h89 =>
    cases h' with
    | zero89 => exact ⟨rfl, rfl⟩
    | one _ _ ha | two47 _ _ _ ha => exact absurd ha.1 (by decide)
    | two03 _ _ _ _ hb | three _ _ _ _ _ hb => exact (z89 h89 hb).elim
  | one a _ ha hno =>
    cases h' with
    | zero89 => exact absurd ha.1 (by decide)
    | one => exact ⟨rfl, rfl⟩
    | two03 _ _ _ _ hb | two47 _ _ _ _ hb | three _ _ _ _ _ hb => exact (hno _ rfl hb).elim
  | two03 a b _ ha hb hno =>
    cases h' with
    | zero89 _ h89 => exact (z89 h89 hb).elim
    | one _ _ _ hno' => exact (hno' _ rfl hb).elim
    | two03 => exact ⟨rfl, rfl⟩
    | two47 _ _ _ ha' => exact (zeroToThree_not47 ha ha').elim
    | three _ _ _ _ _ _ hd => exact (hno _ rfl hd).elim
  | two47 a b _ ha hb =>
    cases h' with
    | zero89 => exact absurd ha.1 (by decide)
    | one _ _ _ hno' => exact (hno' _ rfl hb).elim
    | two03 _ _ _ ha' | three _ _ _ _ ha' => exact (zeroToThree_not47 ha' ha).elim
    | two47 => exact ⟨rfl, rfl⟩
  | three a b d _ ha hb hd =>
    cases h' with
    | zero89 _ h89 => exact (z89 h89 hb).elim
    | one _ _ _ hno' => exact (hno' _ rfl hb).elim
    | two03 _ _ _ _ _ hno' => exact (hno' _ rfl hd).elim
    | two47 _ _ _ ha' => exact (zeroToThree_not47 ha ha').elim
    | three => exact ⟨rfl, rfl⟩

/-- a `LegacyOctalEscapeSequence` that begins with `0` goes on with a digit, so it is not the escape `\0` -/
theorem legacyOctal_zero {m r : List Nat} {v : Nat} (h : LegacyOctalEscapeSequence (c '0' :: m) r v) :
    ∃ d, m.head? = some d ∧ DecimalDigit d := by
  generalize hi : c '0' :: m = i at h
  cases h with
  | zero89 _ h89 =>
    cases hi
    obtain ⟨d, hd, h8⟩ := h89
    exact ⟨d, hd, by rcases h8 with rfl | rfl <;> exact ⟨by decide, by decide⟩⟩
  | one a _ ha => cases hi; exact absurd ha.1 (by decide)
  | two47 a b _ ha => cases hi; exact absurd ha.1 (by decide)
  | two03 a b _ _ hb | three a b _ _ _ hb => cases hi; exact ⟨b, rfl, hb.1, Nat.le_trans hb.2 (by decide)⟩

theorem NE.eatOctalDigit : NE DL.Rx.eatOctalDigit := by unfold DL.Rx.eatOctalDigit; ne_auto
theorem NE.eatLegacyOctalEscapeSequence : NE DL.Rx.eatLegacyOctalEscapeSequence := by
  have := NE.eatOctalDigit
  unfold DL.Rx.eatLegacyOctalEscapeSequence; ne_auto

/-- without the `u` flag and outside strict mode the guard of the legacy octal alternative is open -/
theorem legacyGuard_eq {m : M Bool} {r : List Nat} {s : St} (h : BAt src K r s) :
    ((do pure (!(← getSt).strict)) <and> (do pure (!(← getSt).uFlag)) <and> m) s = m s := by
  show (if (!s.strict) = true then (do pure (!(← getSt).uFlag)) <and> m else pure false) s = m s
  rw [h.strict']
  show (if (!s.uFlag) = true then m else pure false) s = m s
  rw [h.uFlag']
  rfl

/-- one alternative of an ordered choice: its success is handed to `hG`, its failure passes the choice on -/
theorem Wp.orM_cases {a b : M Bool} {s : St} {G F : St → Prop} {Q : Bool → St → Prop}
    (ha : Wp (a s) (fun x s1 => if x = true then G s1 else F s1)) (hG : ∀ s1, G s1 → Q true s1)
    (hb : ∀ s1, F s1 → Wp (b s1) Q) : Wp ((a <or> b) s) Q := by
  refine Wp.bind (ha.mono ?_)
  intro x s1 hx
  cases x
  · exact hb s1 ((if_neg Bool.false_ne_true).mp hx)
  · exact hG s1 ((if_pos rfl).mp hx)

/-- a fact that holds on both answers, moved into the two branches -/
theorem Wp.and_ite {r : Res Bool} {R G F : St → Prop} (h : Wp r (fun b s1 => R s1 ∧ if b = true then G s1 else F s1)) :
    Wp r (fun b s1 => if b = true then R s1 ∧ G s1 else R s1 ∧ F s1) := by
  refine h.mono fun b s1 hq => ?_
  cases b
  · exact (if_neg Bool.false_ne_true).mpr ⟨hq.1, (if_neg Bool.false_ne_true).mp hq.2⟩
  · exact (if_pos rfl).mpr ⟨hq.1, (if_pos rfl).mp hq.2⟩

/-- one alternative of an ordered choice that stays at the input `r`: its failure passes on what it has excluded;
`Keep` is carried along -/
theorem Wp.orM_alt {a b : M Bool} {s0 s : St} {r : List Nat} {G : St → Prop} {N : Prop} {Q : Bool → St → Prop}
    (hk : Keep s0 s) (ha : Wp (a s) (fun x s1 => Keep s s1 ∧ if x = true then G s1 else BAt src K r s1 ∧ N))
    (hG : ∀ s1, Keep s0 s1 → G s1 → Q true s1)
    (hb : ∀ s1, Keep s0 s1 → BAt src K r s1 → N → Wp (b s1) Q) : Wp ((a <or> b) s) Q :=
  Wp.orM_cases ha.and_ite (fun s1 g => hG s1 (hk.trans g.1) g.2) (fun s1 f => hb s1 (hk.trans f.1) f.2.1 f.2.2)

theorem consumeCharacterEscape_wb (hsrc : ∀ x ∈ src, x ≤ 0xFFFF) (n : Nat) (r : List Nat) (s : St) (h : BAt src K r s) :
    Wp (consumeCharacterEscape n s) (fun b s1 => Keep s s1 ∧
      if b = true then ∃ r1 v, BAt src K r1 s1 ∧ RxSpecB.CharacterEscape K.1 r r1 v ∧ s1.lastIntValue = (v : Nat)
      else BAt src K r s1 ∧ ¬∃ r1 v, RxSpecB.CharacterEscape K.1 r r1 v) := by
  unfold consumeCharacterEscape
  have ok : ∀ s1, Keep s s1 →
      (∃ r1 v, BAt src K r1 s1 ∧ RxSpecB.CharacterEscape K.1 r r1 v ∧ s1.lastIntValue = (v : Nat)) →
      Keep s s1 ∧ if true = true then
        ∃ r1 v, BAt src K r1 s1 ∧ RxSpecB.CharacterEscape K.1 r r1 v ∧ s1.lastIntValue = (v : Nat)
      else BAt src K r s1 ∧ ¬∃ r1 v, RxSpecB.CharacterEscape K.1 r r1 v :=
    fun s1 k g => ⟨k, (if_pos rfl).mpr g⟩
  refine Wp.orM_alt (Keep.refl s) (eatControlEscape_wb r s h) ok fun s1 k1 h1 hctl => ?_
  refine Wp.orM_alt k1 (eatCControlLetter_wb r s1 h1) ok fun s2 k2 h2 hcc => ?_
  -- `eatZero` excludes nothing: `\0` before a digit is left to the legacy octal alternative
  have hz : Wp (eatZero s2) (fun x s3 => Keep s2 s3 ∧ if x = true then
      ∃ r1 v, BAt src K r1 s3 ∧ RxSpecB.CharacterEscape K.1 r r1 v ∧ s3.lastIntValue = (v : Nat)
      else BAt src K r s3 ∧ True) := by
    refine (eatZero_wb r s2 h2).mono fun x s3 hq => ?_
    cases x
    · exact ⟨hq.1, (if_neg Bool.false_ne_true).mpr ⟨(if_neg Bool.false_ne_true).mp hq.2, trivial⟩⟩
    · exact hq
  refine Wp.orM_alt k2 hz ok fun s3 k3 h3 _ => ?_
  refine Wp.orM_alt k3 (eatHexEscapeSequence_wb r s3 h3) ok fun s4 k4 h4 hhex => ?_
  refine Wp.orM_alt k4 (eatRegexpUnicodeEscapeSequence_wb n false r s4 h4) ?_ fun s5 k5 h5 huni => ?_
  · rintro s5 k5 ⟨r1, v, hat, ⟨m, e, h4⟩, hv⟩
    exact ok s5 k5 ⟨r1, v, hat, e ▸ RxSpecB.CharacterEscape.unicode m r1 v h4, hv⟩
  refine Wp.orM_alt k5 (by rw [legacyGuard_eq h5]; exact eatLegacyOctalEscapeSequence_wb r s5 h5) ?_
    fun s6 k6 h6 hoct => ?_
  · rintro s6 k6 ⟨r1, v, hat, ho, hv⟩
    exact ok s6 k6 ⟨r1, v, hat, ho.characterEscape, hv⟩
  refine (eatIdentityEscape_wb hsrc r s6 h6).mono ?_
  rintro b s7 ⟨k7, hb⟩
  refine ⟨k6.trans k7, ?_⟩
  cases b
  · rw [if_neg (by decide)] at hb ⊢
    refine ⟨hb.1, ?_⟩
    rintro ⟨r1, v, hce⟩
    cases hce with
    | f | n | r | t | v => exact hctl _ rfl (by simp)
    | controlLetter l _ hl => exact hcc ⟨l, _, rfl, hl⟩
    | zero _ _ => exact hoct _ rfl octal_zero
    | hex a b' _ ha hb' => exact hhex ⟨a, b', _, rfl, ha, hb'⟩
    | unicode m _ _ hd4 => exact huni rfl ⟨m, _, _, rfl, hd4⟩
    | legacyOctal _ _ _ hl =>
      obtain ⟨x, m, e, hx⟩ := legacyOctal_head hl
      subst e
      exact hoct x rfl hx
    | identity _ _ _ hc hk _ =>
      rcases hb.2 _ rfl with e | ⟨e1, e2⟩
      · exact hc e
      · exact hk e1 e2
  · rw [if_pos rfl] at hb ⊢
    obtain ⟨x, r1, hr, hsc, hc, hk, hat, hv⟩ := hb
    subst hr
    refine ⟨r1, x, hat, RxSpecB.CharacterEscape.identity x r1 hsc hc hk ⟨hctl x rfl, hoct x rfl, ?_, ?_⟩, hv⟩
    · rintro ⟨e, a, b', r', e2, ha, hb'⟩
      subst e e2
      exact hhex ⟨a, b', r', rfl, ha, hb'⟩
    · rintro ⟨e, r', v, hd4⟩
      subst e
      exact huni rfl ⟨r1, r', v, rfl, hd4⟩

end DL.Rx
