import DL.Lemmas.CFClaims

/-! The claims of the rule layers hold in the metadata left by any visit of a piece of syntax of the fragment, from a state
whose keys are fresh (the mutual induction `claims_ok`), hence in the metadata the analyzer computes for a program
(`program_claims`). -/
namespace DL.CF

mutual
theorem Stmt.claims_ok : ∀ (s : Stmt) (ls : List Id) (a : A), s.inF = true → PreK s.positions a →
    SClaims s ls (visitStmt s a).info
  | .simple p t kids, ls, a, hf, h =>
    have hf' : kids.okF = true := by simpa [Stmt.inF] using hf
    simple_claims ls p t kids a hf h (fun x => Kids.claims_ok kids x hf')
  | .block p b, ls, a, hf, h =>
    have hf' : b.inF = true := by simpa [Stmt.inF] using hf
    block_claims ls p b a hf h (fun x => Stmts.claims_ok b x hf')
  | .ifS p t c none, ls, a, hf, h =>
    have hf' : t.okF = true ∧ c.inF = true := by simp_all [Stmt.inF]
    if_none_claims ls p t c a hf h (fun x => Kids.claims_ok t x hf'.1) (fun x => Stmt.claims_ok c [] x hf'.2)
  | .ifS p t c (some al), ls, a, hf, h =>
    have hf' : (t.okF = true ∧ c.inF = true) ∧ al.inF = true := by simp_all [Stmt.inF]
    if_some_claims ls p t c al a hf h (fun x => Kids.claims_ok t x hf'.1.1) (fun x => Stmt.claims_ok c [] x hf'.1.2)
      (fun x => Stmt.claims_ok al [] x hf'.2)
  | .whileS p t tt b, ls, a, hf, h =>
    have hf' : t.okF = true ∧ b.inF = true := by simp_all [Stmt.inF]
    while_claims ls p t tt b a hf h (fun x => Kids.claims_ok t x hf'.1) (fun x => Stmt.claims_ok b [] x hf'.2)
  | .doWhileS p b t tt, ls, a, hf, h =>
    have hf' : t.okF = true ∧ b.inF = true := by simp_all [Stmt.inF]
    doWhile_claims ls p b t tt a hf h (fun x => Kids.claims_ok t x hf'.1) (fun x => Stmt.claims_ok b [] x hf'.2)
  | .forS p i u t ht tt b, ls, a, hf, h =>
    have hf' : ((i.okF = true ∧ u.okF = true) ∧ t.okF = true) ∧ b.inF = true := by simp_all [Stmt.inF]
    for_claims ls p i u t ht tt b a hf h (fun x => Kids.claims_ok i x hf'.1.1.1) (fun x => Kids.claims_ok u x hf'.1.1.2)
      (fun x => Kids.claims_ok t x hf'.1.2) (fun x => Stmt.claims_ok b [] x hf'.2)
  | .forInOf p l r b, ls, a, hf, h =>
    have hf' : (l.okF = true ∧ r.okF = true) ∧ b.inF = true := by simp_all [Stmt.inF]
    forInOf_claims ls p l r b a hf h (fun x => Kids.claims_ok l x hf'.1.1) (fun x => Kids.claims_ok r x hf'.1.2)
      (fun x => Stmt.claims_ok b [] x hf'.2)
  | .switchS p d cs, ls, a, hf, h =>
    have hf' : d.okF = true ∧ cs.inF = true := by simp_all [Stmt.inF]
    have hp : p ∉ cs.upos := fun hm =>
      (List.nodup_cons.mp h.nodup).1 (List.mem_append.mpr (Or.inr (Cases.upos_sub cs p hm)))
    switch_claims ls p d cs a hf h (fun x => Kids.claims_ok d x hf'.1)
      (fun x hx he => Cases.claims_ok cs p x hf'.2 hx hp he)
  | .tryS p bp b hh cp ck hf fp f, ls, a, hfr, h =>
    have hf' : (((b.inF = true ∧ ck.okFn = true) ∧ f.inF = true) ∧ (hh = true ∨ ck.isNil = true)) ∧ (hf = true ∨ f.isNil = true) := by
      simpa [Stmt.inF] using hfr
    try_claims ls p bp b hh cp ck hf fp f a hfr h
      (fun x => Stmts.claims_ok b x hf'.1.1.1.1)
      (fun x => Kids.claims_ok ck x (Kids.okF_of_okFn ck hf'.1.1.1.2))
      (fun x => Stmts.claims_ok f x hf'.1.1.2)
  | .labeled p l b, ls, a, hf, h =>
    have hf' : b.inF = true := by simpa [Stmt.inF] using hf
    labeled_claims ls p l b a hf h (fun x hx => Stmt.claims_ok b (l :: ls) x hf' hx)
  | .brk p l, ls, a, _, _ => Claims.nil _
  | .cont p l, ls, a, _, _ => Claims.nil _
  | .ret p arg, ls, a, hf, h =>
    have hf' : arg.okF = true := by simp_all [Stmt.inF]
    ret_claims ls p arg a hf h (fun x => Kids.claims_ok arg x hf')
  | .throw p arg, ls, a, hf, h =>
    have hf' : arg.okF = true := by simp_all [Stmt.inF]
    throw_claims ls p arg a hf h (fun x => Kids.claims_ok arg x hf')
theorem Stmts.claims_ok : ∀ (l : Stmts) (a : A), l.inF = true → PreK l.positions a → LClaims l (visitStmts l a).info
  | .nil, a, _, _ => Claims.nil _
  | .cons s r, a, hf, h =>
    have hf' : s.inF = true ∧ r.inF = true := by simpa [Stmts.inF] using hf
    stmtsCons_claims s r a h (fun x => Stmt.claims_ok s [] x hf'.1) (fun x => Stmts.claims_ok r x hf'.2)
theorem Kid.claims_ok : ∀ (k : Kid) (a : A), k.okF = true → PreK k.positions a → KdClaims k (visitKid k a).info
  | .expr e ks, a, hf, h =>
    have hf' : ks.okF = true := by simpa [Kid.okF] using hf
    expr_claims e ks a (Kids.claims_ok ks a hf' h)
  | .fnScope p ks, a, hf, h =>
    have hf' : ks.okFn = true := by simpa [Kid.okF] using hf
    fnScope_claims p ks a hf' h (fun x => Kids.claims_ok ks x (Kids.okF_of_okFn ks hf'))
  | .block q body, a, hf, h =>
    have hf' : body.inF = true := by simpa [Kid.okF] using hf
    kidBlock_claims q body a h (fun x => Stmts.claims_ok body x hf')
  | .stmt s, a, hf, h =>
    have hf' : s.inF = true := by simpa [Kid.okF] using hf
    Stmt.claims_ok s [] a hf' h
theorem Kids.claims_ok : ∀ (ks : Kids) (a : A), ks.okF = true → PreK ks.positions a → KClaims ks (visitKids ks a).info
  | .nil, a, _, _ => Claims.nil _
  | .cons k r, a, hf, h =>
    have hf' : k.okF = true ∧ r.okF = true := by simpa [Kids.okF] using hf
    kidsCons_claims k r a h (fun x => Kid.claims_ok k x hf'.1) (fun x => Kids.claims_ok r x hf'.2)
theorem Cases.claims_ok : ∀ (cs : Cases) (sp : Nat) (a : A), cs.inF = true → PreK cs.positions a → sp ∉ cs.upos →
    (stopsEnd a.sc.end_ = true → a.info.ur sp = true) → CClaims cs sp (visitCases cs a).info
  | .nil, sp, a, _, _, _, _ => Claims.nil _
  | .cons p d t body r, sp, a, hf, h, hsp, he =>
    have hf' : (t.okF = true ∧ body.inF = true) ∧ r.inF = true := by simp_all [Cases.inF]
    have hspr : sp ∉ r.upos := fun hm => hsp (by simp [Cases.upos, hm])
    casesCons_claims sp p d t body r a hf h hsp he (fun x => Kids.claims_ok t x hf'.1.1)
      (fun x => Stmts.claims_ok body x hf'.1.2) (fun x hx he' => Cases.claims_ok r sp x hf'.2 hx hspr he')
end

theorem Kids.claims_okFn : ∀ (ks : Kids) (a : A), ks.okFn = true → PreK ks.positions a → KClaims ks (visitKids ks a).info :=
  fun ks a hf => Kids.claims_ok ks a (Kids.okF_of_okFn ks hf)

def itemsSwCases : List Item → List (Nat × Stmts)
  | [] => []
  | .stmt s :: r => s.swCases ++ itemsSwCases r
  | .decl k :: r => k.swCases ++ itemsSwCases r

def itemsStopViol (info : Info) : List Item → List Nat
  | [] => []
  | .stmt s :: r => s.stopViol info [] ++ itemsStopViol info r
  | .decl k :: r => k.stopViol info ++ itemsStopViol info r

def Program.swCases (prog : Program) : List (Nat × Stmts) := itemsSwCases prog.items

theorem stopViol_items (prog : Program) (info : Info) : prog.stopViol info = itemsStopViol info prog.items := by
  unfold Program.stopViol
  generalize prog.items = items
  induction items with
  | nil => rfl
  | cons it r ih => cases it <;> simp [itemsStopViol, ih]

theorem items_claims (m : Bool) : ∀ (items : List Item) (a : A), itemsInF items = true → PreK (itemsPositions items) a →
    Claims (itemsStopViol (visitItems m items a).info items) (itemsSwCases items) (itemsGetters items) (visitItems m items a).info
  | [], a, _, _ => Claims.nil _
  | .stmt s :: r, a, hf, h => by
    -- the claims of the first item hold after its visit and survive the visits of the rest, which do not touch its keys;
    -- in a script a top-level statement goes through `visit_stmt_or_block`, which either changes nothing or meets a
    -- `break`/`continue`, which has no claims
    have hf' : s.inF = true ∧ itemsInF r = true := by simpa [itemsInF, Item.inF] using hf
    simp only [itemsPositions, Item.positions] at h
    have hs := Stmt.claims_ok s [] a hf'.1 h.left
    have hr := items_claims m r _ hf'.2 (h.right (visitItem_writes m (.stmt s) a).info)
    simp only [visitItems, itemsStopViol, itemsSwCases, itemsGetters]
    have hs' : SClaims s [] (visitItems m r (visitItem m (.stmt s) a)).info := by
      have hvi : (∀ ls F, SClaims s ls F) ∨ visitItem m (.stmt s) a = visitStmt s a := by
        cases m with
        | true => exact Or.inr rfl
        | false =>
          rcases sob_cases s with h' | h'
          · exact Or.inl h'
          · exact Or.inr (h' _)
      rcases hvi with h' | h'
      · exact h' _ _
      · refine hs.transport (fun q hq => ?_)
        rw [(visitItems_writes m r _).info q (fun hq' => h.disj q hq hq'), h']
    exact hs'.append hr
  | .decl k :: r, a, hf, h => by
    have hf' : k.okF = true ∧ itemsInF r = true := by simpa [itemsInF, Item.inF] using hf
    simp only [itemsPositions, Item.positions] at h
    have hk := Kids.claims_ok k a hf'.1 h.left
    have hr := items_claims m r (visitItem m (.decl k) a) hf'.2 (h.right (k.writes a).info)
    simp only [visitItems, itemsStopViol, itemsSwCases, itemsGetters]
    have hk' : KClaims k (visitItems m r (visitItem m (.decl k) a)).info := by
      refine hk.transport (fun q hq => ?_)
      rw [(visitItems_writes m r _).info q (fun hq' => h.disj q hq hq')]; rfl
    exact hk'.append hr

/-- the claims hold in the metadata the analyzer computes for a program of the fragment -/
theorem program_claims (prog : Program) (hf : itemsInF prog.items = true) (hnd : (itemsPositions prog.items).Nodup) :
    Claims (prog.stopViol (analyze prog)) prog.swCases prog.getters (analyze prog) := by
  rw [stopViol_items, analyze_items]
  exact items_claims prog.isModule prog.items _ hf ⟨fun _ _ => rfl, hnd⟩

end DL.CF
