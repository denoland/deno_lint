import DL.Lemmas.CFSound

/-! Soundness invariant, `switch`: what the case bodies' completions say about `continue`/`throw`, the ends recorded for the
cases (`Cases.marks`) and the end computed from them, one `visit_switch_case`, the case list, the statement. -/
namespace DL.CF

/-- some case body can `continue` (with or without label) -/
def Cases.anyCont : Cases → Bool
  | .nil => false
  | .cons _ _ _ body r => body.compl.c || body.compl.hasCl || r.anyCont

theorem Cases.cont_any : ∀ (cs : Cases), ((cs.fallCompl.c || cs.fallCompl.hasCl) = true → cs.anyCont = true) ∧
    ((cs.compl.1.c || cs.compl.1.hasCl) = true → cs.anyCont = true)
  | .nil => by constructor <;> intro h <;> cases h
  | .cons _ _ _ body r => by
    have ⟨ihf, ihc⟩ := Cases.cont_any r
    simp only [Cases.fallCompl_cons, Cases.compl_cons, Cases.anyCont, union_c, union_hasCl, seq_c, seq_hasCl,
      Bool.or_eq_true, Bool.and_eq_true] at ihf ihc ⊢
    grind

/-- some case body can throw -/
def Cases.anyT : Cases → Bool
  | .nil => false
  | .cons _ _ _ body r => body.compl.t || r.anyT

theorem Cases.t_any : ∀ (cs : Cases), (cs.fallCompl.t = true → cs.anyT = true) ∧ (cs.compl.1.t = true → cs.anyT = true)
  | .nil => by constructor <;> intro h <;> cases h
  | .cons _ _ _ body r => by
    have ⟨ihf, ihc⟩ := Cases.t_any r
    simp only [Cases.fallCompl_cons, Cases.compl_cons, Cases.anyT, union_t, seq_t, Bool.or_eq_true, Bool.and_eq_true] at ihf ihc ⊢
    grind

/-- what `visit_switch_case` recorded for every case: an end, and if it is forced the body neither completes normally
nor breaks -/
def Cases.marks (info : Info) (live : Bool) : Cases → Prop
  | .nil => True
  | .cons p _ _ body r =>
    (∃ e, info.endAt p = some e ∧ (e.isForced = true → (live && (body.compl.n || body.compl.b)) = false)) ∧ r.marks info live

theorem Cases.marks_congr (live : Bool) (info info' : Info) : ∀ (cs : Cases), (∀ q ∈ cs.positions, info' q = info q) →
    cs.marks info live → cs.marks info' live
  | .nil, _, _ => trivial
  | .cons p _ t body r, h, hm => by
    simp only [Cases.marks] at hm ⊢
    refine ⟨?_, Cases.marks_congr live info info' r (fun q hq => h q (by simp [Cases.positions, hq])) hm.2⟩
    rw [endAt_eq_of_info_eq (h p (by simp [Cases.positions]))]
    exact hm.1

theorem switchEnd_default (info : Info) : ∀ (cs : Cases), (switchEnd info cs).1 = cs.compl.2
  | .nil => by simp [switchEnd, Cases.compl]
  | .cons _ d _ _ r => by simp only [switchEnd, Cases.compl_cons]; rw [switchEnd_default info r, Bool.or_comm]

theorem mergeForced_some {x y e : End} (h : x.mergeForced y = some e) : x.isForced = true ∧ y.isForced = true ∧ e.isForced = true := by
  cases x <;> cases y <;> simp [End.mergeForced] at h
  subst h; simp [End.isForced]

theorem switchEnd_forced (info : Info) (live : Bool) : ∀ (cs : Cases) (e : End), cs.marks info live → (switchEnd info cs).2 = some e →
    e.isForced = true ∧ (live && (cs.compl.1.n || cs.compl.1.b)) = false
  | .nil, e, _, h => by
    simp only [switchEnd, Option.some.injEq] at h; subst h
    simp [End.isForced, Cases.compl]
  | .cons p d t body r, e, hm, h => by
    -- `switchEnd` merges the ends recorded for the cases, and `mergeForced` yields a result only from two forced ends:
    -- so this case's end is forced, hence its body neither completes normally nor breaks, and the rest by induction
    simp only [Cases.marks] at hm
    obtain ⟨⟨e0, he0, hf0⟩, hmr⟩ := hm
    simp only [switchEnd, he0] at h
    cases hacc : (switchEnd info r).2 with
    | none => rw [hacc] at h; simp at h
    | some x =>
      rw [hacc] at h
      simp only [Option.bind_some] at h
      have hmf := mergeForced_some h
      have ih := switchEnd_forced info live r x hmr hacc
      refine ⟨hmf.2.2, ?_⟩
      have h0 := hf0 hmf.2.1
      have h1 := ih.2
      simp only [Cases.compl_cons, union_n, union_b, seq_n, seq_b]
      revert h0 h1
      cases live <;> cases body.compl.n <;> cases body.compl.b <;> cases r.compl.1.n <;> cases r.compl.1.b <;> simp

theorem markAsEnd_self_some (p : Nat) (e : End) (a : A) : ∃ e', (markAsEnd p e a).info.endAt p = some e' := by
  unfold markAsEnd
  rcases h : a.sc.end_ with _ | ⟨r, t, i⟩ | _ | _ <;> simp [endAt_setEnd]

/-- The invariant of a case list visited from `a` to `a'`.  Every case restores the scope's end and keeps unlabelled
`break`s to itself, so both are unchanged (`end_`, `fb`); what the bodies' completions mean for the statement is recorded
per case in the metadata (`marks`).  The other fields are those of `PostL` for the completions `Cases.flowC`
(`PostC.toL`, `PostC.ofL`). -/
structure PostC (live : Bool) (cs : Cases) (a a' : A) : Prop where
  end_ : a'.sc.end_ = a.sc.end_
  fb : a'.sc.foundBreak = a.sc.foundBreak
  monoC : a.sc.foundContinue = true → a'.sc.foundContinue = true
  p2c : (live && cs.anyCont) = true → a'.sc.foundContinue = true
  mt : a.sc.mayThrow = true → a'.sc.mayThrow = true
  pT : (live && (cs.testsMayThrow || cs.anyT)) = true → a'.sc.mayThrow = true
  p3 : ∀ q ∈ cs.upos, a'.info.ur q = true → (live && cs.reach q) = false
  p3i : ∀ q ∈ cs.upos, a'.info.ur q = true → cs.inner q = false
  frame : ∀ q, q ∉ cs.positions → a'.info q = a.info q
  marks : cs.marks a'.info live

theorem withChildR_case (p : Nat) (op : A → A) (x : A) :
    withChildR .case p op x =
      ({ sc := mergeSc .case x.sc (op (childA .case x)).sc, info := (op (childA .case x)).info }, (op (childA .case x)).sc) := by
  simp only [withChildR, childA, childExit]
  cases (op _).sc.end_ <;> rfl

/-- the case list as a piece of the flow, as far as the scope records it: any `continue` of a case body, the throws of
tests and bodies. What the bodies' completions mean for the statement is read from `Cases.marks`. -/
def Cases.flowC (cs : Cases) : Compl := { n := true, c := cs.anyCont, t := cs.testsMayThrow || cs.anyT }

theorem PostC.toL {live : Bool} {cs : Cases} {a a' : A} (h : PostC live cs a a') (hs : stopsEnd a.sc.end_ = true → live = false) :
    PostL live cs.upos cs.positions cs.flowC cs.reach cs.inner a a' :=
  ⟨fun hst => by simp [hs (h.end_ ▸ hst)], by simp [Cases.flowC], h.p2c, fun hb => h.fb ▸ hb, h.monoC,
    by simp [Cases.flowC, Compl.hasCl], h.p3, h.p3i, h.frame, h.mt, h.pT⟩

theorem PostC.ofL {live : Bool} {cs : Cases} {a a' : A} (h : PostL live cs.upos cs.positions cs.flowC cs.reach cs.inner a a')
    (he : a'.sc.end_ = a.sc.end_) (hfb : a'.sc.foundBreak = a.sc.foundBreak) (hm : cs.marks a'.info live) : PostC live cs a a' :=
  ⟨he, hfb, h.monoC, h.p2c, h.monoT, h.pT, h.p3, h.p3i, h.frame, hm⟩

/-- the end `visit_switch_case` records for a case is forced only if no `break` was found and the body's scope has a
forced end: then the body neither completes normally nor breaks -/
theorem caseEnd_sound {live : Bool} {body : Stmts} {x c : A} {us ps : List Nat} {r i : Nat → Bool}
    (hb : PostL live us ps body.compl r i x c)
    (h : ((if c.sc.foundBreak.isSome = true then some End.brk
      else if isForcedEnd c.sc.end_ = true then c.sc.end_ else none : Option End).getD .cont).isForced = true) :
    (live && (body.compl.n || body.compl.b)) = false := by
  by_cases hfb : c.sc.foundBreak.isSome = true
  · rw [if_pos hfb] at h; simp [End.isForced] at h
  · rw [if_neg hfb] at h
    by_cases hfe : isForcedEnd c.sc.end_ = true
    · have hn := hb.p1 (stops_of_forced hfe)
      have hbk := not_break_dead hb (by revert hfb; cases c.sc.foundBreak <;> simp)
      rw [Bool.and_or_distrib_left, hn, hbk]; rfl
    · rw [if_neg hfe] at h; simp [End.isForced] at h

/-- one `visit_switch_case`: the test, the body in a child scope that keeps its `break`s to itself, then the mark at `p`
with the scope's end restored -/
theorem caseStep (live : Bool) (p : Nat) (t : Kids) (body : Stmts) (a : A)
    (hpre : Pre live (p :: (t.positions ++ body.positions)) a)
    (ihk : ∀ x, PreK t.positions x → PostK t.upos t.positions t.inner t.mayThrow x (visitKids t x))
    (ihb : ∀ a0, Pre live body.positions a0 → PostL live body.upos body.positions body.compl body.reach body.inner a0 (visitStmts body a0)) :
    let a1 := caseTail p a.sc.end_ (withChildR .case p (visitStmts body) (visitKids t a))
    PostL live (t.upos ++ body.upos) (p :: (t.positions ++ body.positions))
        { n := false, c := body.compl.c, t := t.mayThrow || body.compl.t, cl := body.compl.cl }
        body.reach (fun q => t.inner q || body.inner q) a a1 ∧
      a1.sc.end_ = a.sc.end_ ∧ a1.sc.foundBreak = a.sc.foundBreak ∧
      ∃ e, a1.info.endAt p = some e ∧ (e.isForced = true → (live && (body.compl.n || body.compl.b)) = false) := by
  intro a1
  subst a1
  have hnd := List.nodup_append.mp (List.nodup_cons.mp hpre.nodup).2
  have hdisj : ∀ q, q ∈ t.positions → q ∈ body.positions → False := fun q h1 h2 => hnd.2.2 q h1 q h2 rfl
  have hk := ihk a ⟨fun q hq => hpre.fresh q (List.mem_cons_of_mem _ (List.mem_append.mpr (Or.inl hq))), hnd.1⟩
  generalize visitKids t a = x at hk
  have hsx : stopsEnd x.sc.end_ = true → live = false := fun h => hpre.hs (hk.end_ ▸ h)
  have hb := ihb _ (childA_pre live .case _ x hsx (fun q hq => by
    rw [endAt_eq_of_info_eq (hk.frame q fun h => hdisj q h hq)]
    exact hpre.fresh q (List.mem_cons_of_mem _ (List.mem_append.mpr (Or.inr hq)))) hnd.2.1)
  -- the body seen from the case's scope: its `break`s stay in the child scope
  have hbL := hb.scope (kind := .case) (p := p) (op := visitStmts body) (a := x) (c' := { body.compl with b := false })
    hsx nofun ⟨id, nofun, id, id⟩ nofun
  have w := withChild_sees .case p (visitStmts body) x
  rw [show withChildR .case p (visitStmts body) x =
    (withChild .case p (visitStmts body) x, (visitStmts body (childA .case x)).sc) from rfl]
  generalize visitStmts body (childA .case x) = c at hb w
  generalize withChild .case p (visitStmts body) x = y at hbL w
  unfold caseTail
  simp only
  generalize hce : ((if c.sc.foundBreak.isSome = true then some End.brk
      else if isForcedEnd c.sc.end_ = true then c.sc.end_ else none : Option End).getD .cont) = ce
  have h1 := ((((hk.toL hpre.hs).seq ((Bool.and_true live).symm ▸ hbL) hdisj t.insidePure body.inside).withN false
    (fun _ => by simp)).widen (ps' := p :: (t.positions ++ body.positions)) fun _ => List.mem_cons_of_mem _).markAsEnd
    (List.mem_cons_self ..) ce (fun _ => by simp) |>.setEnd a.sc.end_ (fun _ => by simp)
  refine ⟨h1.weaken (fun _ h => h) (fun _ h => h) ⟨by simp, by simp, by simp [Compl.hasCl, Compl.seq, Compl.union, Compl.abrupt], by simp⟩ (fun q _ h => by simpa using h)
    (fun _ _ => id), rfl, ?_, ?_⟩
  · simp [w.fbKept rfl, hk.fb]
  · simp only [setEnd_info]
    obtain ⟨e', he'⟩ := markAsEnd_self_some p ce y
    refine ⟨e', he', fun hf => ?_⟩
    rcases markAsEnd_self_forced _ _ _ (show isForcedEnd ((markAsEnd p ce _).info.endAt p) = true by
      rw [he']; cases e' <;> simp_all [End.isForced]) with h | h
    · simp [hsx (stops_of_forced (w.end_ rfl ▸ h))]
    · exact caseEnd_sound hb (hce ▸ h)

theorem casesCons_ok (live : Bool) (p : Nat) (d : Bool) (t : Kids) (body : Stmts) (r : Cases) (a : A)
    (hf : (Cases.cons p d t body r).inF = true) (hpre : Pre live (Cases.cons p d t body r).positions a)
    (ihk : ∀ x, t.okF = true → t.pure = true → PreK t.positions x →
      PostK t.upos t.positions t.inner t.mayThrow x (visitKids t x))
    (ihb : ∀ a0, body.inF = true → Pre live body.positions a0 →
      PostL live body.upos body.positions body.compl body.reach body.inner a0 (visitStmts body a0))
    (ihr : ∀ a0, r.inF = true → Pre live r.positions a0 → PostC live r a0 (visitCases r a0)) :
    PostC live (.cons p d t body r) a (visitCases (.cons p d t body r) a) := by
  -- this case (`caseStep`) and the rest (`ihr`) are alternatives: each leaves the scope's end as it found it; the
  -- mark of this case survives the rest because the rest does not write at `p`
  simp only [Cases.inF, Bool.and_eq_true] at hf
  have hpt := hf.1.1.2
  simp only [Cases.positions] at hpre
  have hsp := Split3.of hpre.nodup
  have hpre' : Pre live ((p :: (t.positions ++ body.positions)) ++ r.positions) a := by
    simpa only [List.cons_append, List.append_assoc] using hpre
  obtain ⟨h1, he1, hfb1, hm1⟩ := caseStep live p t body a hpre'.left (ihk · hf.1.1.1 hpt) (ihb · hf.1.2)
  simp only [visitCases]
  generalize caseTail p a.sc.end_ (withChildR .case p (visitStmts body) (visitKids t a)) = a1 at h1 he1 hfb1 hm1
  have hdisj : ∀ q, q ∈ p :: (t.positions ++ body.positions) → q ∈ r.positions → False :=
    fun q h1 h2 => (List.nodup_append.mp hpre'.nodup).2.2 q h1 q h2 rfl
  have hs1 : stopsEnd a1.sc.end_ = true → live = false := fun h => hpre.hs (he1 ▸ h)
  have h2 := ihr a1 hf.2 ⟨hs1, fun q hq => by
    rw [endAt_eq_of_info_eq (h1.frame q fun h => hdisj q h hq)]; exact hpre.fresh q (by simp [hq]), hsp.nz⟩
  generalize visitCases r a1 = a2 at h2
  have hu := (h1.union (h2.toL hs1) hdisj ((Inside.union t.insidePure body.inside).mono
    fun _ => List.mem_cons_of_mem _) r.inside fun h => hs1 (h2.end_ ▸ h)).weaken
    (us' := (Cases.cons p d t body r).upos) (ps' := (Cases.cons p d t body r).positions)
    (c' := (Cases.cons p d t body r).flowC) (r' := (Cases.cons p d t body r).reach) (i' := (Cases.cons p d t body r).inner)
    (fun q hq => by simpa [Cases.upos] using hq) (fun q hq => by simpa [Cases.positions, or_assoc] using hq)
    ⟨by simp [Cases.flowC], by simp [Cases.flowC], by simp [Cases.flowC, Cases.anyCont, Compl.hasCl, Compl.union, or_comm, or_left_comm],
      by simp [Cases.flowC, Cases.testsMayThrow, Cases.anyT, or_assoc, or_comm, or_left_comm]⟩
    (fun q hq h => ?_) (fun q _ h => by simpa [Cases.inner, Bool.or_assoc] using h)
  · refine .ofL hu (h2.end_.trans he1) (h2.fb.trans hfb1) ⟨?_, h2.marks⟩
    rw [endAt_eq_of_info_eq (h2.frame p hsp.pz)]
    exact hm1
  · have hne : q ≠ p := fun e => by
      simp only [Cases.upos, List.mem_append] at hq
      rcases hq with hq | hq | hq
      · exact hsp.px (e ▸ t.upos_sub q hq)
      · exact hsp.py (e ▸ body.upos_sub q hq)
      · exact hsp.pz (e ▸ r.upos_sub q hq)
    simpa [Cases.reach, hne, Kids.flowReach_pure t q hpt] using h

theorem casesNil_ok (live : Bool) (a : A) : PostC live .nil a (visitCases .nil a) :=
  ⟨rfl, rfl, id, by simp [Cases.anyCont], id, by simp [Cases.testsMayThrow, Cases.anyT], fun _ h _ => absurd h (by simp [Cases.upos]),
    fun _ h _ => absurd h (by simp [Cases.upos]), fun _ _ => rfl, trivial⟩

/-- the mark `visit_switch_stmt` makes at the statement, with the scope's end restored unless the mark is forced -/
theorem PostL.switchFin {live : Bool} {us ps : List Nat} {c : Compl} {r i : Nat → Bool} {a a1 : A}
    (h : PostL live us ps c r i a a1) {p : Nat} (hp : p ∈ ps) (e : End) {prev : Option End}
    (hst : stopsEnd (some e) = true → (live && c.n) = false) (hprev : stopsEnd prev = true → (live && c.n) = false) :
    PostL live us ps c r i a (DL.CF.switchFin p prev e a1) := by
  unfold DL.CF.switchFin; split
  · exact h.markAsEnd hp e hst
  · exact (h.markAsEnd hp e hst).setEnd _ hprev

theorem switch_compl (ls : List Id) (p : Nat) (d : Kids) (cs : Cases) (hd : d.pure = true) :
    let c := Stmt.compl ls (.switchS p d cs)
    c.n = (cs.compl.1.n || !cs.compl.2 || cs.compl.1.b) ∧ c.b = false ∧ c.c = cs.compl.1.c ∧ c.hasCl = cs.compl.1.hasCl ∧
    c.t = (d.mayThrow || cs.testsMayThrow || cs.compl.1.t) := by
  have hdp := Kids.compl_pure d hd
  refine ⟨?_, ?_, ?_, ?_, ?_⟩
  · simp [Stmt.compl, hdp]
  · simp [Stmt.compl, hdp]
  · simp [Stmt.compl, hdp]
  · simp only [Stmt.compl, seq_hasCl, hdp, pureCompl_hasCl, seq_n, pureCompl_n]
    simp [Compl.hasCl, Compl.union, Compl.guard]
    cases cs.compl.2 <;> simp [Compl.normal]
  · simp [Stmt.compl, hdp]

theorem switchE_cases (info : Info) (live : Bool) (cs : Cases) (hm : cs.marks info live) :
    switchE info cs = .cont ∨
    ((switchE info cs).isForced = true ∧ (live && (cs.compl.1.n || !cs.compl.2 || cs.compl.1.b)) = false) := by
  unfold switchE
  cases hfe : (switchEnd info cs).2 with
  | none => exact Or.inl rfl
  | some e =>
    simp only
    by_cases hd : (switchEnd info cs).1 = true
    · rw [if_pos hd]
      right
      have := switchEnd_forced info live cs e hm hfe
      rw [switchEnd_default] at hd
      refine ⟨this.1, ?_⟩
      have h2 := this.2
      rw [hd]
      revert h2; cases live <;> cases cs.compl.1.n <;> cases cs.compl.1.b <;> simp
    · rw [if_neg hd]; exact Or.inl rfl

theorem switch_ok (live : Bool) (ls : List Id) (p : Nat) (d : Kids) (cs : Cases) (a : A)
    (hf : (Stmt.switchS p d cs).inF = true) (hpre : Pre live (p :: (d.positions ++ cs.positions)) a)
    (ihk : ∀ x, d.okF = true → d.pure = true → PreK d.positions x →
      PostK d.upos d.positions d.inner d.mayThrow x (visitKids d x))
    (ihc : ∀ a0, cs.inF = true → Pre live cs.positions a0 → PostC live cs a0 (visitCases cs a0)) :
    PostS live ls (.switchS p d cs) a (visitStmt (.switchS p d cs) a) := by
  -- discriminant, then the cases as the flow `Cases.flowC`, whose normal completion is replaced by the statement's
  -- (`withN`): the end computed from the cases' marks is `Continue`, or forced and then the statement cannot complete
  -- normally (`switchE_cases`); `switchFin` records it and restores the scope's end unless it is forced
  simp only [Stmt.inF, Bool.and_eq_true] at hf
  have hd := hf.1.2
  rw [visitStmt_switch]
  have hk := ihk _ hf.1.1 hd (Prefix.preK hpre)
  generalize visitKids d (flagA a p .other) = a1 at hk ⊢
  have hx := Prefix.ofK hpre hk
  have hs1 : stopsEnd a1.sc.end_ = true → live = false := fun h => hpre.hs (hk.end_ ▸ h)
  have hc := ihc a1 hf.2 ⟨hs1, hx.hfresh, hx.ndr⟩
  generalize visitCases cs a1 = a2 at hc ⊢
  obtain ⟨hn, hb0, hc0, hl0, ht0⟩ := switch_compl ls p d cs hd
  have hE := switchE_cases a2.info live cs hc.marks
  generalize switchE a2.info cs = e at hE
  rw [← hn] at hE
  have hdeadE : stopsEnd (some e) = true → (live && (Stmt.compl ls (.switchS p d cs)).n) = false := by
    intro h
    rcases hE with h' | h'
    · subst h'; simp at h
    · exact h'.2
  have h3 := (((hk.toL hpre.hs).seq ((Bool.and_true live).symm ▸ hc.toL hs1) hx.disj d.insidePure cs.inside).flagFresh hpre
    (d.insidePure.seq cs.inside _)).withN (Stmt.compl ls (.switchS p d cs)).n fun h => by simp [hs1 (hc.end_ ▸ h)]
  have h5 := h3.switchFin (prev := a.sc.end_) (List.mem_cons_self ..) e hdeadE fun h => by simp [hpre.hs h]
  refine ⟨h5.weaken (fun _ h => h) (fun _ h => h) ⟨id, by simp [hb0], fun h => ?_, fun h => ?_⟩ (fun q _ h => ?_)
    (fun _ _ => id), fun _ hst => h3.markAsEnd_at p e hdeadE (by unfold switchFin at hst; split at hst <;> exact hst)⟩
  · have := cs.cont_any.2 (by rw [← hc0, ← hl0]; exact h)
    simp [Cases.flowC, this]
  · rw [ht0] at h
    have := cs.t_any.2
    simp only [Bool.or_eq_true] at h
    rcases h with (h | h) | h <;> simp [Cases.flowC, h, this]
  · simpa [Stmt.reach, Kids.flowReach_pure d q hd, Kids.compl_pure d hd] using h

end DL.CF
