import DL.Model.CFExec
import DL.Lemmas.CFBasic

/-! The closed-form completions (`Stmt.compl` and its companions) are exactly the outcomes of the inductive semantics
(`Exec` …), unconditionally.  First membership of an outcome in a set of completions (`Compl.has`) and how each
operation on `Compl` acts on it; then soundness, by induction on derivations, and completeness, by induction on the
syntax. -/
namespace DL.CF

/-- the outcome `o` is among the completions `c` -/
def Compl.has (c : Compl) : Outcome → Bool
  | .normal => c.n
  | .brk none => c.b
  | .brk (some l) => c.bl.contains l
  | .cont none => c.c
  | .cont (some l) => c.cl.contains l
  | .ret => c.r
  | .thr => c.t

/-- the set with the one completion `o` -/
def Outcome.single : Outcome → Compl
  | .normal => .normal
  | .brk none => { b := true }
  | .brk (some l) => { bl := [l] }
  | .cont none => { c := true }
  | .cont (some l) => { cl := [l] }
  | .ret => { r := true }
  | .thr => { t := true }

theorem has_single {o' o : Outcome} : o'.single.has o = true ↔ o = o' := by
  rcases o' with _ | (_ | l') | (_ | l') | _ | _ <;> rcases o with _ | (_ | l) | (_ | l) | _ | _ <;>
    simp [Outcome.single, Compl.has, Compl.normal]

theorem compl_brk (ls : List Id) (p : Nat) (l : Option Id) : Stmt.compl ls (.brk p l) = (Outcome.brk l).single := by
  cases l <;> rfl

theorem compl_cont (ls : List Id) (p : Nat) (l : Option Id) : Stmt.compl ls (.cont p l) = (Outcome.cont l).single := by
  cases l <;> rfl

/-- a statement about some outcome among `c`, read off the fields of `c` -/
theorem exists_has_iff (c : Compl) (P : Outcome → Prop) :
    (∃ o, c.has o = true ∧ P o) ↔
      (c.n = true ∧ P .normal) ∨ (c.b = true ∧ P (.brk none)) ∨ (c.c = true ∧ P (.cont none)) ∨ (c.r = true ∧ P .ret) ∨
      (c.t = true ∧ P .thr) ∨ (∃ l ∈ c.bl, P (.brk (some l))) ∨ (∃ l ∈ c.cl, P (.cont (some l))) := by
  constructor
  · rintro ⟨o, h, hp⟩
    rcases o with _ | (_ | l) | (_ | l) | _ | _
    · exact .inl ⟨h, hp⟩
    · exact .inr (.inl ⟨h, hp⟩)
    · exact .inr (.inr (.inr (.inr (.inr (.inl ⟨l, List.contains_iff_mem.mp h, hp⟩)))))
    · exact .inr (.inr (.inl ⟨h, hp⟩))
    · exact .inr (.inr (.inr (.inr (.inr (.inr ⟨l, List.contains_iff_mem.mp h, hp⟩)))))
    · exact .inr (.inr (.inr (.inl ⟨h, hp⟩)))
    · exact .inr (.inr (.inr (.inr (.inl ⟨h, hp⟩))))
  · rintro (⟨h, hp⟩ | ⟨h, hp⟩ | ⟨h, hp⟩ | ⟨h, hp⟩ | ⟨h, hp⟩ | ⟨l, h, hp⟩ | ⟨l, h, hp⟩)
    · exact ⟨.normal, h, hp⟩
    · exact ⟨.brk none, h, hp⟩
    · exact ⟨.cont none, h, hp⟩
    · exact ⟨.ret, h, hp⟩
    · exact ⟨.thr, h, hp⟩
    · exact ⟨.brk (some l), List.contains_iff_mem.mpr h, hp⟩
    · exact ⟨.cont (some l), List.contains_iff_mem.mpr h, hp⟩

@[simp] theorem has_empty (o : Outcome) : ({} : Compl).has o = false := by
  rcases o with _ | (_ | l) | (_ | l) | _ | _ <;> rfl

@[simp] theorem has_union (x y : Compl) (o : Outcome) : (x.union y).has o = (x.has o || y.has o) := by
  rcases o with _ | (_ | l) | (_ | l) | _ | _ <;> simp [Compl.has, Compl.union]

@[simp] theorem has_abrupt (x : Compl) (o : Outcome) : x.abrupt.has o = (o != .normal && x.has o) := by
  rcases o with _ | (_ | l) | (_ | l) | _ | _ <;> simp [Compl.has, Compl.abrupt]

@[simp] theorem has_guard (g : Bool) (x : Compl) (o : Outcome) : (Compl.guard g x).has o = (g && x.has o) := by
  cases g <;> simp [Compl.guard]

theorem has_seq (x y : Compl) (o : Outcome) : (x.seq y).has o = ((o != .normal && x.has o) || (x.n && y.has o)) := by
  unfold Compl.seq
  cases hn : x.n
  · cases o <;> simp [Compl.has, hn]
  · simp

theorem has_union_iff {x y : Compl} {o : Outcome} : (x.union y).has o = true ↔ x.has o = true ∨ y.has o = true := by simp

theorem has_abrupt_iff {x : Compl} {o : Outcome} : x.abrupt.has o = true ↔ o ≠ .normal ∧ x.has o = true := by simp

theorem has_guard_iff {g : Bool} {x : Compl} {o : Outcome} : (Compl.guard g x).has o = true ↔ g = true ∧ x.has o = true := by
  simp

theorem has_seq_iff {x y : Compl} {o : Outcome} :
    (x.seq y).has o = true ↔ (o ≠ .normal ∧ x.has o = true) ∨ (x.has .normal = true ∧ y.has o = true) := by
  simp only [has_seq, Bool.or_eq_true, Bool.and_eq_true, bne_iff_ne, ne_eq]; rfl

theorem seq_has_left {x y : Compl} {o : Outcome} (ha : o ≠ .normal) (h : x.has o = true) : (x.seq y).has o = true :=
  has_seq_iff.mpr (.inl ⟨ha, h⟩)

theorem seq_has_right {x y : Compl} {o : Outcome} (hn : x.has .normal = true) (h : y.has o = true) : (x.seq y).has o = true :=
  has_seq_iff.mpr (.inr ⟨hn, h⟩)

/-- sequencing is associative (as far as membership of outcomes goes) -/
theorem has_seq_assoc (x y z : Compl) (o : Outcome) : ((x.seq y).seq z).has o = (x.seq (y.seq z)).has o := by
  simp only [has_seq, seq_n]
  cases o != .normal <;> cases x.has o <;> cases x.n <;> cases y.has o <;> cases y.n <;> simp

/-- an expression node, a case test, a catch parameter: completes normally, or throws if it may -/
theorem has_normalOrThrow {t : Bool} {o : Outcome} :
    ({ n := true, t := t } : Compl).has o = true ↔ o = .normal ∨ (o = .thr ∧ t = true) := by
  rcases o with _ | (_ | l) | (_ | l) | _ | _ <;> simp [Compl.has]

theorem has_exprOwn {e : EKind} {o : Outcome} : (exprOwn e).has o = true ↔ o = .normal ∨ (o = .thr ∧ e = .other) := by
  cases e <;> simp [exprOwn, has_normalOrThrow]

/-- a `catch` handler does not see the block's `throw` among what passes it by -/
theorem has_noThrow {b : Compl} {o : Outcome} : ({ b with t := false } : Compl).has o = true ↔ b.has o = true ∧ o ≠ .thr := by
  rcases o with _ | (_ | l) | (_ | l) | _ | _ <;> simp [Compl.has]

/-- `L: s` consumes `break L` (and drops the impossible `continue L`) -/
theorem has_labeled {b : Compl} {l : Id} {o : Outcome} :
    ({ b with n := b.n || b.bl.contains l, bl := b.bl.filter (· != l), cl := b.cl.filter (· != l) } : Compl).has o = true ↔
      (b.has o = true ∧ o ≠ .brk (some l) ∧ o ≠ .cont (some l)) ∨ (o = .normal ∧ b.has (.brk (some l)) = true) := by
  rcases o with _ | (_ | l') | (_ | l') | _ | _ <;> simp [Compl.has]

/-- `switch` consumes an unlabelled `break` of its cases -/
theorem has_leavesSwitch {c : Compl} {o : Outcome} :
    ({ c with n := c.n || c.b, b := false } : Compl).has o = true ↔ ∃ o', c.has o' = true ∧ o'.leavesSwitch = o := by
  rw [exists_has_iff]
  rcases o with _ | (_ | l) | (_ | l) | _ | _ <;> simp [Compl.has, Outcome.leavesSwitch]

theorem hasDefault_eq : ∀ (cs : Cases), cs.hasDefault = cs.compl.2
  | .nil => rfl
  | .cons _ d _ _ r => by simp [Cases.hasDefault, Cases.compl_cons, hasDefault_eq r]

/-- a catch parameter: what it contributes to the handler's completions -/
theorem catchCompl_param {k : Kid} {r : Kids} (hk : k.isBlock = false) :
    Kids.catchCompl (.cons k r) = Compl.seq { n := true, t := k.mayThrow } r.catchCompl := by
  cases k with
  | block => cases hk
  | _ => rfl

/-- the completions of a loop: some outcome of a round `b` exits the loop as `o`, or `o` is normal and the test can be false -/
theorem has_loopCompl_iff (ls : List Id) (e : Bool) (b : Compl) (o : Outcome) :
    (loopCompl ls e b).has o = true ↔ (o = .normal ∧ e = true) ∨ ∃ o', b.has o' = true ∧ o'.exitsLoop ls = some o := by
  rw [exists_has_iff]
  rcases o with _ | (_ | l) | (_ | l) | _ | _ <;> simp [Compl.has, loopCompl, Outcome.exitsLoop]

theorem goesRound_iff (ls : List Id) (b : Compl) :
    goesRound ls b = true ↔ ∃ o, b.has o = true ∧ o.continuesLoop ls = true := by
  simp [exists_has_iff, goesRound, Outcome.continuesLoop, or_assoc]

theorem goesRoundAny_iff (b : Compl) : goesRoundAny b = true ↔ ∃ o, b.has o = true ∧ o.goesRoundAny = true := by
  simp [exists_has_iff, goesRoundAny, Outcome.goesRoundAny, List.eq_nil_iff_forall_not_mem, or_assoc]

theorem Compl.any_iff (c : Compl) : c.any = true ↔ ∃ o, c.has o = true := by
  simpa [Compl.any, List.eq_nil_iff_forall_not_mem, or_assoc] using (exists_has_iff c fun _ => True).symm

theorem exits_or_continues (ls : List Id) (o : Outcome) : (∃ o', o.exitsLoop ls = some o') ∨ o.continuesLoop ls = true := by
  rcases o with _ | (_ | l) | (_ | l) | _ | _
  · exact .inr rfl
  · exact .inl ⟨_, rfl⟩
  · exact .inl ⟨_, rfl⟩
  · exact .inr rfl
  · cases h : ls.contains l
    · exact .inl ⟨_, if_neg (by rw [h]; exact Bool.false_ne_true)⟩
    · exact .inr h
  · exact .inl ⟨_, rfl⟩
  · exact .inl ⟨_, rfl⟩

/-- the loop of a `for` statement, closed form (the part of `Stmt.compl` after the initialiser) -/
def forLoopC (ls : List Id) (update test : Kids) (hasTest tt : Bool) (body : Stmt) : Compl :=
  (testCompl tt test).seq ((loopCompl ls (hasTest && !tt) (body.compl [])).union
    (Compl.guard (goesRound ls (body.compl [])) (update.compl.seq (testCompl tt test)).abrupt))

/-- the loop of a `for-in/of` statement, closed form (after the iterated expression) -/
def forInC (ls : List Id) (left : Kids) (body : Stmt) : Compl :=
  left.compl.seq ((loopCompl ls true (body.compl [])).union left.compl.abrupt)

theorem has_compl_forIn (ls : List Id) (p : Nat) (l r : Kids) (b : Stmt) (o : Outcome) :
    (Stmt.compl ls (.forInOf p l r b)).has o = (r.compl.seq (forInC ls l b)).has o :=
  has_seq_assoc _ _ _ o


theorem loop_exit_has {ls : List Id} {e : Bool} {b x : Compl} {o o' : Outcome} (hb : b.has o = true)
    (he : o.exitsLoop ls = some o') : ((loopCompl ls e b).union x).has o' = true :=
  has_union_iff.mpr (.inl ((has_loopCompl_iff ls e b o').mpr (.inr ⟨o, hb, he⟩)))

theorem loop_normal_has {ls : List Id} {e : Bool} {b x : Compl} (he : e = true) : ((loopCompl ls e b).union x).has .normal = true :=
  has_union_iff.mpr (.inl ((has_loopCompl_iff ls e b .normal).mpr (.inl ⟨rfl, he⟩)))

theorem loop_round {ls : List Id} {b x : Compl} {o o' : Outcome} (hb : b.has o = true) (hc : o.continuesLoop ls = true)
    (h : x.has o' = true) : (Compl.guard (goesRound ls b) x).has o' = true :=
  has_guard_iff.mpr ⟨(goesRound_iff ls b).mpr ⟨o, hb, hc⟩, h⟩

mutual
theorem Exec.sound : ∀ {ls : List Id} {s : Stmt} {o : Outcome}, Exec ls s o → (s.compl ls).has o = true
  | _, _, _, .simple h => h.sound
  | _, _, _, .block h => h.sound
  | _, .ifS _ _ _ alt, _, .if_testAbrupt h ha => by cases alt <;> exact seq_has_left ha h.sound
  | _, .ifS _ _ _ alt, _, .if_then ht h => by
    cases alt <;> exact seq_has_right ht.sound (has_union_iff.mpr (.inl h.sound))
  | _, _, _, .if_skip ht => seq_has_right ht.sound (has_union_iff.mpr (.inr rfl))
  | _, _, _, .if_else ht h => seq_has_right ht.sound (has_union_iff.mpr (.inr h.sound))
  | _, _, _, .while_testAbrupt h ha => seq_has_left ha h.sound
  | _, _, _, .while_done ht => seq_has_right ht.sound (loop_normal_has rfl)
  | _, _, _, .while_exit ht hb he => seq_has_right ht.sound (loop_exit_has hb.sound he)
  | _, _, _, .while_again _ _ _ h => h.sound
  | _, _, _, .do_exit hb he => loop_exit_has hb.sound he
  | _, _, _, .do_testAbrupt hb hc ht ha =>
    has_union_iff.mpr (.inr (has_abrupt_iff.mpr ⟨ha, loop_round hb.sound hc ht.sound⟩))
  | _, _, _, .do_done hb hc ht =>
    loop_normal_has (by rw [Bool.and_eq_true]; exact ⟨loop_round hb.sound hc ht.sound, rfl⟩)
  | _, _, _, .do_again _ _ _ h => h.sound
  | _, _, _, .for_initAbrupt h ha => seq_has_left ha h.sound
  | _, _, _, .for_loop hi h => seq_has_right hi.sound h.sound
  | _, _, _, .forIn_rightAbrupt h ha => by rw [has_compl_forIn]; exact seq_has_left ha h.sound
  | _, _, _, .forIn_loop hr h => by rw [has_compl_forIn]; exact seq_has_right hr.sound h.sound
  | _, _, _, .switch_discAbrupt h ha => seq_has_left ha (seq_has_left ha h.sound)
  | _, _, _, .switch_testThrows hd h =>
    seq_has_left (by simp) (seq_has_right hd.sound (has_normalOrThrow.mpr (.inr ⟨rfl, h⟩)))
  | _, .switchS _ _ cs, _, .switch_noMatch hd h =>
    seq_has_right (seq_has_right hd.sound rfl) (has_leavesSwitch.mpr ⟨.normal,
      has_union_iff.mpr (.inr (has_guard_iff.mpr ⟨by rw [← hasDefault_eq, h]; rfl, rfl⟩)), rfl⟩)
  | _, _, _, .switch_enter hd h =>
    seq_has_right (seq_has_right hd.sound rfl) (has_leavesSwitch.mpr ⟨_, has_union_iff.mpr (.inl h.sound), rfl⟩)
  | _, _, _, .try_noFinally h => h.sound
  | _, _, _, .try_finallyNormal (o := o) h hf =>
    has_guard_iff.mpr ⟨(Compl.any_iff _).mpr ⟨o, h.sound⟩, has_union_iff.mpr (.inl (has_guard_iff.mpr ⟨hf.sound, h.sound⟩))⟩
  | _, _, _, .try_finallyAbrupt (o := o) h hf ha =>
    has_guard_iff.mpr ⟨(Compl.any_iff _).mpr ⟨o, h.sound⟩, has_union_iff.mpr (.inr (has_abrupt_iff.mpr ⟨ha, hf.sound⟩))⟩
  | _, _, _, .labeled_break h => has_labeled.mpr (.inr ⟨rfl, h.sound⟩)
  | _, _, _, .labeled_other h h1 h2 => has_labeled.mpr (.inl ⟨h.sound, h1, h2⟩)
  | _, _, _, .brk => by rw [compl_brk]; exact has_single.mpr rfl
  | _, _, _, .cont => by rw [compl_cont]; exact has_single.mpr rfl
  | _, _, _, .ret_argAbrupt h ha => seq_has_left ha h.sound
  | _, _, _, .ret h => seq_has_right h.sound rfl
  | _, _, _, .throw_argAbrupt h ha => seq_has_left ha h.sound
  | _, _, _, .throw h => seq_has_right h.sound rfl
theorem ExecList.sound : ∀ {l : Stmts} {o : Outcome}, ExecList l o → l.compl.has o = true
  | _, _, .nil => rfl
  | _, _, .stop h ha => seq_has_left ha h.sound
  | _, _, .next h hr => seq_has_right h.sound hr.sound
theorem EvalKid.sound : ∀ {k : Kid} {o : Outcome}, EvalKid k o → k.compl.has o = true
  | _, _, .sub h ha => seq_has_left ha h.sound
  | _, _, .expr h => seq_has_right h.sound (has_exprOwn.mpr (.inl rfl))
  | _, _, .exprThrows h => seq_has_right h.sound rfl
  | _, _, .fnScope => rfl
  | _, _, .block h => h.sound
  | _, _, .stmt h => h.sound
theorem EvalKids.sound : ∀ {ks : Kids} {o : Outcome}, EvalKids ks o → ks.compl.has o = true
  | _, _, .nil => rfl
  | _, _, .stop h ha => seq_has_left ha h.sound
  | _, _, .next h hr => seq_has_right h.sound hr.sound
theorem EvalTest.sound : ∀ {tt : Bool} {test : Kids} {o : Outcome}, EvalTest tt test o → (testCompl tt test).has o = true
  | _, _, _, .known => rfl
  | _, _, _, .eval h => h.sound
theorem ExecFor.sound : ∀ {ls : List Id} {u t : Kids} {ht tt : Bool} {b : Stmt} {o : Outcome},
    ExecFor ls u t ht tt b o → (forLoopC ls u t ht tt b).has o = true
  | _, _, _, _, _, _, _, .testAbrupt h ha => seq_has_left ha h.sound
  | _, _, _, _, _, _, _, .done h => seq_has_right h.sound (loop_normal_has rfl)
  | _, _, _, _, _, _, _, .exit ht hb he => seq_has_right ht.sound (loop_exit_has hb.sound he)
  | _, _, _, _, _, _, _, .updateAbrupt ht hb hc hu ha =>
    seq_has_right ht.sound (has_union_iff.mpr (.inr (loop_round hb.sound hc (has_abrupt_iff.mpr ⟨ha, seq_has_left ha hu.sound⟩))))
  | _, _, _, _, _, _, _, .again _ _ _ _ h => h.sound
theorem ExecForIn.sound : ∀ {ls : List Id} {l : Kids} {b : Stmt} {o : Outcome},
    ExecForIn ls l b o → (forInC ls l b).has o = true
  | _, _, _, _, .leftAbrupt h ha => seq_has_left ha h.sound
  | _, _, _, _, .done h => seq_has_right h.sound (loop_normal_has rfl)
  | _, _, _, _, .exit hl hb he => seq_has_right hl.sound (loop_exit_has hb.sound he)
  | _, _, _, _, .again _ _ _ h => h.sound
theorem ExecCases.sound : ∀ {cs : Cases} {o : Outcome}, ExecCases cs o → cs.compl.1.has o = true
  | _, _, .here h => has_union_iff.mpr (.inl h.sound)
  | _, _, .later h => has_union_iff.mpr (.inr h.sound)
theorem ExecFall.sound : ∀ {cs : Cases} {o : Outcome}, ExecFall cs o → cs.fallCompl.has o = true
  | _, _, .nil => rfl
  | _, _, .stop h ha => seq_has_left ha h.sound
  | _, _, .next h hr => seq_has_right h.sound hr.sound
theorem ExecTryCatch.sound : ∀ {block : Stmts} {hh : Bool} {ck : Kids} {o : Outcome},
    ExecTryCatch block hh ck o → (tryCatchCompl block.compl hh ck.catchCompl).has o = true
  | _, hh, _, _, .noThrow h ht => by
    cases hh
    · exact h.sound
    · exact has_union_iff.mpr (.inl (has_noThrow.mpr ⟨h.sound, ht⟩))
  | _, _, _, _, .uncaught h => h.sound
  | _, _, _, _, .caught h hc => has_union_iff.mpr (.inr (has_guard_iff.mpr ⟨h.sound, hc.sound⟩))
theorem ExecCatch.sound : ∀ {ks : Kids} {o : Outcome}, ExecCatch ks o → ks.catchCompl.has o = true
  | _, _, .nil => rfl
  | _, _, .paramThrows hk hm => by
    rw [catchCompl_param hk]; exact seq_has_left (by simp) (has_normalOrThrow.mpr (.inr ⟨rfl, hm⟩))
  | _, _, .param hk h => by rw [catchCompl_param hk]; exact seq_has_right rfl h.sound
  | _, _, .bodyStop h ha => seq_has_left ha h.sound
  | _, _, .bodyNext h hr => seq_has_right h.sound hr.sound
end

theorem EvalKids.n {ks : Kids} (h : EvalKids ks .normal) : ks.compl.n = true := h.sound
theorem EvalKid.n {k : Kid} (h : EvalKid k .normal) : k.compl.n = true := h.sound
theorem EvalTest.n {tt : Bool} {t : Kids} (h : EvalTest tt t .normal) : (testCompl tt t).n = true := h.sound


theorem testCompl_has_inv {tt : Bool} {t : Kids} {o : Outcome} (iht : ∀ o', t.compl.has o' = true → EvalKids t o')
    (h : (testCompl tt t).has o = true) : EvalTest tt t o := by
  cases tt with
  | false => exact .eval (iht o h)
  | true => obtain rfl := (has_single (o' := .normal)).mp h; exact .known

theorem exitsLoop_abrupt (ls : List Id) (o o' : Outcome) (h : o.exitsLoop ls = some o') : True := trivial

theorem tryCatch_complete (block : Stmts) (hh : Bool) (ck : Kids) (o : Outcome)
    (ihb : ∀ o', block.compl.has o' = true → ExecList block o')
    (ihc : ∀ o', ck.catchCompl.has o' = true → ExecCatch ck o')
    (h : (tryCatchCompl block.compl hh ck.catchCompl).has o = true) : ExecTryCatch block hh ck o := by
  cases hh with
  | false =>
    by_cases ht : o = .thr
    · subst ht; exact .uncaught (ihb _ h)
    · exact .noThrow (ihb _ h) ht
  | true =>
    rcases has_union_iff.mp h with h | h
    · obtain ⟨hb, hne⟩ := has_noThrow.mp h
      exact .noThrow (ihb _ hb) hne
    · obtain ⟨ht, hc⟩ := has_guard_iff.mp h
      exact .caught (ihb .thr ht) (ihc _ hc)

mutual
theorem Stmt.complete : ∀ (s : Stmt) (ls : List Id) (o : Outcome), (s.compl ls).has o = true → Exec ls s o
  | .simple p t kids, ls, o, h => .simple (Kids.complete kids o h)
  | .block p body, ls, o, h => .block (Stmts.complete body o h)
  | .ifS p test c alt, ls, o, h => by
    cases alt with
    | none =>
      rcases has_seq_iff.mp h with ⟨ha, ht⟩ | ⟨htn, hb⟩
      · exact .if_testAbrupt (Kids.complete test o ht) ha
      · rcases has_union_iff.mp hb with hb | hb
        · exact .if_then (Kids.complete test _ htn) (Stmt.complete c [] o hb)
        · obtain rfl := (has_single (o' := .normal)).mp hb; exact .if_skip (Kids.complete test _ htn)
    | some a =>
      rcases has_seq_iff.mp h with ⟨ha, ht⟩ | ⟨htn, hb⟩
      · exact .if_testAbrupt (Kids.complete test o ht) ha
      · rcases has_union_iff.mp hb with hb | hb
        · exact .if_then (Kids.complete test _ htn) (Stmt.complete c [] o hb)
        · exact .if_else (Kids.complete test _ htn) (Stmt.complete a [] o hb)
  | .whileS p test tt body, ls, o, h => by
    rcases has_seq_iff.mp h with ⟨ha, ht⟩ | ⟨htn, hl⟩
    · exact .while_testAbrupt (testCompl_has_inv (Kids.complete test) ht) ha
    · have hT := testCompl_has_inv (Kids.complete test) htn
      rcases has_union_iff.mp hl with hl | hx
      · rcases (has_loopCompl_iff _ _ _ _).mp hl with ⟨rfl, he⟩ | ⟨o1, h1, hx⟩
        · obtain rfl : tt = false := by simpa using he
          exact .while_done hT
        · exact .while_exit hT (Stmt.complete body [] o1 h1) hx
      · -- the test ends abruptly in a later round
        obtain ⟨hg, hx⟩ := has_guard_iff.mp hx
        obtain ⟨ha, ht⟩ := has_abrupt_iff.mp hx
        obtain ⟨o2, h2, hc⟩ := (goesRound_iff _ _).mp hg
        exact .while_again hT (Stmt.complete body [] o2 h2) hc
          (.while_testAbrupt (testCompl_has_inv (Kids.complete test) ht) ha)
  | .doWhileS p body test tt, ls, o, h => by
    -- left by the test after a round that goes round (`do_done`) or out of the body (`do_exit`); or the test, reached
    -- after such a round, ends abruptly
    rcases has_union_iff.mp h with hl | hx
    · rcases (has_loopCompl_iff _ _ _ _).mp hl with ⟨rfl, he⟩ | ⟨o1, h1, hx⟩
      · rw [Bool.and_eq_true, Bool.not_eq_true'] at he
        obtain ⟨he, rfl⟩ := he
        obtain ⟨hg, ht⟩ := (has_guard_iff (o := .normal)).mp he
        obtain ⟨o2, h2, hc⟩ := (goesRound_iff _ _).mp hg
        exact .do_done (Stmt.complete body [] o2 h2) hc (testCompl_has_inv (Kids.complete test) ht)
      · exact .do_exit (Stmt.complete body [] o1 h1) hx
    · obtain ⟨ha, hx⟩ := has_abrupt_iff.mp hx
      obtain ⟨hg, ht⟩ := has_guard_iff.mp hx
      obtain ⟨o2, h2, hc⟩ := (goesRound_iff _ _).mp hg
      exact .do_testAbrupt (Stmt.complete body [] o2 h2) hc (testCompl_has_inv (Kids.complete test) ht) ha
  | .forS p i u t ht tt body, ls, o, h => by
    rcases has_seq_iff.mp h with ⟨ha, hi⟩ | ⟨hin, h⟩
    · exact .for_initAbrupt (Kids.complete i o hi) ha
    refine .for_loop (Kids.complete i .normal hin) ?_
    rcases has_seq_iff.mp h with ⟨ha, hte⟩ | ⟨htn, hl⟩
    · exact .testAbrupt (testCompl_has_inv (Kids.complete t) hte) ha
    · have hT := testCompl_has_inv (Kids.complete t) htn
      rcases has_union_iff.mp hl with hl | hx
      · rcases (has_loopCompl_iff _ _ _ _).mp hl with ⟨rfl, he⟩ | ⟨o1, h1, hx⟩
        · obtain ⟨rfl, rfl⟩ : ht = true ∧ tt = false := by simpa using he
          exact .done hT
        · exact .exit hT (Stmt.complete body [] o1 h1) hx
      · -- the update, or the test after it, ends abruptly in a later round
        obtain ⟨hg, hx⟩ := has_guard_iff.mp hx
        obtain ⟨ha, hs⟩ := has_abrupt_iff.mp hx
        obtain ⟨o2, h2, hc⟩ := (goesRound_iff _ _).mp hg
        rcases has_seq_iff.mp hs with ⟨_, hu⟩ | ⟨hun, hte⟩
        · exact .updateAbrupt hT (Stmt.complete body [] o2 h2) hc (Kids.complete u o hu) ha
        · exact .again hT (Stmt.complete body [] o2 h2) hc (Kids.complete u .normal hun)
            (.testAbrupt (testCompl_has_inv (Kids.complete t) hte) ha)
  | .forInOf p l r body, ls, o, h => by
    rw [has_compl_forIn] at h
    rcases has_seq_iff.mp h with ⟨ha, hi⟩ | ⟨hrn, h⟩
    · exact .forIn_rightAbrupt (Kids.complete r o hi) ha
    refine .forIn_loop (Kids.complete r .normal hrn) ?_
    rcases has_seq_iff.mp h with ⟨ha, hl⟩ | ⟨hln, hl⟩
    · exact .leftAbrupt (Kids.complete l o hl) ha
    · have hL := Kids.complete l .normal hln
      rcases has_union_iff.mp hl with hl | hx
      · rcases (has_loopCompl_iff _ _ _ _).mp hl with ⟨rfl, _⟩ | ⟨o1, h1, hx⟩
        · exact .done hL
        · exact .exit hL (Stmt.complete body [] o1 h1) hx
      · obtain ⟨ha, hl⟩ := has_abrupt_iff.mp hx
        exact .leftAbrupt (Kids.complete l o hl) ha
  | .switchS p d cs, ls, o, h => by
    -- abrupt before any case is entered: the discriminant, or a case test throws; else the cases are entered or none
    -- matches, and the outcome leaves the `switch` (which consumes an unlabelled `break`)
    rcases has_seq_iff.mp h with ⟨ha, hd⟩ | ⟨hdn, hi⟩
    · rcases has_seq_iff.mp hd with ⟨_, hd⟩ | ⟨hdn, ht⟩
      · exact .switch_discAbrupt (Kids.complete d o hd) ha
      · rcases has_normalOrThrow.mp ht with rfl | ⟨rfl, ht⟩
        · exact absurd rfl ha
        · exact .switch_testThrows (Kids.complete d .normal hdn) ht
    · have hD : EvalKids d .normal := Kids.complete d .normal (by simpa [has_seq_iff, Compl.has] using hdn)
      obtain ⟨o', h', rfl⟩ := has_leavesSwitch.mp hi
      rcases has_union_iff.mp h' with h' | h'
      · exact .switch_enter hD (Cases.complete cs o' h')
      · obtain ⟨hnd, h'⟩ := has_guard_iff.mp h'
        obtain rfl := (has_single (o' := .normal)).mp h'
        exact .switch_noMatch hD (by rw [hasDefault_eq]; simpa using hnd)
  | .tryS p bp block hh cp ck hf fp fin, ls, o, h => by
    have htc := fun o => tryCatch_complete block hh ck o (Stmts.complete block) (Kids.complete_catch ck)
    cases hf with
    | false => exact .try_noFinally (htc o h)
    | true =>
      -- the finalizer runs after any outcome `o1` of block and handler: if it completes normally `o` is that outcome,
      -- otherwise `o` is its own
      obtain ⟨hany, h⟩ := has_guard_iff.mp h
      rcases has_union_iff.mp h with h | h
      · obtain ⟨hn, hr⟩ := has_guard_iff.mp h
        exact .try_finallyNormal (htc o hr) (Stmts.complete fin .normal hn)
      · obtain ⟨ha, hf'⟩ := has_abrupt_iff.mp h
        obtain ⟨o1, h1⟩ := (Compl.any_iff _).mp hany
        exact .try_finallyAbrupt (htc o1 h1) (Stmts.complete fin o hf') ha
  | .labeled p l body, ls, o, h => by
    rcases has_labeled.mp h with ⟨h', h1, h2⟩ | ⟨rfl, h'⟩
    · exact .labeled_other (Stmt.complete body (l :: ls) o h') h1 h2
    · exact .labeled_break (Stmt.complete body (l :: ls) _ h')
  | .brk p l, ls, o, h => by rw [compl_brk] at h; obtain rfl := has_single.mp h; exact .brk
  | .cont p l, ls, o, h => by rw [compl_cont] at h; obtain rfl := has_single.mp h; exact .cont
  | .ret p arg, ls, o, h => by
    rcases has_seq_iff.mp h with ⟨ha, hi⟩ | ⟨hn, hr⟩
    · exact .ret_argAbrupt (Kids.complete arg o hi) ha
    · obtain rfl := (has_single (o' := .ret)).mp hr; exact .ret (Kids.complete arg .normal hn)
  | .throw p arg, ls, o, h => by
    rcases has_seq_iff.mp h with ⟨ha, hi⟩ | ⟨hn, hr⟩
    · exact .throw_argAbrupt (Kids.complete arg o hi) ha
    · obtain rfl := (has_single (o' := .thr)).mp hr; exact .throw (Kids.complete arg .normal hn)
theorem Stmts.complete : ∀ (l : Stmts) (o : Outcome), l.compl.has o = true → ExecList l o
  | .nil, o, h => by obtain rfl := (has_single (o' := .normal)).mp h; exact .nil
  | .cons s r, o, h => by
    rcases has_seq_iff.mp h with ⟨ha, hs⟩ | ⟨hn, hr⟩
    · exact .stop (Stmt.complete s [] o hs) ha
    · exact .next (Stmt.complete s [] .normal hn) (Stmts.complete r o hr)
theorem Kid.complete : ∀ (k : Kid) (o : Outcome), k.compl.has o = true → EvalKid k o
  | .expr e ks, o, h => by
    rcases has_seq_iff.mp h with ⟨ha, hs⟩ | ⟨hn, hr⟩
    · exact .sub (Kids.complete ks o hs) ha
    · rcases has_exprOwn.mp hr with rfl | ⟨rfl, rfl⟩
      · exact .expr (Kids.complete ks .normal hn)
      · exact .exprThrows (Kids.complete ks .normal hn)
  | .fnScope p ks, o, h => by obtain rfl := (has_single (o' := .normal)).mp h; exact .fnScope
  | .block p body, o, h => .block (Stmts.complete body o h)
  | .stmt s, o, h => .stmt (Stmt.complete s [] o h)
theorem Kids.complete : ∀ (ks : Kids) (o : Outcome), ks.compl.has o = true → EvalKids ks o
  | .nil, o, h => by obtain rfl := (has_single (o' := .normal)).mp h; exact .nil
  | .cons k r, o, h => by
    rcases has_seq_iff.mp h with ⟨ha, hs⟩ | ⟨hn, hr⟩
    · exact .stop (Kid.complete k o hs) ha
    · exact .next (Kid.complete k .normal hn) (Kids.complete r o hr)
theorem Cases.complete_fall : ∀ (cs : Cases) (o : Outcome), cs.fallCompl.has o = true → ExecFall cs o
  | .nil, o, h => by obtain rfl := (has_single (o' := .normal)).mp h; exact .nil
  | .cons p d t body r, o, h => by
    rcases has_seq_iff.mp h with ⟨ha, hs⟩ | ⟨hn, hr⟩
    · exact .stop (Stmts.complete body o hs) ha
    · exact .next (Stmts.complete body .normal hn) (Cases.complete_fall r o hr)
theorem Cases.complete : ∀ (cs : Cases) (o : Outcome), cs.compl.1.has o = true → ExecCases cs o
  | .nil, o, h => by cases (has_empty o).symm.trans h
  | .cons p d t body r, o, h => by
    rcases has_union_iff.mp h with h | h
    · rcases has_seq_iff.mp h with ⟨ha, hs⟩ | ⟨hn, hr⟩
      · exact .here (.stop (Stmts.complete body o hs) ha)
      · exact .here (.next (Stmts.complete body .normal hn) (Cases.complete_fall r o hr))
    · exact .later (Cases.complete r o h)
theorem Kids.complete_catch : ∀ (ks : Kids) (o : Outcome), ks.catchCompl.has o = true → ExecCatch ks o
  | .nil, o, h => by obtain rfl := (has_single (o' := .normal)).mp h; exact .nil
  | .cons k r, o, h => by
    cases k with
    | block q body =>
      rcases has_seq_iff.mp h with ⟨ha, hs⟩ | ⟨hn, hr⟩
      · exact .bodyStop (Stmts.complete body o hs) ha
      · exact .bodyNext (Stmts.complete body .normal hn) (Kids.complete_catch r o hr)
    | _ =>
      rcases has_seq_iff.mp h with ⟨ha, hs⟩ | ⟨_, hr⟩
      · rcases has_normalOrThrow.mp hs with rfl | ⟨rfl, hm⟩
        · exact absurd rfl ha
        · exact .paramThrows rfl hm
      · exact .param rfl (Kids.complete_catch r o hr)
end

end DL.CF
