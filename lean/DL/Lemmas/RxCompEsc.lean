import DL.Lemmas.RxCompUni

/-! # Completeness: `DecimalEscape` and back references (u-mode) -/
namespace DL.Rx
open DL.RxSpec

attribute [local irreducible] isScalar
variable {src : List Nat} {N : Nat}

theorem eatDecimalEscapeLoop_wc (n : Nat) (ds r1 : List Nat) (s : St) (h : UAt src N (ds ++ r1) s)
    (hds : ∀ d ∈ ds, DecimalDigit d) (hstop : ∀ d, r1.head? = some d → ¬DecimalDigit d) :
    Wc (eatDecimalEscapeLoop n s) (fun _ s1 => UAt src N r1 s1 ∧
      s1 = (s.setPos src (s.reader.index + ds.length)).withInt (accDec s.lastIntValue ds)) := by
  refine (Wc.of_wp (eatDecimalEscapeLoop_wp n _ s h) (NE.eatDecimalEscapeLoop n)).mono ?_
  rintro _ s1 ⟨ds', r1', he, hds', hstop', hat, hs1⟩
  obtain ⟨e1, e2⟩ := run_unique he hds hds' hstop hstop'
  subst e1 e2
  exact ⟨hat, hs1⟩

theorem nonZero_isAsciiDigit {d : Nat} (h : NonZeroDigit d) : (isAsciiDigit d && d != ch '0') = true := by
  have h' : 0x31 ≤ d ∧ d ≤ 0x39 := h
  have hd : DecimalDigit d := by show 0x30 ≤ d ∧ d ≤ 0x39; omega
  rw [isAsciiDigit_of_decimalDigit hd]
  have : d ≠ ch '0' := by show d ≠ 0x30; omega
  simpa using this

theorem eatDecimalEscape_wc (n : Nat) (r r1 : List Nat) (v : Nat) (s : St) (h : UAt src N r s)
    (hD : DecimalEscape r r1 v) :
    Wc (eatDecimalEscape n s) (fun b s1 => b = true ∧ UAt src N r1 s1 ∧ s1.lastIntValue = satI v ∧ Keep s s1) := by
  obtain ⟨ds, hr, ⟨d, ds', hds, hnz⟩, hall, hstop, hv⟩ := hD
  subst hds hr hv
  have hloop := fun s h => eatDecimalEscapeLoop_wc (src := src) (N := N) n ds' r1 s h
    (fun x hx => hall x (by simp [hx])) hstop
  have hdd : DecimalDigit d := hall d (by simp)
  have hx := isAsciiDigit_of_decimalDigit hdd
  unfold eatDecimalEscape
  rx5_auto
  case neg => rename_i hn; exact absurd (nonZero_isAsciiDigit hnz) hn
  rename_i hc d' hd
  rw [toDigit10_eq hx] at hd
  cases hd
  have hle := decVal_le hdd
  refine Wc.bind_checkedI64 (by
    show i64Min ≤ 10 * (0 : Int) + (decVal d : Int) ∧ 10 * (0 : Int) + (decVal d : Int) ≤ i64Max
    unfold i64Min i64Max; omega) ?_
  rx5_auto
  rename_i s1 hat hs1
  subst hs1
  refine ⟨rfl, hat, ?_, ⟨rfl, rfl, rfl⟩⟩
  st_norm
  show accDec (10 * (0 : Int) + (decVal d : Int)) ds' = satI (mvDec (d :: ds'))
  have : (10 * (0 : Int) + (decVal d : Int)) = satI (decVal d) := by
    unfold satI i64Max; rw [if_pos (by omega)]; omega
  rw [this, accDec_satI]
  show satI _ = satI (List.foldl _ (10 * 0 + decVal d) ds')
  rw [Nat.mul_zero, Nat.zero_add]

theorem eatDecimalEscape_wcn (n : Nat) (r : List Nat) (s : St) (h : UAt src N r s)
    (hn : ∀ d, r.head? = some d → ¬NonZeroDigit d) :
    Wc (eatDecimalEscape n s) (fun b s1 => b = false ∧ s1 = s.withInt 0) := by
  unfold eatDecimalEscape
  rx5_auto
  all_goals (try exact ⟨rfl, rfl⟩)
  rename_i x r' hc _ _
  exfalso
  have hx : isAsciiDigit x = true := (Bool.and_eq_true _ _ |>.mp hc).1
  have hx0 : x ≠ ch '0' := by
    have := (Bool.and_eq_true _ _ |>.mp hc).2
    simpa using this
  have h' : 0x30 ≤ x ∧ x ≤ 0x39 := decimalDigit_of_isAsciiDigit hx
  have : x ≠ 0x30 := hx0
  exact hn x rfl (by show 0x31 ≤ x ∧ x ≤ 0x39; omega)

theorem consumeBackreference_wc (n : Nat) (r r1 : List Nat) (v : Nat) (s : St) (h : UAt src N r s)
    (hD : DecimalEscape r r1 v) (hv : v ≤ N) :
    Wc (consumeBackreference n s) (fun b s1 => b = true ∧ UAt src N r1 s1 ∧ Keep s s1) := by
  unfold consumeBackreference
  rx5_auto
  case pos => rx5_fin
  rename_i hn
  have hat := ‹UAt src N r1 _›
  have hv1 := ‹_ = satI v›
  apply hn
  rw [hv1, hat.ncp]
  have : satI v ≤ (v : Int) := by unfold satI; split <;> omega
  omega

theorem consumeBackreference_wcn (n : Nat) (r : List Nat) (s : St) (h : UAt src N r s)
    (hn : ∀ d, r.head? = some d → ¬NonZeroDigit d) :
    Wc (consumeBackreference n s) (fun b s1 => b = false ∧ s1 = s.withInt 0) := by
  unfold consumeBackreference
  rx5_auto
  exact ⟨rfl, ‹_ = s.withInt 0›⟩

end DL.Rx
