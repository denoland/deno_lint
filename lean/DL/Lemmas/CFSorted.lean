import DL.Lemmas.CFPos

/-!
# Why real programs satisfy `positions.Nodup`

The keys of the metadata map are source start positions.  `srcPositions` lists the positions of a piece of syntax in
source (pre-)order: a node first, then its parts left to right (`positions` lists some parts in visiting order instead:
the test of a `do-while` after its body, the update of a `for` before its test).  In the dump of a parsed program these
are strictly increasing — a node starts before everything inside it, and a part ends before the next one starts — except
for the one allowed coincidence: an expression/declaration statement and a function scope it starts with (`() => {…};`,
`function f(){…}`), which `positions` counts once.  Strictly increasing source positions give `positions.Nodup`.
-/
namespace DL.CF

mutual
def Stmt.srcPositions : Stmt → List Nat
  | .simple p t kids => if t.isDeclOrExpr && kids.fpos.contains p then kids.srcPositions else p :: kids.srcPositions
  | .block p b => p :: b.srcPositions
  | .ifS p t c none => p :: (t.srcPositions ++ c.srcPositions)
  | .ifS p t c (some a) => p :: (t.srcPositions ++ (c.srcPositions ++ a.srcPositions))
  | .whileS p t _ b => p :: (t.srcPositions ++ b.srcPositions)
  | .doWhileS p b t _ => p :: (b.srcPositions ++ t.srcPositions)
  | .forS p i u t _ _ b => p :: (i.srcPositions ++ (t.srcPositions ++ (u.srcPositions ++ b.srcPositions)))
  | .forInOf p l r b => p :: (l.srcPositions ++ (r.srcPositions ++ b.srcPositions))
  | .switchS p d cs => p :: (d.srcPositions ++ cs.srcPositions)
  | .tryS p bp b hh cp ck hf fp f =>
    p :: bp :: (b.srcPositions ++ ((optPos hh cp ++ ck.srcPositions) ++ (optPos hf fp ++ f.srcPositions)))
  | .labeled p _ b => p :: b.srcPositions
  | .brk p _ => [p]
  | .cont p _ => [p]
  | .ret p a => p :: a.srcPositions
  | .throw p a => p :: a.srcPositions
def Stmts.srcPositions : Stmts → List Nat
  | .nil => []
  | .cons s r => s.srcPositions ++ r.srcPositions
def Kid.srcPositions : Kid → List Nat
  | .expr _ ks => ks.srcPositions
  | .fnScope p ks => p :: ks.srcPositions
  | .block p b => p :: b.srcPositions
  | .stmt s => s.srcPositions
def Kids.srcPositions : Kids → List Nat
  | .nil => []
  | .cons k r => k.srcPositions ++ r.srcPositions
def Cases.srcPositions : Cases → List Nat
  | .nil => []
  | .cons p _ t b r => p :: (t.srcPositions ++ (b.srcPositions ++ r.srcPositions))
end

mutual
theorem Stmt.positions_perm : ∀ (s : Stmt), s.positions.Perm s.srcPositions
  | .simple p t kids => by
    simp only [Stmt.positions, Stmt.srcPositions]
    split
    · exact Kids.positions_perm kids
    · exact (Kids.positions_perm kids).cons p
  | .block p b => (Stmts.positions_perm b).cons p
  | .ifS p t c none => ((Kids.positions_perm t).append (Stmt.positions_perm c)).cons p
  | .ifS p t c (some a) => ((Kids.positions_perm t).append ((Stmt.positions_perm c).append (Stmt.positions_perm a))).cons p
  | .whileS p t _ b => ((Kids.positions_perm t).append (Stmt.positions_perm b)).cons p
  | .doWhileS p b t _ => (((Kids.positions_perm t).append (Stmt.positions_perm b)).trans List.perm_append_comm).cons p
  | .forS p i u t _ _ b => by
    simp only [Stmt.positions, Stmt.srcPositions, List.append_assoc]
    refine List.Perm.cons p ((Kids.positions_perm i).append ?_)
    refine ((Kids.positions_perm u).append ((Kids.positions_perm t).append (Stmt.positions_perm b))).trans ?_
    exact List.perm_append_comm_assoc _ _ _
  | .forInOf p l r b => by
    simp only [Stmt.positions, Stmt.srcPositions, List.append_assoc]
    exact ((Kids.positions_perm l).append ((Kids.positions_perm r).append (Stmt.positions_perm b))).cons p
  | .switchS p d cs => ((Kids.positions_perm d).append (Cases.positions_perm cs)).cons p
  | .tryS p bp b hh cp ck hf fp f =>
    (((Stmts.positions_perm b).append (((List.Perm.refl _).append (Kids.positions_perm ck)).append
      ((List.Perm.refl _).append (Stmts.positions_perm f)))).cons bp).cons p
  | .labeled p _ b => (Stmt.positions_perm b).cons p
  | .brk p _ => List.Perm.refl _
  | .cont p _ => List.Perm.refl _
  | .ret p a => (Kids.positions_perm a).cons p
  | .throw p a => (Kids.positions_perm a).cons p
theorem Stmts.positions_perm : ∀ (l : Stmts), l.positions.Perm l.srcPositions
  | .nil => List.Perm.refl _
  | .cons s r => (Stmt.positions_perm s).append (Stmts.positions_perm r)
theorem Kid.positions_perm : ∀ (k : Kid), k.positions.Perm k.srcPositions
  | .expr _ ks => Kids.positions_perm ks
  | .fnScope p ks => (Kids.positions_perm ks).cons p
  | .block p b => (Stmts.positions_perm b).cons p
  | .stmt s => Stmt.positions_perm s
theorem Kids.positions_perm : ∀ (ks : Kids), ks.positions.Perm ks.srcPositions
  | .nil => List.Perm.refl _
  | .cons k r => (Kid.positions_perm k).append (Kids.positions_perm r)
theorem Cases.positions_perm : ∀ (cs : Cases), cs.positions.Perm cs.srcPositions
  | .nil => List.Perm.refl _
  | .cons p _ t b r => ((Kids.positions_perm t).append ((Stmts.positions_perm b).append (Cases.positions_perm r))).cons p
end

def Item.srcPositions : Item → List Nat
  | .stmt s => s.srcPositions
  | .decl kids => kids.srcPositions

def itemsSrcPositions : List Item → List Nat
  | [] => []
  | it :: r => it.srcPositions ++ itemsSrcPositions r

theorem itemsPositions_perm : ∀ (items : List Item), (itemsPositions items).Perm (itemsSrcPositions items)
  | [] => List.Perm.refl _
  | .stmt s :: r => (Stmt.positions_perm s).append (itemsPositions_perm r)
  | .decl k :: r =>
    (Kids.positions_perm k).append (itemsPositions_perm r)

theorem nodup_of_increasing {l : List Nat} (h : l.Pairwise (· < ·)) : l.Nodup :=
  h.imp (fun h => Nat.ne_of_lt h)

/-- strictly increasing source positions (with the one allowed coincidence counted once) give the `Nodup` hypothesis -/
theorem Stmt.nodup_of_increasing (s : Stmt) (h : s.srcPositions.Pairwise (· < ·)) : s.positions.Nodup :=
  (Stmt.positions_perm s).nodup_iff.mpr (DL.CF.nodup_of_increasing h)

theorem Stmts.nodup_of_increasing (l : Stmts) (h : l.srcPositions.Pairwise (· < ·)) : l.positions.Nodup :=
  (Stmts.positions_perm l).nodup_iff.mpr (DL.CF.nodup_of_increasing h)

theorem items_nodup_of_increasing (items : List Item) (h : (itemsSrcPositions items).Pairwise (· < ·)) :
    (itemsPositions items).Nodup :=
  (itemsPositions_perm items).nodup_iff.mpr (DL.CF.nodup_of_increasing h)

end DL.CF
