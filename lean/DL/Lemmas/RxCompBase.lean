import DL.Lemmas.RxSpecScanG

/-!
# Completeness w.r.t. the grammar (Unicode mode): logic

* `NE m`: the computation `m` never returns `Err` (it contains no reachable `return Err(..)`).
* `Wc r Q`: the result `r` is not an `Err`, and if it is `Ok(a)` in state `s` then `Q a s`
  (`panic` and `outOfFuel` are excluded separately, by `C12NoPanic` and `C12Fuel`).
-/
namespace DL.Rx

def NE {α : Type} (m : M α) : Prop := ∀ s msg s', m s ≠ .err msg s'

@[rx_ne] theorem NE.pure {α : Type} {a : α} : NE (pure a : M α) := fun _ _ _ h => by cases h
theorem NE.bind {α β : Type} {m : M α} {f : α → M β} (hm : NE m) (hf : ∀ a, NE (f a)) : NE (m >>= f) := by
  intro s msg s' h
  have h' : M.bind m f s = .err msg s' := h
  unfold M.bind at h'
  cases hms : m s with
  | ok a s1 => rw [hms] at h'; exact hf a s1 msg s' h'
  | err m1 s1 => exact hm s m1 s1 hms
  | panic _ _ => rw [hms] at h'; cases h'
  | outOfFuel _ => rw [hms] at h'; cases h'
@[rx_ne] theorem NE.getSt : NE getSt := fun _ _ _ h => by cases h
@[rx_ne] theorem NE.modSt {f : St → St} : NE (modSt f) := fun _ _ _ h => by cases h
@[rx_ne] theorem NE.setInt {v : Int} : NE (setInt v) := NE.modSt
@[rx_ne] theorem NE.setStr {v : List Nat} : NE (setStr v) := NE.modSt
@[rx_ne] theorem NE.outOfFuel {α : Type} : NE (outOfFuel : M α) := fun _ _ _ h => by cases h
@[rx_ne] theorem NE.rustPanic {α : Type} {w : String} : NE (rustPanic w : M α) := fun _ _ _ h => by cases h
theorem NE.ite {α : Type} {c : Prop} [Decidable c] {a b : M α} (ha : NE a) (hb : NE b) : NE (if c then a else b) := by
  by_cases h : c
  · rw [if_pos h]; exact ha
  · rw [if_neg h]; exact hb
@[rx_ne] theorem NE.unwrap {α : Type} {o : Option α} {w : String} : NE (unwrap o w) := by
  cases o with
  | none => exact NE.rustPanic
  | some a => exact NE.pure
theorem NE.orM {a b : M Bool} (ha : NE a) (hb : NE b) : NE (a <or> b) := by
  unfold DL.Rx.orM
  exact NE.bind ha fun x => NE.ite NE.pure hb
theorem NE.andM {a b : M Bool} (ha : NE a) (hb : NE b) : NE (a <and> b) := by
  unfold DL.Rx.andM
  exact NE.bind ha fun x => NE.ite hb NE.pure

/-- closes `NE (f args)` by an induction hypothesis or by the lemma about `f` in the set `rx_ne` -/
macro "ne_known" : tactic => `(tactic| first | assumption | (simp only [rx_ne]; done))

macro "ne_step" : tactic => `(tactic| (show NE _; first
    | with_reducible refine NE.bind ?_ (fun _ => ?_)
    | with_reducible refine NE.ite ?_ ?_
    | with_reducible refine NE.orM ?_ ?_
    | with_reducible refine NE.andM ?_ ?_
    | ne_known
    | split
    | dsimp only))
macro "ne_auto" : tactic => `(tactic| repeat' ne_step)

attribute [local irreducible] isScalar

@[rx_ne] theorem NE.codePointWithOffset (k : Nat) : NE (codePointWithOffset k) := by unfold DL.Rx.codePointWithOffset; ne_auto
@[rx_ne] theorem NE.index : NE index := by unfold DL.Rx.index; ne_auto
@[rx_ne] theorem NE.readerAt (i : Nat) : NE (readerAt i) := by unfold DL.Rx.readerAt; ne_auto
@[rx_ne] theorem NE.pushBack (c : Nat) : NE (pushBack c) := NE.modSt
@[rx_ne] theorem NE.rewindLoop (idx : Nat) : ∀ k i, NE (rewindLoop idx k i)
  | 0, _ => by unfold DL.Rx.rewindLoop; ne_auto
  | k + 1, i => by
    have ih := NE.rewindLoop idx k (i + 1)
    unfold DL.Rx.rewindLoop; ne_auto
@[rx_ne] theorem NE.rewind (i : Nat) : NE (rewind i) := by unfold DL.Rx.rewind; ne_auto
@[rx_ne] theorem NE.advance : NE advance := by unfold DL.Rx.advance; ne_auto
@[rx_ne] theorem NE.eat (c : Char) : NE (eat c) := by unfold DL.Rx.eat; ne_auto
@[rx_ne] theorem NE.eat2 (c d : Char) : NE (eat2 c d) := by unfold DL.Rx.eat2; ne_auto
@[rx_ne] theorem NE.eat3 (c d e : Char) : NE (eat3 c d e) := by unfold DL.Rx.eat3; ne_auto

end DL.Rx
