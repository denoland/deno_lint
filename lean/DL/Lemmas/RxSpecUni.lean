import DL.Lemmas.RxSpecHex

/-! # Soundness w.r.t. the grammar: `RegExpUnicodeEscapeSequence` -/
namespace DL.Rx
open DL.RxSpec
attribute [local irreducible] isScalar
variable {src : List Nat} {N : Nat}

theorem hex4_of {ds r r1 : List Nat} (hr : r = ds ++ r1) (hlen : ds.length = 4) (hds : ∀ d ∈ ds, HexDigit d) :
    Hex4Digits r r1 (mvHex ds) := by
  rcases ds with _ | ⟨a, _ | ⟨b, _ | ⟨c', _ | ⟨d, _ | ⟨e, t⟩⟩⟩⟩⟩ <;> simp at hlen
  exact ⟨a, b, c', d, hr, hds a (by simp), hds b (by simp), hds c' (by simp), hds d (by simp), rfl⟩

theorem eatRegexpUnicodeCodepointEscape_wp (n : Nat) (r : List Nat) (s : St) (h : UAt src N r s) :
    Wp (eatRegexpUnicodeCodepointEscape n s) (fun b s1 => Keep s s1 ∧
      if b = true then ∃ ds r1, r = ch '{' :: (ds ++ ch '}' :: r1) ∧ ds ≠ [] ∧ (∀ d ∈ ds, HexDigit d) ∧
        mvHex ds ≤ 0x10FFFF ∧ UAt src N r1 s1 ∧ s1.lastIntValue = (mvHex ds : Nat)
      else UAt src N r s1) := by
  unfold eatRegexpUnicodeCodepointEscape
  rx4_auto
  all_goals (try rx4_false)
  rename_i r' hat0 s1 hk ds hds hv hne r1 hat1 hr hnx hat2 hvalid
  rx4_true
  have hv' : s1.lastIntValue = satI (mvHex ds) := hv
  have hle : mvHex ds ≤ 0x10FFFF ∧ satI (mvHex ds) = (mvHex ds : Nat) := by
    have : isValidUnicode s1.lastIntValue = true := hvalid
    unfold isValidUnicode at this
    have h1 : s1.lastIntValue ≤ 0x10ffff := of_decide_eq_true this
    rw [hv'] at h1
    unfold satI i64Max at h1 ⊢
    split at h1 <;> constructor <;> omega
  refine ⟨ds, r1, by rw [hr], hne.mp trivial, hds, hle.1, hat1, ?_⟩
  show s1.lastIntValue = _
  rw [hv', hle.2]

/-- the text of a surrogate pair escape after the first `u` -/
def PairText (r r1 : List Nat) (lead trail : Nat) : Prop :=
  ∃ ds1 ds2, r = ds1 ++ ch '\\' :: ch 'u' :: (ds2 ++ r1) ∧ ds1.length = 4 ∧ ds2.length = 4 ∧
    (∀ d ∈ ds1, HexDigit d) ∧ (∀ d ∈ ds2, HexDigit d) ∧ lead = mvHex ds1 ∧ trail = mvHex ds2 ∧
    isLead lead ∧ isTrail trail

theorem pair_split {r w rest r1 : List Nat} {lead trail : Nat} (hr : r = w ++ rest) (hw : w.length = 4)
    (hp : PairText r r1 lead trail) :
    ∃ ds2, rest = ch '\\' :: ch 'u' :: (ds2 ++ r1) ∧ ds2.length = 4 ∧ (∀ d ∈ w, HexDigit d) ∧ (∀ d ∈ ds2, HexDigit d) ∧
      lead = mvHex w ∧ trail = mvHex ds2 ∧ isLead lead ∧ isTrail trail := by
  obtain ⟨ds1, ds2, hr', l1, l2, hd1, hd2, hl, ht, hL, hT⟩ := hp
  rw [hr] at hr'
  have := List.append_inj hr' (by rw [hw, l1])
  obtain ⟨e1, e2⟩ := this
  subst e1
  exact ⟨ds2, e2, l2, hd1, hd2, hl, ht, hL, hT⟩

theorem isLeadSurrogate_iff (v : Nat) : isLeadSurrogate (v : Int) = true ↔ isLead v := by
  unfold isLeadSurrogate isLead
  simp only [Bool.and_eq_true, decide_eq_true_eq]
  constructor <;> intro h <;> omega

theorem isTrailSurrogate_iff (v : Nat) : isTrailSurrogate (v : Int) = true ↔ isTrail v := by
  unfold isTrailSurrogate isTrail
  simp only [Bool.and_eq_true, decide_eq_true_eq]
  constructor <;> intro h <;> omega

theorem combine_eq {l t : Nat} (hl : isLead l) (ht : isTrail t) :
    combineSurrogatePair (l : Int) (t : Int) = (((l - 0xD800) * 0x400 + (t - 0xDC00) + 0x10000 : Nat) : Int) := by
  unfold combineSurrogatePair
  unfold isLead at hl
  unfold isTrail at ht
  omega

theorem eatRegexpUnicodeSurrogatePairEscape_wp (r : List Nat) (s : St) (h : UAt src N r s) :
    Wp (eatRegexpUnicodeSurrogatePairEscape s) (fun b s1 => Keep s s1 ∧
      if b = true then ∃ r1 lead trail, PairText r r1 lead trail ∧ UAt src N r1 s1 ∧
        s1.lastIntValue = (((lead - 0xD800) * 0x400 + (trail - 0xDC00) + 0x10000 : Nat) : Int)
      else UAt src N r s1 ∧ ¬∃ r1 lead trail, PairText r r1 lead trail) := by
  unfold eatRegexpUnicodeSurrogatePairEscape
  rx4_auto
  -- on every failing path the reader has not moved; it remains to refute a pair text at `r`
  all_goals try (refine ⟨by rx4_keep, ?_⟩; rw [if_neg (by decide)]; refine ⟨by rx4_at, ?_⟩)
  · -- no four hexadecimal digits
    rintro ⟨r1, lead, trail, ds1, ds2, hr', l1, l2, hd1, hd2, -⟩
    exact ‹¬∃ ds r1, r = ds ++ r1 ∧ ds.length = 4 ∧ ∀ d ∈ ds, HexDigit d› ⟨ds1, _, hr', l1, hd1⟩
  · -- not a lead surrogate
    rintro ⟨r1, lead, trail, hp⟩
    obtain ⟨ds2, hrest, l2, hd1, hd2, hl, ht, hL, hT⟩ := pair_split ‹r = _ ++ _› ‹_ = 4› hp
    rename_i s1 _ w _ _ _ _ _ hv hn _
    rw [hv, isLeadSurrogate_iff, ← hl] at hn
    exact hn hL
  · -- no second group of four hexadecimal digits
    rintro ⟨r1, lead, trail, hp⟩
    obtain ⟨ds2, hrest, l2, hd1, hd2, hl, ht, hL, hT⟩ := pair_split ‹r = _ ++ _› ‹_ = 4› hp
    have hx : _ = ds2 ++ r1 := List.cons.inj (List.cons.inj hrest).2 |>.2
    exact ‹¬∃ ds r1, _ = ds ++ r1 ∧ ds.length = 4 ∧ ∀ d ∈ ds, HexDigit d› ⟨ds2, r1, hx, l2, hd2⟩
  · -- the second value is not a trail surrogate
    rintro ⟨r1, lead, trail, hp⟩
    obtain ⟨ds2, hrest, l2, hd1, hd2, hl, ht, hL, hT⟩ := pair_split ‹r = _ ++ _› ‹_ = 4› hp
    have hx : _ = ds2 ++ r1 := List.cons.inj (List.cons.inj hrest).2 |>.2
    rename_i x4 _ _ _ _ s2 _ w1 w0 hx4 hw1 _ _ hv hn _
    rw [hx4] at hx
    have e := (List.append_inj hx (by rw [hw1, l2])).1
    subst e
    rw [hv, isTrailSurrogate_iff, ← ht] at hn
    exact hn hT
  · -- a surrogate pair
    rename_i s1 hk1 w2 hw2 hd2 hv1 hc1 x3 hat3 hat2 hr hat1 s2 hk2 w1 w0 hx3 hw1 hd1 hat0 hv2 hc2
    rw [hv1, isLeadSurrogate_iff] at hc1
    rw [hv2, isTrailSurrogate_iff] at hc2
    refine ⟨by rx4_keep, ?_⟩
    rw [if_pos rfl]
    refine ⟨w0, mvHex w2, mvHex w1, ⟨w2, w1, by rw [hr, hx3], hw2, hw1, hd2, hd1, rfl, rfl, hc1, hc2⟩,
      UAt.of_eq hat0 rfl rfl rfl rfl rfl, ?_⟩
    show combineSurrogatePair s1.lastIntValue s2.lastIntValue = _
    rw [hv1, hv2, combine_eq hc1 hc2]
  · -- `\` not followed by `u`
    rintro ⟨r1, lead, trail, hp⟩
    obtain ⟨ds2, hrest, l2, hd1, hd2, hl, ht, hL, hT⟩ := pair_split ‹r = _ ++ _› ‹_ = 4› hp
    have hx := (List.cons.inj hrest).2
    rename_i hne _
    rw [hx] at hne
    exact hne rfl
  · -- no `\`
    rintro ⟨r1, lead, trail, hp⟩
    obtain ⟨ds2, hrest, l2, hd1, hd2, hl, ht, hL, hT⟩ := pair_split ‹r = _ ++ _› ‹_ = 4› hp
    rename_i hne _
    rw [hrest] at hne
    exact hne rfl

theorem eatRegexpUnicodeEscapeSequence_wp (n : Nat) (f : Bool) (r : List Nat) (s : St) (h : UAt src N r s) :
    Wp (eatRegexpUnicodeEscapeSequence n f s) (fun b s1 => Keep s s1 ∧
      if b = true then ∃ r1 v, UAt src N r1 s1 ∧ RegExpUnicodeEscapeSequence r r1 v ∧ s1.lastIntValue = (v : Nat)
      else UAt src N r s1) := by
  unfold eatRegexpUnicodeEscapeSequence
  rx4_auto
  all_goals (try rx4_false)
  · -- `u{ CodePoint }`
    rename_i m hat0 s1 hk1 hat1 hnp s2 hk2 hat2 hn4 s3 hk3 ds r1 hm hne hds hle hat3 hv
    rx4_true
    refine ⟨r1, mvHex ds, hat3, ?_, hv⟩
    rw [hm]
    exact RegExpUnicodeEscapeSequence.codePoint _ r1 ds ⟨rfl, hne, hds⟩ hle
  · -- four digits, not the first half of a pair
    rename_i m hat0 s1 hk1 hat1 hnp s2 hk2 ds r1 hm hlen hds hat2 hv
    rx4_true
    refine ⟨r1, mvHex ds, hat2, ?_, hv⟩
    have h4 := hex4_of hm hlen hds
    by_cases hL : isLead (mvHex ds)
    · refine RegExpUnicodeEscapeSequence.lead m r1 _ h4 hL ?_
      rintro ⟨m', r', t, hr1, ⟨a, b, c', d, hm', ha, hb, hc, hd, ht⟩, hT⟩
      refine hnp ⟨r', mvHex ds, t, ds, [a, b, c', d], ?_, hlen, rfl, hds, ?_, rfl, ht, hL, hT⟩
      · rw [hm, hr1, hm']; rfl
      · intro x hx
        simp only [List.mem_cons, List.not_mem_nil, or_false] at hx
        rcases hx with rfl | rfl | rfl | rfl <;> assumption
    · exact RegExpUnicodeEscapeSequence.nonLead m r1 _ h4 hL
  · -- a surrogate pair
    rename_i m hat0 s1 hk1 r1 lead trail hp hat1 hv
    rx4_true
    refine ⟨r1, _, hat1, ?_, hv⟩
    obtain ⟨ds1, ds2, hm, l1, l2, hd1, hd2, hl, ht, hL, hT⟩ := hp
    subst hl ht
    exact RegExpUnicodeEscapeSequence.surrogatePair m (ds2 ++ r1) r1 _ _ (hex4_of hm l1 hd1) hL (hex4_of rfl l2 hd2) hT

end DL.Rx
