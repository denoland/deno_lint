import DL.Lemmas.RxSpecTop

/-! # The scan of `count_capturing_parens` on derivable strings counts the capturing groups -/
namespace DL.Rx
open DL.RxSpec DL.Gen.Unicode

/-- a unit that the scan passes over without changing its state -/
def NeutralC (x : Nat) : Prop := x ≠ 0x5C ∧ x ≠ 0x5B ∧ x ≠ 0x5D ∧ x ≠ 0x28

theorem scan_esc (x : Nat) (r : List Nat) (ic : Bool) (k : Nat) : scan (x :: r) ic true k = scan r ic false k := by
  simp [scan]

theorem scan_neutral {x : Nat} (h : NeutralC x) (r : List Nat) (ic : Bool) (k : Nat) :
    scan (x :: r) ic false k = scan r ic false k := by
  obtain ⟨h1, h2, h3, h4⟩ := h
  have e1 : (x == ch '\\') = false := beq_eq_false_iff_ne.mpr h1
  have e2 : (x == ch '[') = false := beq_eq_false_iff_ne.mpr h2
  have e3 : (x == ch ']') = false := beq_eq_false_iff_ne.mpr h3
  have e4 : (x == ch '(') = false := beq_eq_false_iff_ne.mpr h4
  simp [scan, e1, e2, e3, e4]

theorem scan_backslash (r : List Nat) (ic : Bool) (k : Nat) : scan (ch '\\' :: r) ic false k = scan r ic true k := by
  simp [scan]

theorem scan_neutrals {w : List Nat} (h : ∀ x ∈ w, NeutralC x) (r : List Nat) (ic : Bool) (k : Nat) :
    scan (w ++ r) ic false k = scan r ic false k := by
  induction w with
  | nil => rfl
  | cons x w ih =>
    rw [List.cons_append, scan_neutral (h x List.mem_cons_self), ih (fun y hy => h y (List.mem_cons_of_mem _ hy))]

/-- scan-neutral text: from the unescaped state to the unescaped state, in- or outside a class -/
def SN (i r : List Nat) : Prop := ∀ ic k, scan i ic false k = scan r ic false k
/-- the text of an escape: scanned from the escaped state -/
def SE (i r : List Nat) : Prop := ∀ ic k, scan i ic true k = scan r ic false k

theorem SN.trans {i m r : List Nat} (h1 : SN i m) (h2 : SN m r) : SN i r := fun ic k => (h1 ic k).trans (h2 ic k)
theorem SE.trans {i m r : List Nat} (h1 : SE i m) (h2 : SN m r) : SE i r := fun ic k => (h1 ic k).trans (h2 ic k)
theorem SN.refl (r : List Nat) : SN r r := fun _ _ => rfl
theorem SN.cons {x : Nat} (h : NeutralC x) (r : List Nat) : SN (x :: r) r := fun ic k => scan_neutral h r ic k
theorem SN.append {w : List Nat} (h : ∀ x ∈ w, NeutralC x) (r : List Nat) : SN (w ++ r) r :=
  fun ic k => scan_neutrals h r ic k
theorem SE.cons (x : Nat) (r : List Nat) : SE (x :: r) r := fun ic k => scan_esc x r ic k
theorem SN.backslash {m r : List Nat} (h : SE m r) : SN (ch '\\' :: m) r :=
  fun ic k => (scan_backslash m ic k).trans (h ic k)

theorem hexDigit_neutral {x : Nat} (h : HexDigit x) : NeutralC x := by
  have h' : (0x30 ≤ x ∧ x ≤ 0x39) ∨ (0x61 ≤ x ∧ x ≤ 0x66) ∨ (0x41 ≤ x ∧ x ≤ 0x46) := h
  unfold NeutralC; omega
theorem decimalDigit_neutral {x : Nat} (h : DecimalDigit x) : NeutralC x := by
  have h' : 0x30 ≤ x ∧ x ≤ 0x39 := h
  unfold NeutralC; omega
theorem controlLetter_neutral {x : Nat} (h : ControlLetter x) : NeutralC x := by
  have h' : (0x61 ≤ x ∧ x ≤ 0x7a) ∨ (0x41 ≤ x ∧ x ≤ 0x5a) := h
  unfold NeutralC; omega
theorem valueChar_neutral {x : Nat} (h : UnicodePropertyValueCharacter x) : NeutralC x := by
  rcases h with (h | h) | h
  · exact controlLetter_neutral h
  · have : x = 0x5f := h
    unfold NeutralC; omega
  · exact decimalDigit_neutral h
theorem nameChar_neutral {x : Nat} (h : UnicodePropertyNameCharacter x) : NeutralC x := valueChar_neutral (.inl h)

theorem identifierPartChar_neutral {x : Nat} (h : IdentifierPartChar x) : NeutralC x := by
  have := identifierPartChar_cases h
  unfold NeutralC; omega

theorem hex4_SN {i r : List Nat} {v : Nat} (h : Hex4Digits i r v) : SN i r := by
  obtain ⟨a, b, c', d, rfl, ha, hb, hc, hd, -⟩ := h
  exact (SN.cons (hexDigit_neutral ha) _).trans ((SN.cons (hexDigit_neutral hb) _).trans
    ((SN.cons (hexDigit_neutral hc) _).trans (SN.cons (hexDigit_neutral hd) _)))

theorem digitRun_SN {p : Nat → Prop} (hp : ∀ x, p x → NeutralC x) {ds i r : List Nat} (h : DigitRun p ds i r) :
    SN i r := by
  obtain ⟨rfl, -, hds⟩ := h
  exact SN.append (fun x hx => hp x (hds x hx)) r

theorem rues_SE {i r : List Nat} {v : Nat} (h : RegExpUnicodeEscapeSequence i r v) : SE i r := by
  cases h with
  | surrogatePair m₁ m₂ r lead trail h1 _ h2 _ =>
    refine (SE.cons _ _).trans ((hex4_SN h1).trans ?_)
    exact (SN.backslash (SE.cons _ _)).trans (hex4_SN h2)
  | lead m r v h1 _ _ | nonLead m r v h1 _ => exact (SE.cons _ _).trans (hex4_SN h1)
  | codePoint m r ds h1 _ =>
    refine (SE.cons _ _).trans ((SN.cons (by unfold NeutralC; decide) _).trans ?_)
    exact (digitRun_SN (fun x hx => hexDigit_neutral hx) h1).trans (SN.cons (by unfold NeutralC; decide) _)

theorem characterEscape_SE {i r : List Nat} {v : Nat} (h : CharacterEscape i r v) : SE i r := by
  cases h with
  | controlLetter l r hl => exact (SE.cons _ _).trans (SN.cons (controlLetter_neutral hl) _)
  | hex a b r ha hb =>
    exact (SE.cons _ _).trans ((SN.cons (hexDigit_neutral ha) _).trans (SN.cons (hexDigit_neutral hb) _))
  | unicode i r v h => exact rues_SE h
  | _ => exact SE.cons _ _

theorem upve_SN {i r : List Nat} (h : UnicodePropertyValueExpression i r) : SN i r := by
  cases h with
  | nameValue _ _ name value h1 h2 _ _ =>
    exact (digitRun_SN (fun x hx => nameChar_neutral hx) h1).trans
      ((SN.cons (x := c '=') (by unfold NeutralC; decide) _).trans (digitRun_SN (fun x hx => valueChar_neutral hx) h2))
  | lone _ v h1 _ _ => exact digitRun_SN (fun x hx => valueChar_neutral hx) h1

theorem characterClassEscape_SE {i r : List Nat} (h : CharacterClassEscape i r) : SE i r := by
  cases h with
  | simple x r _ => exact SE.cons _ _
  | property x m r _ h1 =>
    exact (SE.cons _ _).trans ((SN.cons (by unfold NeutralC; decide) _).trans
      ((upve_SN h1).trans (SN.cons (by unfold NeutralC; decide) _)))

theorem identifierStartChar_neutral {x : Nat} (h : IdentifierStartChar x) : NeutralC x :=
  identifierPartChar_neutral (identifierStartChar_part h)

theorem idStart_SN {i r : List Nat} {x : Nat} (h : RegExpIdentifierStart i r x) : SN i r := by
  cases h with
  | char x r hx => exact SN.cons (identifierStartChar_neutral hx) _
  | escape m r v hu _ => exact SN.backslash (rues_SE hu)

theorem idPart_SN {i r : List Nat} {x : Nat} (h : RegExpIdentifierPart i r x) : SN i r := by
  cases h with
  | char x r hx => exact SN.cons (identifierPartChar_neutral hx) _
  | escape m r v hu _ => exact SN.backslash (rues_SE hu)

theorem idName_SN {i r : List Nat} {n : Name} (h : RegExpIdentifierName i r n) : SN i r := by
  induction h
  · rename_i h; exact idStart_SN h
  · rename_i hp ih; exact ih.trans (idPart_SN hp)

theorem groupName_SN {i r : List Nat} {n : Name} (h : GroupName i r n) : SN i r := by
  obtain ⟨m, rfl, hn⟩ := h
  exact (SN.cons (by unfold NeutralC; decide) _).trans ((idName_SN hn).trans (SN.cons (by unfold NeutralC; decide) _))

theorem decimalEscape_SE {i r : List Nat} {v : Nat} (h : DecimalEscape i r v) : SE i r := by
  obtain ⟨ds, rfl, ⟨d, ds', rfl, _⟩, hds, -, -⟩ := h
  exact (SE.cons _ _).trans (SN.append (fun x hx => decimalDigit_neutral (hds x (List.mem_cons_of_mem _ hx))) r)

theorem atomEscape_SE {N : Nat} {i r : List Nat} {a : Attr} (h : AtomEscape N i r a) : SE i r ∧ a.groups = [] := by
  cases h with
  | decimal _ _ v h _ => exact ⟨decimalEscape_SE h, rfl⟩
  | characterClass _ _ h => exact ⟨characterClassEscape_SE h, rfl⟩
  | character _ _ v h => exact ⟨characterEscape_SE h, rfl⟩
  | named m r n h => exact ⟨(SE.cons _ _).trans (groupName_SN h), rfl⟩

theorem classEscape_SE {i r : List Nat} {v : Option Nat} (h : ClassEscape i r v) : SE i r := by
  cases h with
  | b r | dash r => exact SE.cons _ _
  | characterClass _ _ h => exact characterClassEscape_SE h
  | character _ _ v h => exact characterEscape_SE h

/-- text inside a character class: scanned with `in_class = true` -/
def SC (i r : List Nat) : Prop := ∀ k, scan i true false k = scan r true false k
theorem SC.trans {i m r : List Nat} (h1 : SC i m) (h2 : SC m r) : SC i r := fun k => (h1 k).trans (h2 k)

theorem ch_vals : ch '\\' = 92 ∧ ch '[' = 91 ∧ ch ']' = 93 ∧ ch '(' = 40 ∧ ch '?' = 63 ∧ ch '<' = 60 ∧ ch '=' = 61 ∧
    ch '!' = 33 := ⟨rfl, rfl, rfl, rfl, rfl, rfl, rfl, rfl⟩

theorem scan_open_in (r : List Nat) (k : Nat) : scan (0x5B :: r) true false k = scan r true false k := by
  simp [scan, ch_vals.1, ch_vals.2.1]
theorem scan_open (r : List Nat) (k : Nat) : scan (0x5B :: r) false false k = scan r true false k := by
  simp [scan, ch_vals.1, ch_vals.2.1]
theorem scan_close (r : List Nat) (k : Nat) : scan (0x5D :: r) true false k = scan r false false k := by
  simp [scan, ch_vals.1, ch_vals.2.1, ch_vals.2.2.1]

theorem scan_inClass {x : Nat} (h1 : x ≠ 0x5C) (h3 : x ≠ 0x5D) (r : List Nat) (k : Nat) :
    scan (x :: r) true false k = scan r true false k := by
  have e1 : (x == ch '\\') = false := beq_eq_false_iff_ne.mpr h1
  have e3 : (x == ch ']') = false := beq_eq_false_iff_ne.mpr h3
  by_cases h2 : x = 0x5B
  · subst h2; exact scan_open_in r k
  · have e2 : (x == ch '[') = false := beq_eq_false_iff_ne.mpr h2
    simp [scan, e1, e2, e3]

theorem classAtomNoDash_SC {i r : List Nat} {v : Option Nat} (h : ClassAtomNoDash i r v) : SC i r := by
  cases h with
  | char x r _ h1 h2 _ => exact fun k => scan_inClass h1 h2 r k
  | escape m r v h => exact fun k => (SN.backslash (classEscape_SE h)) true k

theorem classAtom_SC {i r : List Nat} {v : Option Nat} (h : ClassAtom i r v) : SC i r := by
  cases h with
  | dash r => exact fun k => scan_inClass (by decide) (by decide) r k
  | noDash _ _ v h => exact classAtomNoDash_SC h

theorem dash_SC (r : List Nat) : SC (c '-' :: r) r := fun k => scan_inClass (by decide) (by decide) r k

theorem cr_SC {sym : CRSym} {i r : List Nat} (h : CR sym i r) : SC i r := by
  induction h with
  | empty r => exact fun _ => rfl
  | nonempty i r _ ih => exact ih
  | atom i r v h => exact classAtom_SC h
  | atomMore i m r v h _ ih => exact (classAtom_SC h).trans ih
  | range i m₁ m₂ r a b ha hb _ _ ih => exact ((classAtom_SC ha).trans ((dash_SC _).trans (classAtom_SC hb))).trans ih
  | ndAtom i r v h => exact classAtom_SC h
  | ndAtomMore i m r v h _ ih => exact (classAtomNoDash_SC h).trans ih
  | ndRange i m₁ m₂ r a b ha hb _ _ ih =>
    exact ((classAtomNoDash_SC ha).trans ((dash_SC _).trans (classAtom_SC hb))).trans ih

/-- scanned outside a class from and to the unescaped state, nothing counted -/
def SO (i r : List Nat) : Prop := ∀ k, scan i false false k = scan r false false k

theorem characterClass_SO {i r : List Nat} (h : CharacterClass i r) : SO i r := by
  cases h with
  | pos m r _ hcr =>
    intro k
    have h1 : scan (c '[' :: m) false false k = scan m true false k := scan_open m k
    have h2 : scan (c ']' :: r) true false k = scan r false false k := scan_close r k
    rw [h1, cr_SC hcr k, h2]
  | neg m r hcr =>
    intro k
    have h1 : scan (c '[' :: c '^' :: m) false false k = scan m true false k :=
      (scan_open _ k).trans (scan_inClass (x := 0x5E) (by decide) (by decide) m k)
    have h2 : scan (c ']' :: r) true false k = scan r false false k := scan_close r k
    rw [h1, cr_SC hcr k, h2]

theorem quantifierPrefix_SN {qok : Nat → Nat → Prop} {i r : List Nat} (h : QuantifierPrefix qok i r) : SN i r := by
  have hd : ∀ {ds i r}, DigitRun DecimalDigit ds i r → SN i r := fun h => digitRun_SN (fun x hx => decimalDigit_neutral hx) h
  cases h with
  | star r | plus r | opt r => exact SN.cons (by unfold NeutralC; decide) _
  | exact m r ds h =>
    exact (SN.cons (by unfold NeutralC; decide) _).trans ((hd h).trans (SN.cons (by unfold NeutralC; decide) _))
  | atLeast m r ds h =>
    exact (SN.cons (by unfold NeutralC; decide) _).trans ((hd h).trans
      ((SN.cons (by unfold NeutralC; decide) _).trans (SN.cons (by unfold NeutralC; decide) _)))
  | range m₁ m₂ r ds₁ ds₂ h1 h2 _ =>
    exact (SN.cons (by unfold NeutralC; decide) _).trans ((hd h1).trans
      ((SN.cons (by unfold NeutralC; decide) _).trans ((hd h2).trans (SN.cons (by unfold NeutralC; decide) _))))

theorem quantifier_SN {qok : Nat → Nat → Prop} {i r : List Nat} (h : Quantifier qok i r) : SN i r := by
  cases h with
  | greedy h => exact quantifierPrefix_SN h
  | lazy h => exact (quantifierPrefix_SN h).trans (SN.cons (x := c '?') (by unfold NeutralC; decide) _)

/-! ### the recursive productions -/

def isTAA : Sym → Bool
  | .Term | .Assertion | .Atom => true
  | _ => false

theorem lit_head {s : List Char} {x : Char} {i m : List Nat} (h : lit (x :: s) i m) : i.head? = some (c x) := by
  unfold lit at h; rw [h]; rfl

theorem head_cons_ne {x y : Nat} (h : x ≠ y) (m : List Nat) : (x :: m).head? ≠ some y := by
  intro he
  exact h (by simpa using he)

/-- no phrase starts with the quantifier character `q`, one of `* + ? {` (a `Disjunction` / `Alternative` may be
empty: then what follows must not start with it) -/
theorem derives_head {qok : Nat → Nat → Prop} {N : Nat} {sym : Sym} {i r : List Nat} {a : Attr} {q : Nat}
    (hs : SyntaxCharacter q) (hq : ∀ x ∈ [c '|', c '^', c '$', c '\\', c '(', c '.', c '['], x ≠ q)
    (h : Derives qok N sym i r a) : (r.head? ≠ some q ∨ isTAA sym = true) → i.head? ≠ some q := by
  have paren : ∀ {w : List Char} {i m : List Nat}, lit ('(' :: w) i m → i.head? ≠ some q := fun hl => by
    rw [lit_head hl]; exact fun e => hq _ (by decide) (Option.some.inj e)
  induction h with
  | disjOne i r a _ ih => exact fun h => ih (h.imp id (fun h => by cases h))
  | disjMore i m r a₁ a₂ _ _ ih1 _ => exact fun _ => ih1 (.inl (head_cons_ne (hq _ (by decide)) _))
  | altEmpty r => exact fun h => h.elim id (fun h => by cases h)
  | altSnoc i m r a₁ a₂ _ _ ih1 ih2 => exact fun _ => ih1 (.inl (ih2 (.inr rfl)))
  | termAssertion i r a _ ih | termAtom i r a _ ih => exact fun _ => ih (.inr rfl)
  | termQuantified i m r a _ _ ih => exact fun _ => ih (.inr rfl)
  | caret r | dollar r | wordBoundary r | notWordBoundary r | dot r =>
    exact fun _ => head_cons_ne (hq _ (by decide)) _
  | lookahead i m r a hl _ _ | negativeLookahead i m r a hl _ _ | lookbehind i m r a hl _ _
  | negativeLookbehind i m r a hl _ _ | nonCapturing i m r a hl _ _ => exact fun _ => paren hl
  | patternCharacter x r hx =>
    intro _ he
    have : x = q := by simpa using he
    exact hx.2 (this ▸ hs)
  | atomEscape m r a _ => exact fun _ => head_cons_ne (hq _ (by decide)) _
  | characterClass i r hc =>
    intro _
    cases hc <;> exact head_cons_ne (hq _ (by decide)) _
  | group m₁ m₂ r name a _ _ _ => exact fun _ => head_cons_ne (hq _ (by decide)) _

theorem Attr.append_groups (a b : Attr) : (a ++ b).groups = a.groups ++ b.groups := rfl

theorem scan_paren_count {m : List Nat} (k : Nat)
    (h : (m[0]? != some (ch '?') || (m[1]? == some (ch '<') && m[2]? != some (ch '=') && m[2]? != some (ch '!'))) = true) :
    scan (0x28 :: m) false false k = scan m false false (k + 1) := by
  simp only [scan, Bool.false_eq_true, if_false]
  rw [if_neg (by rw [ch_vals.1]; decide), if_neg (by rw [ch_vals.2.1]; decide), if_neg (by rw [ch_vals.2.2.1]; decide),
    if_pos (by rw [h]; rw [ch_vals.2.2.2.1]; decide)]

theorem scan_paren_skip {m : List Nat} (k : Nat)
    (h : (m[0]? != some (ch '?') || (m[1]? == some (ch '<') && m[2]? != some (ch '=') && m[2]? != some (ch '!'))) = false) :
    scan (0x28 :: m) false false k = scan m false false k := by
  simp only [scan, Bool.false_eq_true, if_false]
  rw [if_neg (by rw [ch_vals.1]; decide), if_neg (by rw [ch_vals.2.1]; decide), if_neg (by rw [ch_vals.2.2.1]; decide),
    if_neg (by rw [h]; simp)]

theorem neutral_of_ne {x : Nat} (h : x ≠ 0x5C ∧ x ≠ 0x5B ∧ x ≠ 0x5D ∧ x ≠ 0x28) : NeutralC x := h

theorem idStart_ne {x : Nat} (hx : IdentifierStartChar x) : x ≠ 0x3D ∧ x ≠ 0x21 := by
  have := identifierPartChar_cases (identifierStartChar_part hx)
  omega

/-- the first unit of a group name text (after `?<`) is neither `=` nor `!` -/
theorem idName_head {i r : List Nat} {n : Name} (h : RegExpIdentifierName i r n) :
    i.head? ≠ some (ch '=') ∧ i.head? ≠ some (ch '!') := by
  induction h with
  | start _ _ hs =>
    cases hs
    · rename_i hx
      exact ⟨head_cons_ne (idStart_ne hx).1 _, head_cons_ne (idStart_ne hx).2 _⟩
    · exact ⟨head_cons_ne (by decide) _, head_cons_ne (by decide) _⟩
  | part _ _ _ _ _ _ ih => exact ih

theorem derives_scan {qok : Nat → Nat → Prop} {N : Nat} {sym : Sym} {i r : List Nat} {a : Attr}
    (h : Derives qok N sym i r a) : ∀ k, scan i false false k = scan r false false (k + a.groups.length) := by
  induction h with
  | disjOne i r a _ ih => exact ih
  | disjMore i m r a₁ a₂ _ _ ih1 ih2 =>
    intro k
    rw [ih1 k, scan_neutral (neutral_of_ne (by decide)), ih2, Attr.append_groups, List.length_append, Nat.add_assoc]
  | altEmpty r => exact fun k => rfl
  | altSnoc i m r a₁ a₂ _ _ ih1 ih2 =>
    intro k
    rw [ih1 k, ih2, Attr.append_groups, List.length_append, Nat.add_assoc]
  | termAssertion i r a _ ih | termAtom i r a _ ih => exact ih
  | termQuantified i m r a _ hq ih =>
    intro k
    rw [ih k, quantifier_SN hq false]
  | caret r | dollar r | dot r => exact fun k => scan_neutral (neutral_of_ne (by decide)) r false k
  | wordBoundary r | notWordBoundary r => exact fun k => (SN.backslash (SE.cons _ _)) false k
  | lookahead i m r a hl _ ih =>
    intro k
    unfold lit at hl; subst hl
    show scan (0x28 :: 0x3F :: 0x3D :: m) false false k = _
    rw [scan_paren_skip k (by rw [ch_vals.2.2.2.2.1, ch_vals.2.2.2.2.2.1]; rfl),
      scan_neutral (neutral_of_ne (by decide)), scan_neutral (neutral_of_ne (by decide)), ih,
      scan_neutral (neutral_of_ne (by decide))]
  | negativeLookahead i m r a hl _ ih =>
    intro k
    unfold lit at hl; subst hl
    show scan (0x28 :: 0x3F :: 0x21 :: m) false false k = _
    rw [scan_paren_skip k (by rw [ch_vals.2.2.2.2.1, ch_vals.2.2.2.2.2.1]; rfl),
      scan_neutral (neutral_of_ne (by decide)), scan_neutral (neutral_of_ne (by decide)), ih,
      scan_neutral (neutral_of_ne (by decide))]
  | lookbehind i m r a hl _ ih =>
    intro k
    unfold lit at hl; subst hl
    show scan (0x28 :: 0x3F :: 0x3C :: 0x3D :: m) false false k = _
    rw [scan_paren_skip k (by rw [ch_vals.2.2.2.2.1, ch_vals.2.2.2.2.2.1, ch_vals.2.2.2.2.2.2.1]; rfl),
      scan_neutral (neutral_of_ne (by decide)), scan_neutral (neutral_of_ne (by decide)),
      scan_neutral (neutral_of_ne (by decide)), ih, scan_neutral (neutral_of_ne (by decide))]
  | negativeLookbehind i m r a hl _ ih =>
    intro k
    unfold lit at hl; subst hl
    show scan (0x28 :: 0x3F :: 0x3C :: 0x21 :: m) false false k = _
    rw [scan_paren_skip k (by rw [ch_vals.2.2.2.2.1, ch_vals.2.2.2.2.2.1, ch_vals.2.2.2.2.2.2.1, ch_vals.2.2.2.2.2.2.2]; rfl),
      scan_neutral (neutral_of_ne (by decide)), scan_neutral (neutral_of_ne (by decide)),
      scan_neutral (neutral_of_ne (by decide)), ih, scan_neutral (neutral_of_ne (by decide))]
  | patternCharacter x r hx =>
    intro k
    refine scan_neutral ⟨?_, ?_, ?_, ?_⟩ r false k <;> intro he <;> subst he <;>
      exact hx.2 (by unfold SyntaxCharacter; decide)
  | atomEscape m r a hae =>
    intro k
    have := atomEscape_SE hae
    rw [this.2, (SN.backslash this.1) false k]; rfl
  | characterClass i r hc => exact fun k => characterClass_SO hc k
  | group m₁ m₂ r name a hgs hd ih =>
    intro k
    have hcount : ([name] ++ a.groups).length = 1 + a.groups.length := by simp; omega
    show scan (0x28 :: m₁) false false k = scan r false false (k + ([name] ++ a.groups).length)
    rw [hcount]
    cases hgs with
    | empty _ =>
      have hh := derives_head (q := c '?') (by unfold SyntaxCharacter; decide) (by decide) hd (.inl (head_cons_ne (by decide) _))
      rw [scan_paren_count k (by
        have : m₁[0]? ≠ some (ch '?') := by rw [← List.head?_eq_getElem?]; exact hh
        simp [this]), ih, scan_neutral (neutral_of_ne (by decide))]
      congr 1; omega
    | named m _ n hgn =>
      obtain ⟨m', rfl, hn⟩ := hgn
      have hh := idName_head hn
      rw [scan_paren_count k (by
        have h1 : m'[0]? ≠ some (ch '=') := by rw [← List.head?_eq_getElem?]; exact hh.1
        have h2 : m'[0]? ≠ some (ch '!') := by rw [← List.head?_eq_getElem?]; exact hh.2
        show ((c '?' :: c '<' :: m')[0]? != some (ch '?') ||
          ((c '?' :: c '<' :: m')[1]? == some (ch '<') && (c '?' :: c '<' :: m')[2]? != some (ch '=') &&
            (c '?' :: c '<' :: m')[2]? != some (ch '!'))) = true
        show (_ || (_ && m'[0]? != some (ch '=') && m'[0]? != some (ch '!'))) = true
        simp [h1, h2]),
        scan_neutral (neutral_of_ne (by decide)), scan_neutral (neutral_of_ne (by decide)), (idName_SN hn) false,
        scan_neutral (neutral_of_ne (by decide)), ih, scan_neutral (neutral_of_ne (by decide))]
      congr 1; omega
  | nonCapturing i m r a hl _ ih =>
    intro k
    unfold lit at hl; subst hl
    show scan (0x28 :: 0x3F :: 0x3A :: m) false false k = _
    rw [scan_paren_skip k (by rw [ch_vals.2.2.2.2.1, ch_vals.2.2.2.2.2.1]; rfl),
      scan_neutral (neutral_of_ne (by decide)), scan_neutral (neutral_of_ne (by decide)), ih,
      scan_neutral (neutral_of_ne (by decide))]

end DL.Rx
