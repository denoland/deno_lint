import DL.Lemmas.RxIndTac
import DL.Lemmas.RxBlocks

/-! # History independence: the reader, the tables, the `eat_*` leaves, identifiers -/
namespace DL.Rx
attribute [local irreducible] isScalar
variable {c : Bool}
set_option linter.unusedSimpArgs false

theorem I.codePointWithOffset (W : RegSet) (k : Nat) : Ind c W (codePointWithOffset k) (fun _ => W) := by
  unfold DL.Rx.codePointWithOffset; rx2_auto

theorem I.index (W : RegSet) : Ind c W index (fun _ => W) := by
  unfold DL.Rx.index; rx2_auto

theorem I.readerAt (W : RegSet) (i : Nat) : Ind c W (readerAt i) (fun _ => W) := by
  unfold DL.Rx.readerAt; rx2_auto

theorem I.pushBack (W : RegSet) (x : Nat) : Ind c W (pushBack x) (fun _ => W) := by
  unfold DL.Rx.pushBack; rx2_auto

theorem I.rewindLoop (W : RegSet) (idx : Nat) : ∀ k i, Ind c W (rewindLoop idx k i) (fun _ => W)
  | 0, _ => by unfold DL.Rx.rewindLoop; rx2_auto
  | k + 1, i => by
    have ih := I.rewindLoop W idx k (i + 1)
    unfold DL.Rx.rewindLoop; rx2_auto

theorem I.rewind (W : RegSet) (i : Nat) : Ind c W (rewind i) (fun _ => W) := by
  unfold DL.Rx.rewind; rx2_auto

theorem I.advance (W : RegSet) : Ind c W advance (fun _ => W) := by
  unfold DL.Rx.advance; rx2_auto

theorem I.eat (W : RegSet) (x : Char) : Ind c W (eat x) (fun _ => W) := by
  unfold DL.Rx.eat; rx2_auto

theorem I.eat2 (W : RegSet) (x y : Char) : Ind c W (eat2 x y) (fun _ => W) := by
  unfold DL.Rx.eat2; rx2_auto

theorem I.eat3 (W : RegSet) (x y z : Char) : Ind c W (eat3 x y z) (fun _ => W) := by
  unfold DL.Rx.eat3; rx2_auto

theorem I.isInRangeLoop (W : RegSet) (cp : Nat) (ranges : Array Nat) :
    ∀ n l r, Ind c W (isInRangeLoop cp ranges n l r) (fun _ => W)
  | 0, _, _ => by unfold DL.Rx.isInRangeLoop; rx2_auto
  | n + 1, l, r => by
    have ih := I.isInRangeLoop W cp ranges n
    have ih1 := ih l ((l + r) / 2)
    have ih2 := ih ((l + r) / 2 + 1) r
    unfold DL.Rx.isInRangeLoop; rx2_auto

theorem I.isInRange (W : RegSet) (cp : Nat) (ranges : Array Nat) : Ind c W (isInRange cp ranges) (fun _ => W) :=
  I.isInRangeLoop W cp ranges _ _ _

theorem I.isLargeIdStart (W : RegSet) (cp : Nat) : Ind c W (isLargeIdStart cp) (fun _ => W) := I.isInRange W cp _
theorem I.isLargeIdContinue (W : RegSet) (cp : Nat) : Ind c W (isLargeIdContinue cp) (fun _ => W) := I.isInRange W cp _
-- the unifier must not compare the two tables element by element
attribute [local irreducible] isLargeIdStart isLargeIdContinue

theorem I.isIdStart (W : RegSet) (cp : Nat) : Ind c W (isIdStart cp) (fun _ => W) := by
  unfold DL.Rx.isIdStart; rx2_auto

theorem I.isIdContinue (W : RegSet) (cp : Nat) : Ind c W (isIdContinue cp) (fun _ => W) := by
  unfold DL.Rx.isIdContinue; rx2_auto

theorem I.isRegexpIdentifierStart (W : RegSet) (cp : Nat) : Ind c W (isRegexpIdentifierStart cp) (fun _ => W) := by
  unfold DL.Rx.isRegexpIdentifierStart; rx2_auto

theorem I.isRegexpIdentifierPart (W : RegSet) (cp : Nat) : Ind c W (isRegexpIdentifierPart cp) (fun _ => W) := by
  unfold DL.Rx.isRegexpIdentifierPart; rx2_auto

theorem I.checkedI64 (W : RegSet) (v : Int) (site : String) : Ind c W (checkedI64 v site) (fun _ => W) := by
  unfold DL.Rx.checkedI64; rx2_auto

theorem I.eatFixedHexDigitsLoop (W : RegSet) (start : Nat) :
    ∀ k, Ind c (ins .int W) (eatFixedHexDigitsLoop start k) (fun _ => ins .int W)
  | 0 => by unfold DL.Rx.eatFixedHexDigitsLoop; rx2_auto
  | k + 1 => by
    have ih := I.eatFixedHexDigitsLoop W start k
    unfold DL.Rx.eatFixedHexDigitsLoop; rx2_auto

theorem I.eatFixedHexDigits (W : RegSet) (n : Nat) : Ind c W (eatFixedHexDigits n) (fun _ => ins .int W) := by
  unfold DL.Rx.eatFixedHexDigits; rx2_auto

theorem I.eatOctalDigit (W : RegSet) : Ind c W eatOctalDigit (fun _ => ins .int W) := by
  unfold DL.Rx.eatOctalDigit; rx2_auto

theorem I.eatLegacyOctalEscapeSequence (W : RegSet) : Ind c W eatLegacyOctalEscapeSequence (fun _ => ins .int W) := by
  unfold DL.Rx.eatLegacyOctalEscapeSequence; rx2_auto

theorem I.eatHexDigitsLoop (W : RegSet) : ∀ n, Ind c (ins .int W) (eatHexDigitsLoop n) (fun _ => ins .int W)
  | 0 => by unfold DL.Rx.eatHexDigitsLoop; rx2_auto
  | n + 1 => by
    have ih := I.eatHexDigitsLoop W n
    unfold DL.Rx.eatHexDigitsLoop; rx2_auto

theorem I.eatHexDigits (W : RegSet) (n : Nat) : Ind c W (eatHexDigits n) (fun _ => ins .int W) := by
  unfold DL.Rx.eatHexDigits; rx2_auto

theorem I.eatDecimalDigitsLoop (W : RegSet) : ∀ n, Ind c (ins .int W) (eatDecimalDigitsLoop n) (fun _ => ins .int W)
  | 0 => by unfold DL.Rx.eatDecimalDigitsLoop; rx2_auto
  | n + 1 => by
    have ih := I.eatDecimalDigitsLoop W n
    unfold DL.Rx.eatDecimalDigitsLoop; rx2_auto

theorem I.eatDecimalDigits (W : RegSet) (n : Nat) : Ind c W (eatDecimalDigits n) (fun _ => ins .int W) := by
  unfold DL.Rx.eatDecimalDigits; rx2_auto

theorem I.eatHexEscapeSequence (W : RegSet) : Ind c W eatHexEscapeSequence (fun b => insIf b .int W) := by
  unfold DL.Rx.eatHexEscapeSequence; rx2_auto

theorem I.eatPropertyCharsLoop (W : RegSet) (p : Nat → Bool) (site : String) :
    ∀ n, Ind c (ins .str W) (eatPropertyCharsLoop p site n) (fun _ => ins .str W)
  | 0 => by unfold DL.Rx.eatPropertyCharsLoop; rx2_auto
  | n + 1 => by
    have ih := I.eatPropertyCharsLoop W p site n
    unfold DL.Rx.eatPropertyCharsLoop; rx2_auto

theorem I.eatUnicodePropertyName (W : RegSet) (n : Nat) : Ind c W (eatUnicodePropertyName n) (fun _ => ins .str W) := by
  unfold DL.Rx.eatUnicodePropertyName; rx2_auto

theorem I.eatUnicodePropertyValue (W : RegSet) (n : Nat) : Ind c W (eatUnicodePropertyValue n) (fun _ => ins .str W) := by
  unfold DL.Rx.eatUnicodePropertyValue; rx2_auto

theorem I.eatLoneUnicodePropertyNameOrValue (W : RegSet) (n : Nat) :
    Ind c W (eatLoneUnicodePropertyNameOrValue n) (fun _ => ins .str W) := I.eatUnicodePropertyValue W n

theorem I.propNameValue (W : RegSet) (n : Nat) : Ind c W (propNameValue n) (fun _ => W) := by
  unfold DL.Rx.propNameValue; rx2_auto

theorem I.propLone (W : RegSet) (n : Nat) : Ind c W (propLone n) (fun _ => W) := by
  unfold DL.Rx.propLone; rx2_auto

theorem I.eatUnicodePropertyValueExpression (W : RegSet) (n : Nat) :
    Ind c W (eatUnicodePropertyValueExpression n) (fun _ => W) := by
  rw [eatUnicodePropertyValueExpression_eq]; rx2_auto

theorem I.eatDecimalEscapeLoop (W : RegSet) : ∀ n, Ind c (ins .int W) (eatDecimalEscapeLoop n) (fun _ => ins .int W)
  | 0 => by unfold DL.Rx.eatDecimalEscapeLoop; rx2_auto
  | n + 1 => by
    have ih := I.eatDecimalEscapeLoop W n
    unfold DL.Rx.eatDecimalEscapeLoop; rx2_auto

theorem I.eatDecimalEscape (W : RegSet) (n : Nat) : Ind c W (eatDecimalEscape n) (fun _ => ins .int W) := by
  unfold DL.Rx.eatDecimalEscape; rx2_auto

theorem I.isValidIdentityEscape (W : RegSet) (cp : Nat) : Ind c W (isValidIdentityEscape cp) (fun _ => W) := by
  unfold DL.Rx.isValidIdentityEscape; rx2_auto

theorem I.eatIdentityEscape (W : RegSet) : Ind c W eatIdentityEscape (fun b => insIf b .int W) := by
  unfold DL.Rx.eatIdentityEscape; rx2_auto

theorem I.eatRegexpUnicodeCodepointEscape (W : RegSet) (n : Nat) :
    Ind c W (eatRegexpUnicodeCodepointEscape n) (fun b => insIf b .int W) := by
  unfold DL.Rx.eatRegexpUnicodeCodepointEscape; rx2_auto

theorem I.eatRegexpUnicodeSurrogatePairEscape (W : RegSet) :
    Ind c W eatRegexpUnicodeSurrogatePairEscape (fun _ => ins .int W) := by
  unfold DL.Rx.eatRegexpUnicodeSurrogatePairEscape; rx2_auto

theorem I.eatRegexpUnicodeEscapeSequence (W : RegSet) (n : Nat) (f : Bool) :
    Ind c W (eatRegexpUnicodeEscapeSequence n f) (fun b => insIf b .int W) := by
  unfold DL.Rx.eatRegexpUnicodeEscapeSequence; rx2_auto

theorem I.eatControlLetter (W : RegSet) : Ind c W eatControlLetter (fun b => insIf b .int W) := by
  unfold DL.Rx.eatControlLetter; rx2_auto

theorem I.eatControlEscape (W : RegSet) : Ind c W eatControlEscape (fun b => insIf b .int W) := by
  unfold DL.Rx.eatControlEscape; rx2_auto

theorem I.eatZero (W : RegSet) : Ind c W eatZero (fun b => insIf b .int W) := by
  unfold DL.Rx.eatZero; rx2_auto

theorem I.eatCControlLetter (W : RegSet) : Ind c W eatCControlLetter (fun b => insIf b .int W) := by
  unfold DL.Rx.eatCControlLetter; rx2_auto

theorem I.identPartCp (W : RegSet) (n : Nat) (f : Bool) (cp0 cp1 : Option Nat) :
    Ind c W (identPartCp n f cp0 cp1) (fun _ => W) := by
  unfold DL.Rx.identPartCp; rx2_auto

theorem I.eatRegexpIdentifierPart (W : RegSet) (n : Nat) :
    Ind c W (eatRegexpIdentifierPart n) (fun b => insIf b .int W) := by
  rw [eatRegexpIdentifierPart_eq]; rx2_auto

theorem I.identStartCp (W : RegSet) (n : Nat) (f : Bool) (cp0 : Nat) (cp1 : Option Nat) :
    Ind c W (identStartCp n f cp0 cp1) (fun _ => W) := by
  unfold DL.Rx.identStartCp; rx2_auto

theorem I.identStartHit (W : RegSet) (n : Nat) (f : Bool) : Ind c W (identStartHit n f) (fun b => insIf b .int W) := by
  unfold DL.Rx.identStartHit; rx2_auto

theorem I.eatRegexpIdentifierStart (W : RegSet) (n : Nat) :
    Ind c W (eatRegexpIdentifierStart n) (fun b => insIf b .int W) := by
  rw [eatRegexpIdentifierStart_eq]; rx2_auto

theorem I.eatRegexpIdentifierNameLoop (W : RegSet) :
    ∀ n, Ind c (ins .str W) (eatRegexpIdentifierNameLoop n) (fun _ => ins .str W)
  | 0 => by unfold DL.Rx.eatRegexpIdentifierNameLoop; rx2_auto
  | n + 1 => by
    have ih := I.eatRegexpIdentifierNameLoop W n
    unfold DL.Rx.eatRegexpIdentifierNameLoop; rx2_auto

theorem I.eatRegexpIdentifierName (W : RegSet) (n : Nat) :
    Ind c W (eatRegexpIdentifierName n) (fun b => insIf b .str W) := by
  unfold DL.Rx.eatRegexpIdentifierName; rx2_auto

theorem I.eatGroupName (W : RegSet) (n : Nat) : Ind c W (eatGroupName n) (fun b => insIf b .str W) := by
  unfold DL.Rx.eatGroupName; rx2_auto

end DL.Rx
