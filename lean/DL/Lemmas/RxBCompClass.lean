import DL.Lemmas.RxBCompAtomEsc
import DL.Lemmas.RxCompClass

/-! # Annex B (no `u` flag), completeness: class escapes, class atoms, class ranges, `CharacterClass` -/
namespace DL.Rx
open DL.RxSpec DL.Gen.Unicode

attribute [local irreducible] isScalar
variable {src : List Nat} {K : Bool × Nat}

/-- the finishing step of the leaves about class atoms -/
macro "class_leaf" : tactic => `(tactic| (
  refine ⟨by first | rfl | assumption, by rx6_at, ?_, by first | rx6_keep | exact Keep.toN ‹_›⟩
  first | rfl | (show _ = _; assumption)))

theorem ccl_not_letter {l : Nat} (h : RxSpecB.ClassControlLetter l) : (isAsciiDigit l || l == ch '_') = true := by
  rcases h with h | h
  · rw [isAsciiDigit_of_decimalDigit h]; rfl
  · rw [h]; simp

theorem letter_not_ccl {l : Nat} (h : ControlLetter l) : (isAsciiDigit l || l == ch '_') = false := by
  have h' : (0x61 ≤ l ∧ l ≤ 0x7a) ∨ (0x41 ≤ l ∧ l ≤ 0x5a) := h
  have h1 : isAsciiDigit l = false := by
    cases hd : isAsciiDigit l
    · rfl
    · have := decimalDigit_of_isAsciiDigit hd
      have h2 : 0x30 ≤ l ∧ l ≤ 0x39 := this
      omega
  have h2 : (l == ch '_') = false := by
    have : l ≠ ch '_' := by show l ≠ 0x5f; omega
    simpa using this
  rw [h1, h2]; rfl

theorem ce_c_shape {nf : Bool} {m r1 : List Nat} {v : Nat} (h : RxSpecB.CharacterEscape nf (ch 'c' :: m) r1 v) :
    ∃ l, m = l :: r1 ∧ ControlLetter l := by
  generalize hi : ch 'c' :: m = i at h
  cases h with
  | controlLetter l _ hl => exact ⟨l, (List.cons.inj hi).2, hl⟩
  | legacyOctal _ _ _ hlo =>
    obtain ⟨x, m', e, hx⟩ := legacyOctal_head hlo
    subst e
    have : ch 'c' = x := (List.cons.inj hi).1
    subst this
    have h' : 0x30 ≤ ch 'c' ∧ ch 'c' ≤ 0x37 := hx
    exact absurd h' (by decide)
  | identity x _ _ hc _ _ => exact absurd (List.cons.inj hi).1.symm hc
  | _ => exact absurd (List.cons.inj hi).1 (by decide)

theorem ce_not_classControl {nf : Bool} {i r1 : List Nat} {v : Nat} (h : RxSpecB.CharacterEscape nf i r1 v) :
    ¬∃ l r', i = c 'c' :: l :: r' ∧ RxSpecB.ClassControlLetter l := by
  rintro ⟨l, r', rfl, hl⟩
  obtain ⟨l', e, hl'⟩ := ce_c_shape h
  cases e
  have := ccl_not_letter hl
  rw [letter_not_ccl hl'] at this
  cases this

theorem NE.classControlLetter (s : St) : NE (DL.Rx.classControlLetter s) := by
  unfold DL.Rx.classControlLetter; ne_auto

/-- the block raises no error, so what soundness says of it is all there is to say -/
theorem classControlLetter_wc (r : List Nat) (s : St) (h : BAt src K r s) :
    Wc (classControlLetter s s) (fun b s1 =>
      if b = true then ∃ l r1, r = c 'c' :: l :: r1 ∧ RxSpecB.ClassControlLetter l ∧ BAt src K r1 s1 ∧ KeepN s s1 ∧
        s1.lastIntValue = ((l % 32 : Nat) : Int)
      else s1 = s ∧ ¬∃ l r', r = c 'c' :: l :: r' ∧ RxSpecB.ClassControlLetter l) :=
  Wc.of_wp (classControlLetter_wb r s h) (NE.classControlLetter s)

theorem classControlLetter_wd (l : Nat) (r1 : List Nat) (s : St) (h : BAt src K (c 'c' :: l :: r1) s)
    (hl : RxSpecB.ClassControlLetter l) :
    Wc (classControlLetter s s) (fun b s1 => b = true ∧ BAt src K r1 s1 ∧ IntIs s1 (some (l % 32)) ∧ KeepN s s1) := by
  refine (classControlLetter_wc _ s h).mono fun b s1 hq => ?_
  cases b
  · exact absurd ⟨l, r1, rfl, hl⟩ hq.2
  · obtain ⟨_, _, e, _, hat, hk, hv⟩ := hq
    cases e
    exact ⟨rfl, hat, hv, hk⟩

theorem classControlLetter_wdn (r : List Nat) (s : St) (h : BAt src K r s)
    (hn : ¬∃ l r', r = c 'c' :: l :: r' ∧ RxSpecB.ClassControlLetter l) :
    Wc (classControlLetter s s) (fun b s1 => b = false ∧ s1 = s) := by
  refine (classControlLetter_wc r s h).mono fun b s1 hq => ?_
  cases b
  · exact ⟨rfl, hq.1⟩
  · obtain ⟨l, r', e, hl, _⟩ := hq
    exact absurd ⟨l, r', e, hl⟩ hn

theorem consumeClassEscape_wd (n : Nat) (r r1 : List Nat) (v : Option Nat) (s : St) (h : BAt src K r s)
    (hD : RxSpecB.ClassEscape K.1 r r1 v) :
    Wc (consumeClassEscape n s) (fun b s1 => b = true ∧ BAt src K r1 s1 ∧ IntIs s1 v ∧ KeepN s s1) := by
  rw [consumeClassEscape_eq]
  cases hD with
  | b _ =>
    rx7_autos
    class_leaf
  | classControl l _ hl =>
    rx7_autos
    exact ⟨rfl, ‹_›, ‹_›, ‹_›⟩
  | characterClass _ _ hc =>
    have hc0 := hc
    obtain ⟨x, rfl, hx⟩ := hc0
    simp only [List.mem_cons, List.not_mem_nil, or_false] at hx
    have hb : (x :: r1).head? ≠ some (ch 'b') := by
      rcases hx with rfl | rfl | rfl | rfl | rfl | rfl <;> exact head_ne_of_ne (by decide) _
    have hnc : ¬∃ l r', x :: r1 = c 'c' :: l :: r' ∧ RxSpecB.ClassControlLetter l := by
      rintro ⟨l, r', e, _⟩
      cases e
      revert hx; decide
    rx7_autos
    class_leaf
  | character _ _ v hc hb hncc =>
    have hnc := ce_not_classControl hc
    rx7_autos
    class_leaf

/-- `\c` followed neither by a letter nor by a digit or `_` is no `ClassEscape` -/
theorem consumeClassEscape_wdn (n : Nat) (m : List Nat) (s : St) (h : BAt src K (ch 'c' :: m) s)
    (hn : ∀ l, m.head? = some l → ¬RxSpecB.ClassControlLetter l ∧ ¬ControlLetter l) :
    Wc (consumeClassEscape n s) (fun b s1 => b = false ∧ BAt src K (ch 'c' :: m) s1 ∧ KeepN s s1) := by
  have hfree := no_cce_cons (x := ch 'c') m (by decide)
  have hce := fun s h => consumeCharacterEscape_wdn (src := src) (K := K) n m s h (fun l hl => (hn l hl).2)
  have hnc : ¬∃ l r', ch 'c' :: m = c 'c' :: l :: r' ∧ RxSpecB.ClassControlLetter l := by
    rintro ⟨l, r', e, hl⟩
    cases e
    exact (hn l rfl).1 hl
  rw [consumeClassEscape_eq]
  rx7_autos
  exact ⟨‹_ = false›, ‹BAt src K _ _›, Keep.toN ‹Keep _ _›⟩

theorem consumeClassAtom_wd (n : Nat) (r r1 : List Nat) (v : Option Nat) (s : St) (h : BAt src K r s)
    (hD : RxSpecB.ClassAtom K.1 r r1 v) :
    Wc (consumeClassAtom n s) (fun b s1 => b = true ∧ BAt src K r1 s1 ∧ IntIs s1 v ∧ KeepN s s1) := by
  cases hD with
  | dash _ =>
    unfold consumeClassAtom
    rx7_autos
    all_goals (
      refine ⟨by first | rfl | assumption, by rx6_at, ?_, by first | rx6_keep | exact Keep.toN ‹_›⟩
      first | rfl | (show _ = _; assumption))
  | noDash _ _ _ hnd =>
    cases hnd with
    | char x _ hsc h1 h2 h3 =>
      have hb : (x != ch '\\' && x != ch ']') = true := by
        have e1 : (x != ch '\\') = true := by simpa using h1
        have e2 : (x != ch ']') = true := by simpa using h2
        rw [e1, e2]; rfl
      unfold consumeClassAtom
      rx7_autos
      all_goals (
        refine ⟨by first | rfl | assumption, by rx6_at, ?_, by first | rx6_keep | exact Keep.toN ‹_›⟩
        first | rfl | (show _ = _; assumption))
    | escape m _ _ he =>
      unfold consumeClassAtom
      rx7_autos
      exact ⟨rfl, ‹BAt src K r1 _›, ‹IntIs _ v›, by rx6_keep⟩
    | backslashC m hno =>
      have hce := fun s h => consumeClassEscape_wdn (src := src) (K := K) n m s h hno
      unfold consumeClassAtom
      rx7_autos
      · rename_i hn _
        have hat := ‹BAt src K (ch 'c' :: m) _›
        exfalso; apply hn
        rw [hat.strict']; rfl
      · class_leaf

/-- at `]` there is no `RxSpecB.ClassAtom K.1` -/
theorem consumeClassAtom_wdn (n : Nat) (r1 : List Nat) (s : St) (h : BAt src K (ch ']' :: r1) s) :
    Wc (consumeClassAtom n s) (fun b s1 => b = false ∧ s1 = s) := by
  unfold consumeClassAtom
  rx7_autos
  exact ⟨rfl, rfl⟩

theorem classAtomNoDash_headB {nf : Bool} {i r : List Nat} {v : Option Nat} (h : RxSpecB.ClassAtomNoDash nf i r v) : i.head? ≠ some (c '-') := by
  cases h with
  | char x _ _ _ _ h3 => exact head_ne_of_ne h3 _
  | escape | backslashC => exact head_ne_of_ne (by decide) _

/-- the flat view of a `ClassRanges` that ends at `]`: what one run of the loop sees -/
theorem cr_itemsB {nf : Bool} {sym : CRSym} {i r : List Nat} (h : RxSpecB.CR nf sym i r) (r1 : List Nat) (he : r = c ']' :: r1) :
    match sym with
    | .ClassRanges => ∃ b, ItemsB nf b i r
    | .NonemptyClassRanges => ItemsB nf true i r
    | .NonemptyClassRangesNoDash => ∀ i0 v0, RxSpecB.ClassAtom nf i0 i v0 → ItemsB nf true i0 r := by
  have hend : r.head? ≠ some (c '-') := by rw [he]; exact head_ne_of_ne (by decide) _
  induction h with
  | empty r => exact ⟨false, ItemsB.nil r⟩
  | nonempty i r _ ih => exact ⟨true, ih he hend⟩
  | atom i r v ha => exact ItemsB.atom false i r r v ha hend (ItemsB.nil r)
  | atomMore i m r v ha _ ih => exact ih he hend i v ha
  | range i m₁ m₂ r a b ha hb hok _ ih =>
    obtain ⟨b', hit⟩ := ih he hend
    exact ItemsB.range b' i m₁ m₂ r a b ha hb hok hit
  | ndAtom i r v ha =>
    intro i0 v0 ha0
    cases ha with
    | dash _ => exact ItemsB.trailing i0 r v0 ha0
    | noDash _ _ _ hnd =>
      exact ItemsB.atom true i0 i r v0 ha0 (classAtomNoDash_headB hnd)
        (ItemsB.atom false i r r v (RxSpecB.ClassAtom.noDash _ _ _ hnd) hend (ItemsB.nil r))
  | ndAtomMore i m r v hnd _ ih =>
    intro i0 v0 ha0
    exact ItemsB.atom true i0 i r v0 ha0 (classAtomNoDash_headB hnd) (ih he hend i v (RxSpecB.ClassAtom.noDash _ _ _ hnd))
  | ndRange i m₁ m₂ r a b hnd hb hok _ ih =>
    intro i0 v0 ha0
    obtain ⟨b', hit⟩ := ih he hend
    exact ItemsB.atom true i0 i r v0 ha0 (classAtomNoDash_headB hnd)
      (ItemsB.range b' i m₁ m₂ r a b (RxSpecB.ClassAtom.noDash _ _ _ hnd) hb hok hit)

theorem rangeOkB_lt {sa sb : St} {x y : Option Nat} (hok : RxSpecB.RangeOk x y) (hx : IntIs sa x) (hy : IntIs sb y)
    (h1 : ¬(sa.lastIntValue == -1 || sb.lastIntValue == -1) = true) : ¬sa.lastIntValue > sb.lastIntValue := by
  simp only [Bool.or_eq_true, beq_iff_eq, not_or] at h1
  cases x with
  | none => exact (h1.1 hx).elim
  | some a =>
    cases y with
    | none => exact (h1.2 hy).elim
    | some b =>
      have ha : sa.lastIntValue = (a : Nat) := hx
      have hb : sb.lastIntValue = (b : Nat) := hy
      have := hok a b rfl rfl
      rw [ha, hb]; omega

theorem consumeClassRanges_wd (r1 : List Nat) : ∀ (n : Nat) (b : Bool) (r : List Nat) (s : St), BAt src K r s →
    ItemsB K.1 b r (ch ']' :: r1) →
    Wc (consumeClassRanges n s) (fun _ s1 => BAt src K (ch ']' :: r1) s1 ∧ KeepN s s1)
  | 0, _, _, _, _, _ => Wc.outOfFuel
  | n + 1, b, r, s, h, hit => by
    have ih := consumeClassRanges_wd r1 n
    cases hit
    all_goals
      unfold consumeClassRanges
      rx7_autos
      all_goals first
        | exact ⟨by rx6_at, by rx6_keep⟩
        | exact absurd ‹_ > _› (rangeOkB_lt ‹RxSpecB.RangeOk _ _› ‹IntIs _ _› ‹IntIs _ _› ‹¬(_ || _) = true›)

theorem consumeCharacterClass_wd (n : Nat) (r r1 : List Nat) (s : St) (h : BAt src K r s)
    (hD : RxSpecB.CharacterClass K.1 r r1) :
    Wc (consumeCharacterClass n s) (fun b s1 => b = true ∧ BAt src K r1 s1 ∧ KeepN s s1) := by
  cases hD with
  | pos m _ hne hcr =>
    obtain ⟨b, hit⟩ := cr_itemsB hcr r1 rfl
    have hloop := fun s (h : BAt src K m s) => consumeClassRanges_wd (src := src) (K := K) r1 n b m s h hit
    unfold consumeCharacterClass
    rx7_autos
    rx7_fin
  | neg m _ hcr =>
    obtain ⟨b, hit⟩ := cr_itemsB hcr r1 rfl
    have hloop := fun s (h : BAt src K m s) => consumeClassRanges_wd (src := src) (K := K) r1 n b m s h hit
    unfold consumeCharacterClass
    rx7_autos
    rx7_fin

theorem consumeCharacterClass_wdn (n : Nat) (r : List Nat) (s : St) (h : BAt src K r s) (hn : r.head? ≠ some (ch '[')) :
    Wc (consumeCharacterClass n s) (fun b s1 => b = false ∧ s1 = s) := by
  unfold consumeCharacterClass
  rx7_autos
  exact ⟨rfl, rfl⟩

end DL.Rx
