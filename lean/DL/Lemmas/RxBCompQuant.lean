import DL.Lemmas.RxBCompClass

/-! # Annex B (no `u` flag), completeness: quantifiers -/
namespace DL.Rx
open DL.RxSpec DL.Gen.Unicode

attribute [local irreducible] isScalar
variable {src : List Nat} {K : Bool × Nat}

theorem bracedBounds_wd (n : Nat) (m r1 : List Nat) (s : St) (h : BAt src K m s)
    (hq : QuantifierPrefix qokSat (ch '{' :: m) r1) :
    Wc (bracedBounds n false s) (fun b s1 => b = true ∧ BAt src K r1 s1 ∧ KeepN s s1) := by
  have hbf := braced_iff.mp hq
  refine ((bracedBounds_at BAt.like n false m s h).wc fun _ hE => hE.2.2 ⟨r1, hbf⟩).mono fun b s1 ⟨k, hb⟩ => ?_
  cases b
  · exact absurd ⟨r1, hbf.mono fun _ _ _ => trivial⟩ ((if_neg Bool.false_ne_true).mp hb).2
  · obtain ⟨r1', h1, hf⟩ := (if_pos rfl).mp hb
    obtain ⟨rfl, -⟩ := hbf.unique hf
    exact ⟨rfl, h1, k⟩

theorem eatBracedQuantifier_wd (n : Nat) (m r1 : List Nat) (s : St) (h : BAt src K (ch '{' :: m) s)
    (hq : QuantifierPrefix qokSat (ch '{' :: m) r1) :
    Wc (eatBracedQuantifier n false s) (fun b s1 => b = true ∧ BAt src K r1 s1 ∧ KeepN s s1) := by
  rw [eatBracedQuantifier_eq]
  rx7_autos
  rx7_fin

theorem eatBracedQuantifier_wdn (n : Nat) (b : Bool) (r : List Nat) (s : St) (h : BAt src K r s)
    (hn : r.head? ≠ some (ch '{')) :
    Wc (eatBracedQuantifier n b s) (fun b s1 => b = false ∧ s1 = s) := by
  rw [eatBracedQuantifier_eq]
  rx7_autos
  exact ⟨rfl, rfl⟩

theorem _root_.DL.RxSpec.QuantifierPrefix.head_cases {qok : Nat → Nat → Prop} {r r1 : List Nat} (h : QuantifierPrefix qok r r1) :
    r = ch '*' :: r1 ∨ r = ch '+' :: r1 ∨ r = ch '?' :: r1 ∨ ∃ m, r = ch '{' :: m := by
  cases h with
  | star => exact .inl rfl
  | plus => exact .inr (.inl rfl)
  | opt => exact .inr (.inr (.inl rfl))
  | exact m | atLeast m | range m => exact .inr (.inr (.inr ⟨m, rfl⟩))

theorem quantifierPrefix_wd (n : Nat) (r r2 : List Nat) (s : St) (h : BAt src K r s)
    (hp : QuantifierPrefix qokSat r r2) :
    Wc ((eat '*' <or> eat '+' <or> eat '?' <or> eatBracedQuantifier n false) s)
      (fun b s1 => b = true ∧ BAt src K r2 s1 ∧ KeepN s s1) := by
  rcases hp.head_cases with rfl | rfl | rfl | ⟨m, rfl⟩
  all_goals
    rx7_autos
    rx7_fin

/-- the prefix is one of `*`, `+`, `?` or braced (then `eatBracedQuantifier_wd` reads it), with or without a `?` behind it -/
theorem consumeQuantifier_wd (n : Nat) (r r1 : List Nat) (s : St) (h : BAt src K r s)
    (hq : Quantifier qokSat r r1) (hf : r1.head? ≠ some (ch '?')) :
    Wc (consumeQuantifier n false s) (fun b s1 => b = true ∧ BAt src K r1 s1 ∧ KeepN s s1) := by
  obtain ⟨r2, hp, hr2⟩ : ∃ r2, QuantifierPrefix qokSat r r2 ∧ (r2 = r1 ∨ r2 = ch '?' :: r1) := by
    cases hq with
    | greedy hp => exact ⟨_, hp, .inl rfl⟩
    | lazy hp => exact ⟨_, hp, .inr rfl⟩
  unfold consumeQuantifier
  refine Wc.call (quantifierPrefix_wd n r r2 s h hp) fun b s1 ⟨hb, h1, k1⟩ => ?_
  subst hb
  rcases hr2 with rfl | rfl
  all_goals
    rx7_auto
    exact ⟨rfl, by rx6_at, k1.trans ⟨rfl, rfl⟩⟩

theorem consumeOptionalQuantifier_wd (n : Nat) (r r1 : List Nat) (s : St) (h : BAt src K r s)
    (hq : Quantifier qokSat r r1) (hf : r1.head? ≠ some (ch '?')) :
    Wc (consumeOptionalQuantifier n s) (fun b s1 => b = true ∧ BAt src K r1 s1 ∧ KeepN s s1) := by
  unfold consumeOptionalQuantifier
  rx7_autos
  exact ⟨rfl, ‹BAt src K r1 _›, ‹KeepN s _›⟩

/-- not followed by a quantifier: none of `* + ?`, and no braced quantifier text -/
def NoQB (r : List Nat) : Prop :=
  r.head? ≠ some (ch '*') ∧ r.head? ≠ some (ch '+') ∧ r.head? ≠ some (ch '?') ∧
  ¬∃ r', RxSpecB.InvalidBracedQuantifier r r'

/-- after a `{` that does not begin the text of a braced quantifier the block answers `false` (and raises no error:
the order of the bounds is only looked at once the text is complete) -/
theorem bracedBounds_wdn (n : Nat) (b : Bool) (m : List Nat) (s : St) (h : BAt src K m s)
    (hno : ¬∃ r', RxSpecB.InvalidBracedQuantifier (ch '{' :: m) r') :
    Wc (bracedBounds n b s) (fun b s1 => b = false ∧ (∃ r', BAt src K r' s1) ∧ KeepN s s1) := by
  have hno' : ¬∃ r', BracedForm (fun _ _ => True) m r' := fun ⟨r', hf⟩ => hno ⟨r', ibq_iff.mpr hf⟩
  refine ((bracedBounds_at BAt.like n b m s h).wc fun _ hE => hno' hE.2.1).mono fun b' s1 ⟨k, hb⟩ => ?_
  cases b'
  · exact ⟨rfl, ((if_neg Bool.false_ne_true).mp hb).1, k⟩
  · obtain ⟨r1, -, hf⟩ := (if_pos rfl).mp hb
    exact absurd ⟨r1, hf.mono fun _ _ _ => trivial⟩ hno'

/-- `{` that does not begin the text of a braced quantifier: nothing is consumed (without `u` that is no error) -/
theorem eatBracedQuantifier_notIBQ (n : Nat) (b : Bool) (m : List Nat) (s : St) (h : BAt src K (ch '{' :: m) s)
    (hno : ¬∃ r', RxSpecB.InvalidBracedQuantifier (ch '{' :: m) r') :
    Wc (eatBracedQuantifier n b s) (fun b s1 => b = false ∧ BAt src K (ch '{' :: m) s1 ∧ KeepN s s1) := by
  rw [eatBracedQuantifier_eq]
  rx7_autos
  all_goals first
    | exact ⟨rfl, by rx6_at, by rx6_keep⟩
    | (rename_i hc; simp [st_simp, h.uFlag', h.strict'] at hc)

theorem eatBracedQuantifier_none (n : Nat) (b : Bool) (r : List Nat) (s : St) (h : BAt src K r s)
    (hno : ¬∃ r', RxSpecB.InvalidBracedQuantifier r r') :
    Wc (eatBracedQuantifier n b s) (fun b s1 => b = false ∧ BAt src K r s1 ∧ KeepN s s1) := by
  by_cases hb : r.head? = some (ch '{')
  · cases r with
    | nil => cases hb
    | cons x m =>
      have ex : x = ch '{' := by simpa using hb
      subst ex
      exact eatBracedQuantifier_notIBQ n b m s h hno
  · exact (eatBracedQuantifier_wdn n b r s h hb).mono (fun b s1 hp => ⟨hp.1, hp.2 ▸ h, hp.2 ▸ KeepN.refl s⟩)

theorem consumeQuantifier_wdn (n : Nat) (b : Bool) (r : List Nat) (s : St) (h : BAt src K r s) (hn : NoQB r) :
    Wc (consumeQuantifier n b s) (fun b s1 => b = false ∧ BAt src K r s1 ∧ KeepN s s1) := by
  obtain ⟨h1, h2, h3, h4⟩ := hn
  have hb := fun s (h : BAt src K r s) => eatBracedQuantifier_none (src := src) (K := K) n b r s h h4
  unfold consumeQuantifier
  rx7_autos
  exact ⟨rfl, ‹BAt src K r _›, ‹KeepN s _›⟩

theorem consumeOptionalQuantifier_wdn (n : Nat) (r : List Nat) (s : St) (h : BAt src K r s) (hf : NoQB r) :
    Wc (consumeOptionalQuantifier n s) (fun b s1 => b = true ∧ BAt src K r s1 ∧ KeepN s s1) := by
  have hq := fun s (h : BAt src K r s) => consumeQuantifier_wdn (src := src) (K := K) n false r s h hf
  unfold consumeOptionalQuantifier
  rx7_autos
  exact ⟨rfl, ‹BAt src K r _›, ‹KeepN s _›⟩

theorem consumeInvalidBracedQuantifier_wd (n : Nat) (r : List Nat) (s : St) (h : BAt src K r s)
    (hno : ¬∃ r', RxSpecB.InvalidBracedQuantifier r r') :
    Wc (consumeInvalidBracedQuantifier n s) (fun b s1 => b = false ∧ BAt src K r s1 ∧ KeepN s s1) := by
  have hb := fun s (h : BAt src K r s) => eatBracedQuantifier_none (src := src) (K := K) n true r s h hno
  unfold consumeInvalidBracedQuantifier
  rx7_autos
  exact ⟨rfl, ‹BAt src K r _›, ‹KeepN s _›⟩

theorem consumeReverseSolidusFollowedByC_wd (m : List Nat) (s : St) (h : BAt src K (ch '\\' :: ch 'c' :: m) s) :
    Wc (consumeReverseSolidusFollowedByC s) (fun b s1 => b = true ∧ BAt src K (ch 'c' :: m) s1 ∧ Keep s s1) := by
  unfold consumeReverseSolidusFollowedByC
  rx7_autos
  exact ⟨rfl, by rx6_at, by rx6_keep⟩

theorem consumeReverseSolidusFollowedByC_wdn (r : List Nat) (s : St) (h : BAt src K r s)
    (hn : ¬∃ m, r = ch '\\' :: ch 'c' :: m) :
    Wc (consumeReverseSolidusFollowedByC s) (fun b s1 => b = false ∧ s1 = s) := by
  unfold consumeReverseSolidusFollowedByC
  rcases r with _ | ⟨x, _ | ⟨y, m⟩⟩
  all_goals rx7_autos
  all_goals (try exact ⟨rfl, rfl⟩)
  all_goals (rename_i hc _; exfalso)
  · simp at hc
  · apply hn
    simp only [Bool.and_eq_true, beq_iff_eq] at hc
    simp at hc
    exact ⟨m, by rw [hc.1, hc.2]⟩

theorem consumeExtendedPatternCharacter_wd (x : Nat) (r1 : List Nat) (s : St) (h : BAt src K (x :: r1) s)
    (hx : RxSpecB.ExtendedPatternCharacter x) :
    Wc (consumeExtendedPatternCharacter s) (fun b s1 => b = true ∧ BAt src K r1 s1 ∧ Keep s s1) := by
  unfold consumeExtendedPatternCharacter
  rx7_autos
  · rename_i hn
    exfalso; apply hn
    have h2 := hx.2
    simp only [List.mem_cons, List.not_mem_nil, or_false, not_or] at h2
    simp only [Bool.and_eq_true, bne_iff_ne, ne_eq]
    exact ⟨⟨⟨⟨⟨⟨⟨⟨⟨⟨h2.1, h2.2.1⟩, h2.2.2.1⟩, h2.2.2.2.1⟩, h2.2.2.2.2.1⟩, h2.2.2.2.2.2.1⟩, h2.2.2.2.2.2.2.1⟩,
      h2.2.2.2.2.2.2.2.1⟩, h2.2.2.2.2.2.2.2.2.1⟩, h2.2.2.2.2.2.2.2.2.2.1⟩, h2.2.2.2.2.2.2.2.2.2.2⟩
  · exact ⟨rfl, by rx6_at, by rx6_keep⟩

theorem consumeExtendedPatternCharacter_wdn (r : List Nat) (s : St) (h : BAt src K r s)
    (hn : ∀ x, r.head? = some x →
      x ∈ [c '^', c '$', c '\\', c '.', c '*', c '+', c '?', c '(', c ')', c '[', c '|']) :
    Wc (consumeExtendedPatternCharacter s) (fun b s1 => b = false ∧ s1 = s) := by
  unfold consumeExtendedPatternCharacter
  cases r with
  | nil => rx7_autos; exact ⟨rfl, rfl⟩
  | cons x m =>
    rx7_autos
    · exact ⟨rfl, rfl⟩
    · rename_i hc _
      exfalso
      have h2 := hn x rfl
      simp only [Bool.and_eq_true, bne_iff_ne, ne_eq] at hc
      simp only [List.mem_cons, List.not_mem_nil, or_false] at h2
      have e : ∀ a, c a = ch a := fun _ => rfl
      simp only [e] at h2
      rcases h2 with h2 | h2 | h2 | h2 | h2 | h2 | h2 | h2 | h2 | h2 | h2 <;> simp [h2] at hc

end DL.Rx
