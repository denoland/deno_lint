import DL.Lemmas.RxCompQuant

/-! # Completeness: the non-recursive atoms (u-mode) -/
namespace DL.Rx
open DL.RxSpec DL.Gen.Unicode

attribute [local irreducible] isScalar
variable {src : List Nat} {N : Nat}

theorem consumeReverseSolidusAtomEscape_wc (n : Nat) (m r1 : List Nat) (a : Attr) (s : St)
    (h : UAt src N (ch '\\' :: m) s) (hD : AtomEscape N m r1 a) :
    Wc (consumeReverseSolidusAtomEscape n s) (fun b s1 => b = true ∧ UAt src N r1 s1 ∧ TrackC s s1 a) := by
  unfold consumeReverseSolidusAtomEscape
  rx5_autos
  exact ⟨rfl, ‹UAt src N r1 _›, TrackC.pre (s1 := s.setPos src (s.reader.index + 1)) ⟨rfl, rfl⟩ ‹TrackC _ _ a›⟩

theorem consumeReverseSolidusAtomEscape_wcn (n : Nat) (r : List Nat) (s : St) (h : UAt src N r s)
    (hn : r.head? ≠ some (ch '\\')) :
    Wc (consumeReverseSolidusAtomEscape n s) (fun b s1 => b = false ∧ s1 = s) := by
  unfold consumeReverseSolidusAtomEscape
  rx5_autos
  exact ⟨rfl, rfl⟩

theorem consumePatternCharacter_wc (x : Nat) (r1 : List Nat) (s : St) (h : UAt src N (x :: r1) s)
    (hx : ¬SyntaxCharacter x) :
    Wc (consumePatternCharacter s) (fun b s1 => b = true ∧ UAt src N r1 s1 ∧ Keep s s1) := by
  have hb : (!isSyntaxCharacter x) = true := by
    cases hs : isSyntaxCharacter x
    · rfl
    · exact absurd ((syntaxCharacter_iff x).mp hs) hx
  unfold consumePatternCharacter
  rx5_autos
  all_goals rx5_fin

/-- at a syntax character (or the end) there is no `PatternCharacter` -/
theorem consumePatternCharacter_wcn (r : List Nat) (s : St) (h : UAt src N r s)
    (hx : ∀ x, r.head? = some x → SyntaxCharacter x) :
    Wc (consumePatternCharacter s) (fun b s1 => b = false ∧ s1 = s) := by
  unfold consumePatternCharacter
  rx5_autos
  all_goals (try exact ⟨rfl, rfl⟩)
  rename_i x r' hc _
  exfalso
  rw [(syntaxCharacter_iff x).mpr (hx x rfl)] at hc
  cases hc

end DL.Rx
