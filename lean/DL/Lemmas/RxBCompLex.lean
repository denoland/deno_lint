import DL.Lemmas.RxBCompTac
import DL.Lemmas.RxBScanG
import DL.Lemmas.RxCompQuant

/-! # Annex B (no `u` flag), completeness: the scanners that do not depend on the mode (copies of the `UAt` proofs) -/
namespace DL.Rx
open DL.RxSpec

attribute [local irreducible] isScalar
variable {src : List Nat} {K : Bool × Nat}

theorem eatControlEscape_wd (x : Nat) (r1 : List Nat) (v : Nat) (s : St) (h : BAt src K (x :: r1) s)
    (hx : ctlVal x = some v) :
    Wc (eatControlEscape s) (fun b s1 => b = true ∧ BAt src K r1 s1 ∧ s1.lastIntValue = (v : Nat) ∧ Keep s s1) :=
  eatControlEscape_atc BAt.like x r1 v s h hx

theorem eatControlEscape_wdn (r : List Nat) (s : St) (h : BAt src K r s) (hn : r.head?.bind ctlVal = none) :
    Wc (eatControlEscape s) (fun b s1 => b = false ∧ s1 = s) :=
  eatControlEscape_atcn BAt.like r s h hn

theorem eatControlLetter_wd (l : Nat) (r1 : List Nat) (s : St) (h : BAt src K (l :: r1) s) (hl : ControlLetter l) :
    Wc (eatControlLetter s) (fun b s1 => b = true ∧ BAt src K r1 s1 ∧ s1.lastIntValue = ((l % 32 : Nat) : Int) ∧ Keep s s1) :=
  eatControlLetter_atc BAt.like l r1 s h hl

theorem eatCControlLetter_wd (l : Nat) (r1 : List Nat) (s : St) (h : BAt src K (ch 'c' :: l :: r1) s)
    (hl : ControlLetter l) :
    Wc (eatCControlLetter s) (fun b s1 => b = true ∧ BAt src K r1 s1 ∧ s1.lastIntValue = ((l % 32 : Nat) : Int) ∧ Keep s s1) :=
  eatCControlLetter_atc BAt.like l r1 s h hl

theorem eatCControlLetter_wdn (r : List Nat) (s : St) (h : BAt src K r s) (hn : r.head? ≠ some (ch 'c')) :
    Wc (eatCControlLetter s) (fun b s1 => b = false ∧ s1 = s) :=
  eatCControlLetter_atcn BAt.like r s h fun ⟨_, _, e, _⟩ => hn (e ▸ rfl)

theorem eatZero_wd (r1 : List Nat) (s : St) (h : BAt src K (ch '0' :: r1) s)
    (hnd : ∀ d, r1.head? = some d → ¬DecimalDigit d) :
    Wc (eatZero s) (fun b s1 => b = true ∧ BAt src K r1 s1 ∧ s1.lastIntValue = 0 ∧ Keep s s1) := by
  unfold eatZero
  rx7_auto
  case pos =>
    rename_i hc
    exfalso
    cases r1 with
    | nil => cases hc
    | cons y r2 => exact hnd y rfl (isAsciiDigit_decimalDigit hc)
  rx7_fin

theorem eatZero_wdn (r : List Nat) (s : St) (h : BAt src K r s) (hn : r.head? ≠ some (ch '0')) :
    Wc (eatZero s) (fun b s1 => b = false ∧ s1 = s) := by
  unfold eatZero
  rx7_auto
  all_goals (try exact ⟨rfl, rfl⟩)
  rename_i x r' hx _ _
  exfalso; apply hn
  have : x = ch '0' := by simpa using hx
  rw [this]; rfl

theorem eatFixedHexDigits_wd (k : Nat) (hk : k ≤ 15) (ds r1 : List Nat) (s : St) (h : BAt src K (ds ++ r1) s)
    (hlen : ds.length = k) (hds : ∀ d ∈ ds, HexDigit d) :
    Wc (eatFixedHexDigits k s) (fun b s1 => b = true ∧ BAt src K r1 s1 ∧ s1.lastIntValue = (mvHex ds : Nat) ∧ Keep s s1) :=
  eatFixedHexDigits_atc BAt.like k hk ds r1 s h hlen hds

theorem eatFixedHexDigits_wdn (k : Nat) (hk : k ≤ 15) (r : List Nat) (s : St) (h : BAt src K r s)
    (hn : ¬∃ ds r1, r = ds ++ r1 ∧ ds.length = k ∧ ∀ d ∈ ds, HexDigit d) :
    Wc (eatFixedHexDigits k s) (fun b s1 => b = false ∧ BAt src K r s1 ∧ Keep s s1) :=
  eatFixedHexDigits_atcn BAt.like k hk r s h hn

theorem eatRegexpUnicodeSurrogatePairEscape_wd (r r1 : List Nat) (l t : Nat) (s : St) (h : BAt src K r s)
    (hp : PairText r r1 l t) :
    Wc (eatRegexpUnicodeSurrogatePairEscape s) (fun b s1 => b = true ∧ BAt src K r1 s1 ∧
      s1.lastIntValue = (((l - 0xD800) * 0x400 + (t - 0xDC00) + 0x10000 : Nat) : Int) ∧ Keep s s1) :=
  eatRegexpUnicodeSurrogatePairEscape_atc BAt.like r r1 l t s h hp

theorem eatRegexpUnicodeSurrogatePairEscape_wdn (r : List Nat) (s : St) (h : BAt src K r s)
    (hn : ¬∃ r1 l t, PairText r r1 l t) :
    Wc (eatRegexpUnicodeSurrogatePairEscape s) (fun b s1 => b = false ∧ BAt src K r s1 ∧ Keep s s1) :=
  eatRegexpUnicodeSurrogatePairEscape_atcn BAt.like r s h hn

theorem eatHexDigits_wd (n : Nat) (ds r1 : List Nat) (s : St) (h : BAt src K (ds ++ r1) s)
    (hne : ds ≠ []) (hds : ∀ d ∈ ds, HexDigit d) (hstop : ∀ d, r1.head? = some d → ¬HexDigit d) :
    Wc (eatHexDigits n s) (fun b s1 => b = true ∧ BAt src K r1 s1 ∧
      s1.lastIntValue = satI (mvHex ds) ∧ Keep s s1) := by
  refine (Wc.of_wp (eatHexDigits_wb n _ s h) (NE.eatHexDigits n)).mono ?_
  rintro b s1 ⟨hk1, ds', r1', he, hds', hstop', hat, hv, hb⟩
  obtain ⟨e1, e2⟩ := run_unique he hds hds' hstop hstop'
  subst e1 e2
  exact ⟨hb.mpr hne, hat, hv, hk1⟩

theorem eatRegexpUnicodeCodepointEscape_wd (n : Nat) (ds r1 : List Nat) (s : St)
    (h : BAt src K (ch '{' :: (ds ++ ch '}' :: r1)) s) (hne : ds ≠ []) (hds : ∀ d ∈ ds, HexDigit d)
    (hle : mvHex ds ≤ 0x10FFFF) :
    Wc (eatRegexpUnicodeCodepointEscape n s) (fun b s1 => b = true ∧ BAt src K r1 s1 ∧
      s1.lastIntValue = (mvHex ds : Nat) ∧ Keep s s1) := by
  have hhx := fun s h => eatHexDigits_wd (src := src) (K := K) n ds (ch '}' :: r1) s h hne hds
    (by intro d hd; cases hd; exact not_hexDigit_rbrace)
  unfold eatRegexpUnicodeCodepointEscape
  rx7_auto
  case neg =>
    rename_i hn _
    have hv := ‹_ = satI (mvHex ds)›
    exfalso; apply hn
    st_norm
    rw [hv, satI_small hle]
    exact decide_eq_true (by omega)
  have hv := ‹_ = satI (mvHex ds)›
  rx7_fin
  st_norm
  rw [hv, satI_small hle]

theorem eatDecimalEscape_wd (n : Nat) (r r1 : List Nat) (v : Nat) (s : St) (h : BAt src K r s)
    (hD : DecimalEscape r r1 v) :
    Wc (eatDecimalEscape n s) (fun b s1 => b = true ∧ BAt src K r1 s1 ∧ s1.lastIntValue = satI v ∧ Keep s s1) := by
  refine (Wc.of_wp (eatDecimalEscape_wb n r s h) (NE.eatDecimalEscape n)).mono ?_
  rintro b s1 ⟨hk1, hb⟩
  cases b
  · rw [if_neg (by decide)] at hb
    obtain ⟨ds, rfl, ⟨d, ds', rfl, hnz⟩, _⟩ := hD
    exact absurd hnz (hb.2 d rfl)
  · rw [if_pos rfl] at hb
    obtain ⟨r1', v', hat, hD', hv⟩ := hb
    obtain ⟨rfl, rfl⟩ := decimalEscape_unique hD hD'
    exact ⟨rfl, hat, hv, hk1⟩

theorem eatDecimalEscape_wdn (n : Nat) (r : List Nat) (s : St) (h : BAt src K r s)
    (hn : ∀ d, r.head? = some d → ¬NonZeroDigit d) :
    Wc (eatDecimalEscape n s) (fun b s1 => b = false ∧ s1 = s.withInt 0) := by
  unfold eatDecimalEscape
  rx7_auto
  all_goals (try exact ⟨rfl, rfl⟩)
  rename_i x r' hc _ _
  exfalso
  have hx : isAsciiDigit x = true := (Bool.and_eq_true _ _ |>.mp hc).1
  have hx0 : x ≠ ch '0' := by
    have := (Bool.and_eq_true _ _ |>.mp hc).2
    simpa using this
  have h' : 0x30 ≤ x ∧ x ≤ 0x39 := decimalDigit_of_isAsciiDigit hx
  have : x ≠ 0x30 := hx0
  exact hn x rfl (by show 0x31 ≤ x ∧ x ≤ 0x39; omega)

end DL.Rx
