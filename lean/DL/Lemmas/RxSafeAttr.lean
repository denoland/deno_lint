import Lean
/-- The no-panic lemmas `OK.f` of the functions of the validator model, with `Keeps.pure`, `Keeps.getSt`, `Keeps.fail` and
`Keeps.outOfFuel`: the stepping tactic `rx_known` finds the lemma for a callee through the index of this set.  The attribute
is registered in a module of its own because it cannot be used in the module that registers it. -/
register_simp_attr rx_ok
