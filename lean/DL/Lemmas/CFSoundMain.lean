import DL.Lemmas.CFSoundLoop
import DL.Lemmas.CFSwitch
import DL.Lemmas.CFTry

/-! Soundness invariant: the mutual induction over statements, statement lists, case lists and the two readings of a kid
list (`visitKids_ok`: pure expressions, `PostK`; `visitKids_okL`: any expression tree of the fragment as a piece of the
enclosing flow); the kids of a function scope and of a catch clause (`visitKids_fn`, `visitKids_catch`) are the flow
reading, since on such lists the readings coincide (`Kids.okFn_readings`); from the invariant to the `no-unreachable` rule
layer (`FlagSub`: it reports only statement positions whose metadata says `unreachable`) and to whole programs
(`program_flagged_unreachable`; `script_flagged_unreachable` is the case of a script without module declarations). -/
namespace DL.CF

theorem stmtsCons_ok (live : Bool) (s : Stmt) (r : Stmts) (a : A) (hf : (Stmts.cons s r).inF = true)
    (h : Pre live (Stmts.cons s r).positions a)
    (ihs : ∀ a0, s.inF = true → Pre live s.positions a0 → PostS live [] s a0 (visitStmt s a0))
    (ihr : ∀ a0, r.inF = true → Pre (live && (s.compl []).n) r.positions a0 →
      PostL (live && (s.compl []).n) r.upos r.positions r.compl r.reach r.inner a0 (visitStmts r a0)) :
    PostL live (Stmts.cons s r).upos (Stmts.cons s r).positions (Stmts.cons s r).compl (Stmts.cons s r).reach
      (Stmts.cons s r).inner a (visitStmts (.cons s r) a) :=
  have h' : Pre live (s.positions ++ r.positions) a := h
  have hf' := Bool.and_eq_true_iff.mp hf
  .seqL h' (sob_ok live [] s a _ (ihs a hf'.1 h'.left)).toPostL (ihr _ hf'.2) s.inside r.inside

/-- On the kids of a function scope or of a catch clause (pure parameters, then at most one body block) the readings of a
kid list coincide: as a catch clause and as the entry of a function it is what it is as a piece of the flow. -/
theorem Kids.okFn_readings : ∀ (ks : Kids), ks.okFn = true →
    ks.catchCompl = ks.compl ∧ (∀ p, ks.catchReach p = ks.flowReach p) ∧ (∀ p, ks.entryReach p = ks.flowReach p)
  | .nil, _ => ⟨rfl, fun _ => rfl, fun _ => rfl⟩
  | .cons (.block q body) .nil, _ =>
    ⟨rfl, fun p => by simp [Kids.catchReach, Kids.flowReach, Kid.flowReach], fun p => by
      simp [Kids.entryReach, Kids.flowReach, Kid.flowReach]⟩
  | .cons (.block _ _) (.cons _ _), h => by simp [Kids.okFn, Kids.isNil] at h
  | .cons (.stmt _) _, h => by simp [Kids.okFn] at h
  | .cons (.expr e ks) r, h => by
    have hf : (ks.okF = true ∧ ks.pure = true) ∧ r.okFn = true := by simpa [Kids.okFn] using h
    exact Kids.okFn_readings_cons (.expr e ks) r hf.1.2 (fun _ _ => nofun) (Kids.okFn_readings r hf.2)
  | .cons (.fnScope p ks) r, h => by
    have hf : ks.okFn = true ∧ r.okFn = true := by simpa [Kids.okFn] using h
    exact Kids.okFn_readings_cons (.fnScope p ks) r rfl (fun _ _ => nofun) (Kids.okFn_readings r hf.2)
where
  /-- a parameter is pure and no block: it completes normally or throws, and nothing of the flow is nested in it -/
  Kids.okFn_readings_cons (k : Kid) (r : Kids) (hp : k.pure = true) (hnb : ∀ q body, k ≠ .block q body)
      (ih : r.catchCompl = r.compl ∧ (∀ p, r.catchReach p = r.flowReach p) ∧ (∀ p, r.entryReach p = r.flowReach p)) :
      (Kids.cons k r).catchCompl = (Kids.cons k r).compl ∧ (∀ p, (Kids.cons k r).catchReach p = (Kids.cons k r).flowReach p) ∧
        (∀ p, (Kids.cons k r).entryReach p = (Kids.cons k r).flowReach p) := by
    have hc := Kid.compl_pure k hp
    have hfl := fun p => Kid.flowReach_pure k p hp
    cases k with
    | block q body => exact absurd rfl (hnb q body)
    | _ => simp [Kids.catchCompl, Kids.compl, Kids.catchReach, Kids.flowReach, Kids.entryReach, hc, hfl, ih]

/-- the kids of a catch clause: the flow reading, renamed -/
theorem catch_of_flow {live : Bool} {ks : Kids} {a a' : A} (hf : ks.okFn = true) (h : KidsL live ks a a') :
    PostL live ks.upos ks.positions ks.catchCompl ks.catchReach ks.inner a a' :=
  h.conv (fun _ h => h) (fun _ h => h) (ks.okFn_readings hf).1 (ks.okFn_readings hf).2.1 (fun _ => rfl)

/-- the kids of a function scope, entered from a fresh scope: what is flagged is reached neither from the entry, which
is the flow through the parameters into the body, nor from a function nested in them -/
theorem fn_of_flow {ks : Kids} {a a' : A} (hf : ks.okFn = true) (h : KidsL true ks a a') : PostI ks.upos ks.positions ks.fnReach a a' :=
  ⟨fun q hq hu => by
    have h1 : ks.flowReach q = false := by simpa using h.p3 q hq hu
    simp [Kids.fnReach, (ks.okFn_readings hf).2.2 q, h1, h.p3i q hq hu], h.frame⟩

mutual
theorem visitStmt_ok : ∀ (s : Stmt) (ls : List Id) (live : Bool) (a : A), s.inF = true → Pre live s.positions a →
    PostS live ls s a (visitStmt s a)
  | .simple p t kids, ls, live, a, hf, h => simple_ok live ls p t kids a hf h (visitKids_okL kids live)
  | .block p b, ls, live, a, hf, h => block_ok live ls p b a hf h (visitStmts_ok b live)
  | .ifS p t c none, ls, live, a, hf, h =>
    if_none_ok live ls p t c a hf h (visitKids_okL t live) (visitStmt_ok c [] _)
  | .ifS p t c (some al), ls, live, a, hf, h =>
    if_some_ok live ls p t c al a hf h (visitKids_okL t live) (visitStmt_ok c [] _) (visitStmt_ok al [] _)
  | .whileS p t tt b, ls, live, a, hf, h => while_ok live ls p t tt b a hf h (visitKids_okL t) (visitStmt_ok b [] live)
  | .doWhileS p b t tt, ls, live, a, hf, h => doWhile_ok live ls p b t tt a hf h (visitKids_ok t) (visitStmt_ok b [] live)
  | .forS p i u t ht tt b, ls, live, a, hf, h =>
    for_ok live ls p i u t ht tt b a hf h (visitKids_okL i) (visitKids_okL u) (visitKids_okL t) (visitStmt_ok b [])
  | .forInOf p l r b, ls, live, a, hf, h =>
    forInOf_ok live ls p l r b a hf h (visitKids_okL l) (visitKids_okL r) (visitStmt_ok b [])
  | .labeled p l b, ls, live, a, hf, h => labeled_ok live ls p l b a hf h (visitStmt_ok b (l :: ls) live)
  | .brk p l, ls, live, a, _, h => brk_ok live ls l p a h
  | .cont p l, ls, live, a, _, h => cont_ok live ls l p a h
  | .ret p arg, ls, live, a, hf, h => ret_ok live ls p arg a hf h (visitKids_okL arg live)
  | .throw p arg, ls, live, a, hf, h => throw_ok live ls p arg a hf h (visitKids_okL arg live)
  | .switchS p d cs, ls, live, a, hf, h => switch_ok live ls p d cs a hf h (visitKids_ok d) (visitCases_ok cs live)
  | .tryS p bp b hh cp ck hf fp f, ls, live, a, hfr, h =>
    try_ok live ls p bp b hh cp ck hf fp f a hfr h (visitStmts_ok b)
      (fun l x hf h => catch_of_flow hf (visitKids_okL ck l x (Kids.okF_of_okFn ck hf) h)) (visitStmts_ok f)
theorem visitStmts_ok : ∀ (l : Stmts) (live : Bool) (a : A), l.inF = true → Pre live l.positions a →
    PostL live l.upos l.positions l.compl l.reach l.inner a (visitStmts l a)
  | .nil, live, a, _, h => PostL.nil live a h.hs
  | .cons s r, live, a, hf, h => stmtsCons_ok live s r a hf h (visitStmt_ok s [] live) (visitStmts_ok r _)
theorem visitCases_ok : ∀ (cs : Cases) (live : Bool) (a : A), cs.inF = true → Pre live cs.positions a →
    PostC live cs a (visitCases cs a)
  | .nil, live, a, _, _ => casesNil_ok live a
  | .cons p d t b r, live, a, hf, h =>
    casesCons_ok live p d t b r a hf h (visitKids_ok t) (visitStmts_ok b live) (visitCases_ok r live)
/-- pure expressions (no statement nested directly in them): the scope's end and `found_break` are untouched -/
theorem visitKid_ok : ∀ (k : Kid) (a : A), k.okF = true → k.pure = true → PreK k.positions a →
    PostK k.upos k.positions k.inner k.mayThrow a (visitKid k a)
  | .expr e ks, a, hf, hp, h => expr_ok e ks a (visitKids_ok ks a hf hp h)
  | .fnScope p ks, a, hf, _, h => fnScope_ok p ks a hf h (fun x hf h he => fn_of_flow hf (visitKids_okL ks true x (Kids.okF_of_okFn ks hf)
      ⟨fun hs => by rw [he] at hs; simp at hs, h.fresh, h.nodup⟩))
  | .block _ _, _, _, hp, _ => by simp [Kid.pure] at hp
  | .stmt _, _, _, hp, _ => by simp [Kid.pure] at hp
theorem visitKids_ok : ∀ (ks : Kids) (a : A), ks.okF = true → ks.pure = true → PreK ks.positions a →
    PostK ks.upos ks.positions ks.inner ks.mayThrow a (visitKids ks a)
  | .nil, a, _, _, _ => PostK.nil a
  | .cons k r, a, hf, hp, h => kidsCons_ok k r a hf hp h (visitKid_ok k) (visitKids_ok r)
/-- any expression tree of the fragment, possibly with statements nested directly in it: a piece of the enclosing flow -/
theorem visitKid_okL : ∀ (k : Kid) (live : Bool) (a : A), k.okF = true → Pre live k.positions a →
    PostL live k.upos k.positions k.compl k.flowReach k.inner a (visitKid k a)
  | .expr e ks, live, a, hf, h => exprL live e ks a (visitKids_okL ks live a hf h)
  | .fnScope p ks, _, a, hf, h =>
    (fnScope_ok p ks a hf ⟨h.fresh, h.nodup⟩ (fun x hf h he => fn_of_flow hf (visitKids_okL ks true x (Kids.okF_of_okFn ks hf)
      ⟨fun hs => by rw [he] at hs; simp at hs, h.fresh, h.nodup⟩))).toL h.hs
  | .block q body, live, a, hf, h => blockKidL live q body a hf h (visitStmts_ok body live)
  | .stmt s, live, a, hf, h => (visitStmt_ok s [] live a hf h).toPostL
theorem visitKids_okL : ∀ (ks : Kids) (live : Bool) (a : A), ks.okF = true → Pre live ks.positions a →
    KidsL live ks a (visitKids ks a)
  | .nil, live, a, _, h => PostL.nil live a h.hs
  | .cons k r, live, a, hf, h => kidsConsL live k r a hf h (visitKid_okL k) (visitKids_okL r)
end

theorem visitKids_fn : ∀ (ks : Kids) (a : A), ks.okFn = true → PreK ks.positions a → a.sc.end_ = none →
    PostI ks.upos ks.positions ks.fnReach a (visitKids ks a) :=
  fun ks a hf h he => fn_of_flow hf (visitKids_okL ks true a (Kids.okF_of_okFn ks hf)
    ⟨fun hs => by rw [he] at hs; simp at hs, h.fresh, h.nodup⟩)

theorem visitKids_catch : ∀ (ks : Kids) (live : Bool) (a : A), ks.okFn = true → Pre live ks.positions a →
    PostL live ks.upos ks.positions ks.catchCompl ks.catchReach ks.inner a (visitKids ks a) :=
  fun ks live a hf h => catch_of_flow hf (visitKids_okL ks live a (Kids.okF_of_okFn ks hf) h)

theorem flagHere_sub (info : Info) (s : Stmt) (q : Nat) (h : q ∈ flagHere info s) : q = s.pos ∧ info.ur q = true := by
  unfold flagHere at h
  by_cases hc : (!exempt s && metaUnreach info s.pos) = true
  · rw [if_pos hc] at h
    simp only [List.mem_singleton] at h; subst h
    simp only [Bool.and_eq_true] at hc
    exact ⟨rfl, hc.2⟩
  · rw [if_neg hc] at h; cases h

/-- the rule only reports statement positions (`upos`) whose metadata says `unreachable` (whole language) -/
def FlagSub (info : Info) (fl us : List Nat) : Prop := ∀ q ∈ fl, q ∈ us ∧ info.ur q = true

theorem FlagSub.here {info : Info} {s : Stmt} {p : Nat} {us : List Nat} (hp : s.pos = p) :
    FlagSub info (flagHere info s) (p :: us) := by
  intro q hq
  have := flagHere_sub info s q hq
  exact ⟨by simp [this.1, hp], this.2⟩

theorem FlagSub.append {info : Info} {f1 f2 u1 u2 : List Nat} (h1 : FlagSub info f1 u1) (h2 : FlagSub info f2 u2) :
    FlagSub info (f1 ++ f2) (u1 ++ u2) := by
  intro q hq
  rcases List.mem_append.mp hq with h | h
  · exact ⟨List.mem_append.mpr (Or.inl (h1 q h).1), (h1 q h).2⟩
  · exact ⟨List.mem_append.mpr (Or.inr (h2 q h).1), (h2 q h).2⟩

theorem FlagSub.cons {info : Info} {f1 f2 u2 : List Nat} {p : Nat} (h1 : FlagSub info f1 [p]) (h2 : FlagSub info f2 u2) :
    FlagSub info (f1 ++ f2) (p :: u2) := h1.append h2

theorem FlagSub.here1 {info : Info} {s : Stmt} {p : Nat} (hp : s.pos = p) : FlagSub info (flagHere info s) [p] :=
  FlagSub.here hp

mutual
theorem Stmt.flagged_sub (info : Info) : ∀ (s : Stmt), FlagSub info (s.flagged info) s.upos
  | .simple p t kids => (FlagSub.here1 rfl).cons (Kids.flagged_sub info kids)
  | .block p b => by
    simp only [Stmt.flagged, Stmt.upos]
    intro q hq; have := Stmts.flagged_sub info b q hq; exact ⟨List.mem_cons_of_mem _ this.1, this.2⟩
  | .ifS p t c none => ((FlagSub.here1 rfl).cons (Kids.flagged_sub info t)).append (Stmt.flagged_sub info c)
  | .ifS p t c (some al) => by
    simp only [Stmt.flagged, Stmt.upos, List.append_assoc]
    exact (FlagSub.here1 rfl).cons ((Kids.flagged_sub info t).append ((Stmt.flagged_sub info c).append (Stmt.flagged_sub info al)))
  | .whileS p t tt b => ((FlagSub.here1 rfl).cons (Kids.flagged_sub info t)).append (Stmt.flagged_sub info b)
  | .doWhileS p b t tt => ((FlagSub.here1 rfl).cons (Kids.flagged_sub info t)).append (Stmt.flagged_sub info b)
  | .forS p i u t ht tt b => by
    simp only [Stmt.flagged, Stmt.upos, List.append_assoc]
    have := (FlagSub.here1 (info := info) (s := .cont p none) (p := p) rfl).cons ((Kids.flagged_sub info i).append
      ((Kids.flagged_sub info u).append ((Kids.flagged_sub info t).append (Stmt.flagged_sub info b))))
    simpa only [List.append_assoc] using this
  | .forInOf p l r b => by
    simp only [Stmt.flagged, Stmt.upos, List.append_assoc]
    have := (FlagSub.here1 (info := info) (s := .cont p none) (p := p) rfl).cons ((Kids.flagged_sub info l).append
      ((Kids.flagged_sub info r).append (Stmt.flagged_sub info b)))
    simpa only [List.append_assoc] using this
  | .switchS p d cs => ((FlagSub.here1 rfl).cons (Kids.flagged_sub info d)).append (Cases.flagged_sub info cs)
  | .tryS p bp b hh cp ck hf fp f => by
    simp only [Stmt.flagged, Stmt.upos, List.append_assoc]
    exact (FlagSub.here1 rfl).cons ((Stmts.flagged_sub info b).append ((Kids.flagged_sub info ck).append (Stmts.flagged_sub info f)))
  | .labeled p l b => (FlagSub.here1 rfl).cons (Stmt.flagged_sub info b)
  | .brk p l => FlagSub.here1 rfl
  | .cont p l => FlagSub.here1 rfl
  | .ret p arg => (FlagSub.here1 rfl).cons (Kids.flagged_sub info arg)
  | .throw p arg => (FlagSub.here1 rfl).cons (Kids.flagged_sub info arg)
theorem Stmts.flagged_sub (info : Info) : ∀ (l : Stmts), FlagSub info (l.flagged info) l.upos
  | .nil => by simp [Stmts.flagged, FlagSub]
  | .cons s r => (Stmt.flagged_sub info s).append (Stmts.flagged_sub info r)
theorem Kid.flagged_sub (info : Info) : ∀ (k : Kid), FlagSub info (k.flagged info) k.upos
  | .expr _ ks => Kids.flagged_sub info ks
  | .fnScope _ ks => Kids.flagged_sub info ks
  | .block _ b => Stmts.flagged_sub info b
  | .stmt s => Stmt.flagged_sub info s
theorem Kids.flagged_sub (info : Info) : ∀ (ks : Kids), FlagSub info (ks.flagged info) ks.upos
  | .nil => by simp [Kids.flagged, FlagSub]
  | .cons k r => (Kid.flagged_sub info k).append (Kids.flagged_sub info r)
theorem Cases.flagged_sub (info : Info) : ∀ (cs : Cases), FlagSub info (cs.flagged info) cs.upos
  | .nil => by simp [Cases.flagged, FlagSub]
  | .cons _ _ t b r => by
    simp only [Cases.flagged, Cases.upos, List.append_assoc]
    exact (Kids.flagged_sub info t).append ((Stmts.flagged_sub info b).append (Cases.flagged_sub info r))
end

def itemsCompl : List Item → Compl
  | [] => .normal
  | .stmt s :: r => (s.compl []).seq (itemsCompl r)
  | .decl kids :: r => kids.compl.seq (itemsCompl r)

def visitItem (m : Bool) : Item → A → A
  | .stmt s, a => if m then visitStmt s a else visitStmtOrBlock s a
  | .decl kids, a => visitKids kids a

def visitItems (m : Bool) : List Item → A → A
  | [], a => a
  | it :: r, a => visitItems m r (visitItem m it a)

theorem analyze_items (prog : Program) :
    analyze prog = (visitItems prog.isModule prog.items { sc := {}, info := Info.empty }).info := by
  unfold analyze
  simp only
  generalize ({ sc := {}, info := Info.empty } : A) = a0
  generalize prog.items = items
  induction items generalizing a0 with
  | nil => rfl
  | cons it r ih =>
    simp only [List.foldl_cons, visitItems]
    rw [← ih]
    cases it <;> rfl

theorem itemsUpos_sub : ∀ (items : List Item) (q : Nat), q ∈ itemsUpos items → q ∈ itemsPositions items
  | [], q, h => by simp [itemsUpos] at h
  | .stmt s :: r, q, h => by
    simp only [itemsUpos, itemsPositions, Item.upos, Item.positions, List.mem_append] at h ⊢
    exact h.imp (Stmt.upos_sub s q) (itemsUpos_sub r q)
  | .decl k :: r, q, h => by
    simp only [itemsUpos, itemsPositions, Item.upos, Item.positions, List.mem_append] at h ⊢
    exact h.imp (Kids.upos_sub k q) (itemsUpos_sub r q)

theorem itemsReach_mem : ∀ (items : List Item) (q : Nat), itemsReach items q = true → q ∈ itemsPositions items
  | [], q, h => by simp [itemsReach] at h
  | .stmt s :: r, q, h => by
    simp only [itemsReach, Bool.or_eq_true, Bool.and_eq_true] at h
    simp only [itemsPositions, Item.positions, List.mem_append]
    rcases h with h | ⟨_, h⟩
    · exact Or.inl (s.reach_mem q h)
    · exact Or.inr (itemsReach_mem r q h)
  | .decl k :: r, q, h => by
    simp only [itemsReach, Bool.or_eq_true, Bool.and_eq_true] at h
    simp only [itemsPositions, Item.positions, List.mem_append]
    exact h.imp (k.flowReach_mem q) (fun h => itemsReach_mem r q h.2)

theorem itemsInner_mem : ∀ (items : List Item) (q : Nat), itemsInner items q = true → q ∈ itemsPositions items
  | [], q, h => by simp [itemsInner] at h
  | .stmt s :: r, q, h => by
    simp only [itemsInner, Bool.or_eq_true] at h
    simp only [itemsPositions, Item.positions, List.mem_append]
    exact h.imp (s.inner_mem q) (itemsInner_mem r q)
  | .decl k :: r, q, h => by
    simp only [itemsInner, Bool.or_eq_true] at h
    simp only [itemsPositions, Item.positions, List.mem_append]
    exact h.imp (k.inner_mem q) (itemsInner_mem r q)

theorem itemsReach_false (items : List Item) (q : Nat) (h : q ∉ itemsPositions items) : itemsReach items q = false := by
  cases hr : itemsReach items q with
  | false => rfl
  | true => exact absurd (itemsReach_mem items q hr) h

theorem itemsInner_false (items : List Item) (q : Nat) (h : q ∉ itemsPositions items) : itemsInner items q = false := by
  cases hr : itemsInner items q with
  | false => rfl
  | true => exact absurd (itemsInner_mem items q hr) h

theorem itemsInside (items : List Item) : Inside (itemsUpos items) (itemsPositions items) (itemsReach items) (itemsInner items) :=
  ⟨itemsUpos_sub items, itemsReach_false items, itemsInner_false items⟩

/-- a top-level statement: in a module `visit_stmt`, in a script `visit_stmt_or_block` -/
theorem visitItem_stmt_ok (m : Bool) (live : Bool) (s : Stmt) (a : A) (hf : s.inF = true) (h : Pre live s.positions a) :
    PostS live [] s a (visitItem m (.stmt s) a) := by
  cases m with
  | true => exact visitStmt_ok s [] live a hf h
  | false => exact sob_ok live [] s a _ (visitStmt_ok s [] live a hf h)

theorem visitItems_ok (m : Bool) : ∀ (items : List Item) (live : Bool) (a : A), itemsInF items = true →
    Pre live (itemsPositions items) a →
    PostL live (itemsUpos items) (itemsPositions items) (itemsCompl items) (itemsReach items) (itemsInner items) a
      (visitItems m items a)
  | [], live, a, _, h => PostL.nil live a h.hs
  | .stmt s :: r, live, a, hf, h =>
    have hf' : s.inF = true ∧ itemsInF r = true := by simpa [itemsInF, Item.inF] using hf
    have h' : Pre live (s.positions ++ itemsPositions r) a := h
    .seqL h' (visitItem_stmt_ok m live s a hf'.1 h'.left).toPostL (visitItems_ok m r _ _ hf'.2) s.inside (itemsInside r)
  | .decl k :: r, live, a, hf, h =>
    have hf' : k.okF = true ∧ itemsInF r = true := by simpa [itemsInF, Item.inF] using hf
    have h' : Pre live (k.positions ++ itemsPositions r) a := h
    .seqL h' (visitKids_okL k live a hf'.1 h'.left) (visitItems_ok m r _ _ hf'.2) k.inside (itemsInside r)

theorem flagged_items (info : Info) : ∀ (items : List Item), FlagSub info (items.flatMap fun
    | .stmt s => s.flagged info
    | .decl kids => kids.flagged info) (itemsUpos items)
  | [] => by simp [FlagSub]
  | .stmt s :: r => (Stmt.flagged_sub info s).append (flagged_items info r)
  | .decl k :: r => (Kids.flagged_sub info k).append (flagged_items info r)

theorem visitItem_writes (m : Bool) : ∀ (it : Item) (x : A), Writes it.upos it.positions x.info (visitItem m it x).info
  | .decl k, x => k.writes x
  | .stmt s, x => by
    cases m with
    | true => exact s.writes x
    | false => exact .sob (s.writes_rest x)

theorem visitItems_writes (m : Bool) : ∀ (items : List Item) (x : A),
    Writes (itemsUpos items) (itemsPositions items) x.info (visitItems m items x).info
  | [], _ => .refl _
  | it :: r, x => (visitItem_writes m it x).seq (visitItems_writes m r _)

/-- in a program of the fragment with pairwise distinct positions, a key whose metadata says `unreachable` — it is the
position of a statement, flags being written nowhere else — is reached neither from the start of the program nor from the
entry of any function in it -/
theorem program_ur_unreachable (prog : Program) (hf : itemsInF prog.items = true) (hnd : (itemsPositions prog.items).Nodup)
    (p : Nat) (hur : (analyze prog).ur p = true) : prog.reachable p = false := by
  rw [analyze_items] at hur
  have hp : p ∈ itemsUpos prog.items := Decidable.by_contra fun hn => by
    rw [(visitItems_writes prog.isModule prog.items _).ur p hn] at hur; cases hur
  have hpre : Pre true (itemsPositions prog.items) { sc := {}, info := Info.empty } :=
    ⟨fun h => by simp at h, fun _ _ => rfl, hnd⟩
  have hpost := visitItems_ok prog.isModule prog.items true _ hf hpre
  have h1 := hpost.p3 p hp hur
  have h2 := hpost.p3i p hp hur
  unfold Program.reachable
  rw [h2]; simpa using h1

/-- **soundness of `no-unreachable` on the fragment, whole programs**: for a module or script whose statements and module
declarations are in the fragment, with pairwise distinct positions, no flagged statement is reachable — neither from the
start of the program nor from the entry of any function in it -/
theorem program_flagged_unreachable (prog : Program) (hf : itemsInF prog.items = true)
    (hnd : (itemsPositions prog.items).Nodup) (p : Nat) (hp : p ∈ prog.flagged (analyze prog)) :
    prog.reachable p = false :=
  program_ur_unreachable prog hf hnd p (flagged_items _ prog.items p hp).2

def stmtsOfList : List Stmt → Stmts
  | [] => .nil
  | s :: r => .cons s (stmtsOfList r)

theorem itemsInF_script (ss : List Stmt) : itemsInF (ss.map .stmt) = (stmtsOfList ss).inF := by
  induction ss with
  | nil => rfl
  | cons s r ih => simp [itemsInF, Item.inF, stmtsOfList, Stmts.inF, ih]

theorem itemsPositions_script (ss : List Stmt) : itemsPositions (ss.map .stmt) = (stmtsOfList ss).positions := by
  induction ss with
  | nil => rfl
  | cons s r ih => simp [itemsPositions, Item.positions, stmtsOfList, Stmts.positions, ih]

/-- **soundness of `no-unreachable` on the fragment**: in a script made of statements of the fragment (with functions
nested in expressions to any depth), with pairwise distinct positions, no flagged statement is reachable — neither from
the start of the script nor from the entry of any function in it -/
theorem script_flagged_unreachable (ss : List Stmt) (hf : (stmtsOfList ss).inF = true)
    (hnd : (stmtsOfList ss).positions.Nodup) (p : Nat)
    (hp : p ∈ Program.flagged { isModule := false, items := ss.map .stmt } (analyze { isModule := false, items := ss.map .stmt })) :
    Program.reachable { isModule := false, items := ss.map .stmt } p = false :=
  program_flagged_unreachable { isModule := false, items := ss.map .stmt } (itemsInF_script ss ▸ hf)
    (itemsPositions_script ss ▸ hnd) p hp

end DL.CF
