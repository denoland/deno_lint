import DL.Lemmas.RxBPrim
import DL.Lemmas.RxCompWc

/-! # Annex B (no `u` flag), completeness: the reader rules of the `Wc` calculus for `BAt` (copies of the ones for `UAt`) -/
namespace DL.Rx

variable {src : List Nat} {K : Bool × Nat} {α β : Type}

theorem WcB.bind_cpo0 {r : List Nat} {g : Option Nat → M β} {s : St} {Q : β → St → Prop} (h : BAt src K r s)
    (hnil : r = [] → Wc (g none s) Q) (hcons : ∀ x r', r = x :: r' → Wc (g (some x) s) Q) :
    Wc ((codePointWithOffset 0 >>= g) s) Q :=
  BAt.like.bind_cpo0 h hnil hcons

theorem WcB.bind_cpo {r : List Nat} {k : Nat} {g : Option Nat → M β} {s : St} {Q : β → St → Prop} (h : BAt src K r s)
    (hk : k < 4) (hg : Wc (g r[k]? s) Q) : Wc ((codePointWithOffset k >>= g) s) Q :=
  BAt.like.bind_cpo h hk hg

theorem WcB.bind_advance_cons {x : Nat} {r : List Nat} {g : Unit → M β} {s : St} {Q : β → St → Prop}
    (h : BAt src K (x :: r) s)
    (hg : BAt src K r (s.setPos src (s.reader.index + 1)) → Wc (g () (s.setPos src (s.reader.index + 1))) Q) :
    Wc ((advance >>= g) s) Q :=
  BAt.like.bind_advance_cons h hg

theorem WcB.bind_advance_nil {g : Unit → M β} {s : St} {Q : β → St → Prop}
    (h : BAt src K [] s) (hg : Wc (g () s) Q) : Wc ((advance >>= g) s) Q :=
  BAt.like.bind_advance_nil h hg

theorem WcB.bind_rewind {r r0 : List Nat} {g : Unit → M β} {s s0 : St} {Q : β → St → Prop}
    (h : BAt src K r s) (h0 : BAt src K r0 s0)
    (hg : BAt src K r0 (s.setPos src s0.reader.index) → Wc (g () (s.setPos src s0.reader.index)) Q) :
    Wc ((rewind s0.reader.index >>= g) s) Q :=
  BAt.like.bind_rewind h h0 hg

theorem WcB.bind_rewind' {r : List Nat} {i : Nat} {g : Unit → M β} {s : St} {Q : β → St → Prop}
    (h : BAt src K r s) (hle : i ≤ src.length)
    (hg : BAt src K (src.drop i) (s.setPos src i) → Wc (g () (s.setPos src i)) Q) : Wc ((rewind i >>= g) s) Q :=
  BAt.like.bind_rewind' h hle hg

theorem WcB.bind_eat {r : List Nat} {x : Char} {g : Bool → M β} {s : St} {Q : β → St → Prop} (h : BAt src K r s)
    (ht : ∀ r', r = ch x :: r' → BAt src K r' (s.setPos src (s.reader.index + 1)) →
      Wc (g true (s.setPos src (s.reader.index + 1))) Q)
    (hf : r.head? ≠ some (ch x) → Wc (g false s) Q) : Wc ((eat x >>= g) s) Q :=
  BAt.like.bind_eat h ht hf

theorem WcB.bind_eat_ne {r : List Nat} {x : Char} {g : Bool → M β} {s : St} {Q : β → St → Prop} (h : BAt src K r s)
    (hne : r.head? ≠ some (ch x)) (hf : Wc (g false s) Q) : Wc ((eat x >>= g) s) Q :=
  BAt.like.bind_eat_ne h hne hf

theorem WcB.bind_eat2 {r : List Nat} {x y : Char} {g : Bool → M β} {s : St} {Q : β → St → Prop} (h : BAt src K r s)
    (ht : ∀ r', r = ch x :: ch y :: r' → BAt src K r' (s.setPos src (s.reader.index + 2)) →
      Wc (g true (s.setPos src (s.reader.index + 2))) Q)
    (hf : (¬∃ r', r = ch x :: ch y :: r') → Wc (g false s) Q) : Wc ((eat2 x y >>= g) s) Q :=
  BAt.like.bind_eat2 h ht hf

theorem WcB.bind_eat3 {r : List Nat} {x y z : Char} {g : Bool → M β} {s : St} {Q : β → St → Prop} (h : BAt src K r s)
    (ht : ∀ r', r = ch x :: ch y :: ch z :: r' → BAt src K r' (s.setPos src (s.reader.index + 3)) →
      Wc (g true (s.setPos src (s.reader.index + 3))) Q)
    (hf : (¬∃ r', r = ch x :: ch y :: ch z :: r') → Wc (g false s) Q) : Wc ((eat3 x y z >>= g) s) Q :=
  BAt.like.bind_eat3 h ht hf

theorem WcB.bind_eat2_ne {r : List Nat} {x y : Char} {g : Bool → M β} {s : St} {Q : β → St → Prop} (h : BAt src K r s)
    (hne : ¬∃ r', r = ch x :: ch y :: r') (hf : Wc (g false s) Q) : Wc ((eat2 x y >>= g) s) Q :=
  BAt.like.bind_eat2_ne h hne hf

theorem WcB.bind_eat3_ne {r : List Nat} {x y z : Char} {g : Bool → M β} {s : St} {Q : β → St → Prop} (h : BAt src K r s)
    (hne : ¬∃ r', r = ch x :: ch y :: ch z :: r') (hf : Wc (g false s) Q) : Wc ((eat3 x y z >>= g) s) Q :=
  BAt.like.bind_eat3_ne h hne hf

end DL.Rx
