import DL.Lemmas.Imp
/-! The positions `wheres` computes for the import-adding fixes.  `wheres` threads (line, `ends_line`) of the most
recent import, `recentPosAll` (the handler's `most_recent_import_range`, which the faithful step of `ImpReal.lean` needs)
its (line, item index); the second determines the first — read the item at that position (`recentOf`) — so `wheres` is
`recentPosAll` mapped through `whereOf ∘ recentOf` (`wheres_eq`).  What holds of the import at a recorded position then
holds of the state `wheres` saw: on a well-formed file the placements are `Safe` (`mem_wheres_safe`), and `sameLine`
comes with the position of an `.imp false` (`recentPos_of_sameLine`).  Last, Boolean forms of `WF` and `Safe`, so that
`decide` evaluates them on concrete files. -/
namespace DL.Imp

theorem wheresItems_nil (f : File) (first i : Nat) (r : Recent) : wheresItems f first i r [] = ([], r) := rfl

theorem wheresItems_ref (f : File) (first i : Nat) (r : Recent) (n : Name) (is : List Item) :
    wheresItems f first i r (.ref n :: is) =
      (whereOf f first r :: (wheresItems f first i r is).1, (wheresItems f first i r is).2) := rfl

theorem wheresItems_imp (f : File) (first i : Nat) (r : Recent) (e : Bool) (is : List Item) :
    wheresItems f first i r (.imp e :: is) = wheresItems f first i (some (i, e)) is := rfl

theorem wheresFrom_nil (f : File) (first i : Nat) (r : Recent) : wheresFrom f first i r [] = [] := rfl

theorem wheresFrom_cons (f : File) (first i : Nat) (r : Recent) (l : Line) (ls : File) :
    wheresFrom f first i r (l :: ls) =
      (wheresItems f first i r l.items).1 ++ wheresFrom f first (i + 1) (wheresItems f first i r l.items).2 ls := rfl

theorem wheresItems_length (f : File) (first i : Nat) (r : Recent) (is : List Item) :
    (wheresItems f first i r is).1.length = (is.filterMap Item.refName?).length := by
  induction is generalizing r with
  | nil => rfl
  | cons a as ih =>
    cases a with
    | ref n =>
      rw [wheresItems_ref]
      simp only [List.length_cons, ih r, List.filterMap_cons, Item.refName?]
    | imp e =>
      rw [wheresItems_imp, ih]
      simp only [List.filterMap_cons, Item.refName?]

theorem wheresFrom_length (f : File) (first i : Nat) (r : Recent) (ls : File) :
    (wheresFrom f first i r ls).length = (rawFrom i ls).length := by
  induction ls generalizing i r with
  | nil => rfl
  | cons a as ih =>
    rw [wheresFrom_cons, rawFrom_cons, List.length_append, List.length_append, ih, wheresItems_length,
      List.length_map]
    rfl

/-- (line, item index) of the last top-level import seen: the handler's `most_recent_import_range`, set by `import_decl` -/
abbrev RecentPos := Option (Nat × Nat)

/-- thread (line, itemIdx) of the most recent import through the items of line `line`, starting at item index `j`:
one entry per `ref` (the state *before* that reference), like `wheresItems` -/
def recentPosItems (line : Nat) : RecentPos → Nat → List Item → List RecentPos × RecentPos
  | r, _, [] => ([], r)
  | r, j, .ref _ :: is => (r :: (recentPosItems line r (j + 1) is).1, (recentPosItems line r (j + 1) is).2)
  | _, j, .imp _ :: is => recentPosItems line (some (line, j)) (j + 1) is

def recentPosFrom : Nat → RecentPos → File → List RecentPos
  | _, _, [] => []
  | i, r, l :: ls =>
    (recentPosItems i r 0 l.items).1 ++ recentPosFrom (i + 1) (recentPosItems i r 0 l.items).2 ls

/-- for every raw diagnostic, in the order of `raw`: where the most recent import before it stands -/
def recentPosAll (f : File) : List RecentPos := recentPosFrom 0 none f

/-- line and item index of the most recent top-level import before the `i`-th raw diagnostic -/
def recentPos (f : File) (i : Nat) : Option (Nat × Nat) :=
  match (recentPosAll f)[i]? with
  | some r => r
  | none => none

theorem recentPosItems_ref (line : Nat) (r : RecentPos) (j : Nat) (n : Name) (is : List Item) :
    recentPosItems line r j (.ref n :: is) =
      (r :: (recentPosItems line r (j + 1) is).1, (recentPosItems line r (j + 1) is).2) := rfl

theorem recentPosItems_imp (line : Nat) (r : RecentPos) (j : Nat) (e : Bool) (is : List Item) :
    recentPosItems line r j (.imp e :: is) = recentPosItems line (some (line, j)) (j + 1) is := rfl

theorem recentPosFrom_cons (i : Nat) (r : RecentPos) (l : Line) (ls : File) :
    recentPosFrom i r (l :: ls) =
      (recentPosItems i r 0 l.items).1 ++ recentPosFrom (i + 1) (recentPosItems i r 0 l.items).2 ls := rfl

/-- the import that stands at a recorded position, as `wheres` records it -/
def recentOf (f : File) : RecentPos → Recent
  | none => none
  | some (l, j) =>
    match f[l]? with
    | none => none
    | some ln =>
      match ln.items[j]? with
      | some (.imp e) => some (l, e)
      | _ => none

theorem recentOf_some {f : File} {p : RecentPos} {l : Nat} {e : Bool} (h : recentOf f p = some (l, e)) :
    ∃ j ln, p = some (l, j) ∧ f[l]? = some ln ∧ ln.items[j]? = some (.imp e) := by
  unfold recentOf at h
  split at h
  · cases h
  · rename_i l' j
    split at h
    · cases h
    · rename_i ln hl
      split at h
      · rename_i e' hj
        cases h
        exact ⟨j, ln, rfl, hl, hj⟩
      · cases h

/-- the two traversals in lockstep over the items of line `line` from item `j` on -/
theorem wheresItems_eq (f : File) (first line : Nat) (ln : Line) (hl : f[line]? = some ln) (p : RecentPos) (j : Nat)
    (is : List Item) (hsuf : ln.items.drop j = is) :
    wheresItems f first line (recentOf f p) is =
      ((recentPosItems line p j is).1.map (whereOf f first ∘ recentOf f),
        recentOf f (recentPosItems line p j is).2) := by
  induction is generalizing p j with
  | nil => rfl
  | cons a as ih =>
    obtain ⟨hj, hsuf'⟩ := drop_cons hsuf
    cases a with
    | ref n => rw [wheresItems_ref, recentPosItems_ref, ih p _ hsuf']; rfl
    | imp e =>
      have : recentOf f (some (line, j)) = some (line, e) := by simp only [recentOf, hl, hj]
      rw [wheresItems_imp, recentPosItems_imp, ← this, ih _ _ hsuf']

theorem wheresFrom_eq (f : File) (first i : Nat) (p : RecentPos) (ls : File) (hsuf : f.drop i = ls) :
    wheresFrom f first i (recentOf f p) ls = (recentPosFrom i p ls).map (whereOf f first ∘ recentOf f) := by
  induction ls generalizing i p with
  | nil => rfl
  | cons a as ih =>
    obtain ⟨ha, hsuf'⟩ := drop_cons hsuf
    rw [wheresFrom_cons, recentPosFrom_cons, wheresItems_eq f first i a ha p 0 a.items rfl,
      ih _ _ hsuf', List.map_append]

theorem wheres_eq (f : File) (first : Nat) : wheres f first = (recentPosAll f).map (whereOf f first ∘ recentOf f) :=
  wheresFrom_eq f first 0 none f rfl

theorem recentPosAll_length (f : File) (first : Nat) : (recentPosAll f).length = (wheres f first).length := by
  rw [wheres_eq, List.length_map]

/-- what a placement after the most recent import needs of it: an import that ends its line stands on a line of the file
that starts no directive naming the rule -/
def GoodR (f : File) (r : Recent) : Prop := ∀ l, r = some (l, true) → l < f.length ∧ dirAt f l = false

theorem dirAt_false_of_anyDirAt {f : File} {first : Nat} (hwf : WF f first) {j : Nat} (h : anyDirAt f j = false) :
    dirAt f j = false := by
  unfold dirAt
  unfold anyDirAt at h
  cases hj : f[j]? with
  | none => rfl
  | some l =>
    rw [hj] at h
    simp only at h ⊢
    cases hd : l.dir with
    | false => rfl
    | true =>
      have := hwf.dir_any l (List.mem_of_getElem? hj) hd
      rw [this] at h; cases h

theorem codeStart_safe {f : File} {first : Nat} (hwf : WF f first) (hfirst : first ≤ f.length) :
    Safe f (.newLineAt (codeStart f first)) := by
  unfold codeStart
  by_cases hc : (decide (first > 0) && anyDirAt f (first - 1)) = true
  · rw [if_pos hc]
    refine ⟨by omega, ?_⟩
    rintro ⟨_, _, l, hl, hr⟩
    have hpos : first > 0 := by
      simp only [Bool.and_eq_true, decide_eq_true_eq] at hc
      exact hc.1
    have := hwf.before_first (first - 1) l hl (by omega)
    apply hr
    simp only [Line.refs, this, List.filterMap_nil]
  · rw [if_neg hc]
    refine ⟨hfirst, ?_⟩
    rintro ⟨hpos, hd, _⟩
    have ha : anyDirAt f (first - 1) = false := by
      cases h : anyDirAt f (first - 1) with
      | false => rfl
      | true =>
        exfalso; apply hc
        simp only [Bool.and_eq_true, decide_eq_true_eq]
        exact ⟨hpos, h⟩
    rw [dirAt_false_of_anyDirAt hwf ha] at hd
    cases hd

theorem whereOf_safe {f : File} {first : Nat} (hwf : WF f first) (hfirst : first ≤ f.length) {r : Recent}
    (hr : GoodR f r) : Safe f (whereOf f first r) := by
  match r, hr with
  | none, _ => exact codeStart_safe hwf hfirst
  | some (_, false), _ => trivial
  | some (l, true), hr =>
    obtain ⟨h1, h2⟩ := hr l rfl
    refine ⟨by omega, ?_⟩
    rintro ⟨_, hd, _⟩
    have : l + 1 - 1 = l := by omega
    rw [this, h2] at hd
    cases hd

theorem goodR_recentOf {f : File} {first : Nat} (hwf : WF f first) (p : RecentPos) : GoodR f (recentOf f p) := by
  intro l h
  obtain ⟨j, ln, _, hl, hj⟩ := recentOf_some h
  have hmem := List.mem_of_getElem? hl
  refine ⟨(List.getElem?_eq_some_iff.mp hl).1, dirAt_false_of_anyDirAt hwf ?_⟩
  unfold anyDirAt
  rw [hl]
  exact hwf.imp_no_dir ln hmem (List.any_eq_true.mpr ⟨_, List.mem_of_getElem? hj, by simp⟩)

theorem mem_wheres_safe {f : File} {first : Nat} (hwf : WF f first) {w : Where} (hw : w ∈ wheres f first) :
    Safe f w := by
  -- a placement is computed only for a reference, and a reference stands on a line from `first` on
  have hfirst : first ≤ f.length := by
    have : 0 < (raw f).length := wheresFrom_length f first 0 none f ▸ List.length_pos_of_mem hw
    obtain ⟨ln, hl, hn⟩ := mem_raw (List.getElem_mem this)
    have hi := (List.getElem?_eq_some_iff.mp hl).1
    refine Nat.le_of_lt (Nat.lt_of_le_of_lt (Nat.le_of_not_lt fun hlt => ?_) hi)
    rw [Line.refs, hwf.before_first _ ln hl hlt] at hn
    cases hn
  rw [wheres_eq] at hw
  obtain ⟨p, _, rfl⟩ := List.mem_map.mp hw
  exact whereOf_safe hwf hfirst (goodR_recentOf hwf p)

/-- when the fix goes onto the line of the last import, `recentPos` is the position of that import: an item
`.imp false` (the `none` branch of `fixReal` is never taken) -/
theorem recentPos_of_sameLine {f : File} {first i : Nat} (h : (wheres f first)[i]? = some .sameLine) :
    ∃ l j ln, recentPos f i = some (l, j) ∧ f[l]? = some ln ∧ ln.items[j]? = some (Item.imp false) := by
  rw [wheres_eq, List.getElem?_map, Option.map_eq_some_iff] at h
  obtain ⟨p, hp, hw⟩ := h
  -- `whereOf` answers `sameLine` only in the state `some (l, false)`
  unfold Function.comp whereOf at hw
  split at hw
  · cases hw
  · rename_i l hr
    obtain ⟨j, ln, rfl, hl, hj⟩ := recentOf_some hr
    exact ⟨l, j, ln, by unfold recentPos; rw [hp], hl, hj⟩
  · cases hw

theorem recentPos_first_le {f : File} {first : Nat} (hwf : WF f first) {i l j : Nat}
    (hw : (wheres f first)[i]? = some .sameLine) (h : recentPos f i = some (l, j)) : first ≤ l := by
  obtain ⟨l', j', ln, hp, hl, hj⟩ := recentPos_of_sameLine hw
  rw [hp] at h
  cases h
  refine Nat.le_of_not_lt fun hlt => ?_
  rw [hwf.before_first l ln hl hlt] at hj
  cases hj

def wfB (f : File) (first : Nat) : Bool :=
  f.all (fun l => !l.dir || l.anyDir) &&
  (f.take first).all (fun l => l.items.isEmpty) &&
  f.all (fun l => !l.hasImpEndingLine || !l.anyDir)

theorem WF_of_wfB {f : File} {first : Nat} (h : wfB f first = true) : WF f first := by
  unfold wfB at h
  simp only [Bool.and_eq_true, List.all_eq_true, Bool.or_eq_true, Bool.not_eq_true'] at h
  obtain ⟨⟨h1, h2⟩, h3⟩ := h
  refine ⟨?_, ?_, ?_⟩
  · intro l hl hd
    cases h1 l hl with
    | inl h => rw [hd] at h; cases h
    | inr h => exact h
  · intro i l hl hlt
    have : (f.take first)[i]? = some l := by rw [List.getElem?_take, if_pos hlt]; exact hl
    have := h2 l (List.mem_of_getElem? this)
    simpa using this
  · intro l hl hd
    cases h3 l hl with
    | inl h => rw [hd] at h; cases h
    | inr h => exact h

def safeB (f : File) : Where → Bool
  | .newLineAt k =>
    decide (k ≤ f.length) &&
      !(decide (0 < k) && dirAt f (k - 1) && (match f[k]? with | some l => !l.refs.isEmpty | none => false))
  | .sameLine => true

theorem safeB_iff (f : File) (w : Where) : safeB f w = true ↔ Safe f w := by
  cases w with
  | sameLine => simp [safeB, Safe]
  | newLineAt k =>
    unfold safeB Safe
    cases hk : f[k]? with
    | none => simp [hk]
    | some l => cases hd : dirAt f (k - 1) <;> cases hr : l.refs <;> simp [hk, hd, hr, Nat.pos_iff_ne_zero]

instance (f : File) (w : Where) : Decidable (Safe f w) := decidable_of_iff _ (safeB_iff f w)

end DL.Imp
