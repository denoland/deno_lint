import DL.Model.CFRules

/-! The analyzer state and the reference completions, field by field: what `Info.setEnd`/`setUnreach` and `markAsEnd`
change, the components of `Compl.seq`/`union`/`guard`/`loopCompl`; the vocabulary the later invariants use (`Info.ur`,
`Compl.hasCl`, `Compl.plain`, `Kids.pure`, `pureCompl`), with the completion of a pure expression list. -/
namespace DL.CF

def Info.ur (i : Info) (q : Nat) : Bool :=
  match i q with
  | some m => m.unreachable
  | none => false

theorem metaUnreach_eq_ur (i : Info) (q : Nat) : metaUnreach i q = i.ur q := rfl

@[simp] theorem ur_setEnd (i : Info) (p : Nat) (e : Option End) (q : Nat) : (i.setEnd p e).ur q = i.ur q := by
  unfold Info.ur Info.setEnd
  by_cases h : q = p
  · subst h; simp only [if_true]; cases i q <;> rfl
  · simp [h]

theorem ur_setUnreach (i : Info) (p : Nat) (u : Bool) (q : Nat) :
    (i.setUnreach p u).ur q = if q = p then u else i.ur q := by
  unfold Info.ur Info.setUnreach
  by_cases h : q = p
  · subst h; simp
  · simp [h]

@[simp] theorem endAt_setUnreach (i : Info) (p : Nat) (u : Bool) (q : Nat) : (i.setUnreach p u).endAt q = i.endAt q := by
  unfold Info.endAt Info.setUnreach
  by_cases h : q = p
  · subst h; simp only [if_true]; cases i q <;> rfl
  · simp [h]

theorem endAt_setEnd (i : Info) (p : Nat) (e : Option End) (q : Nat) :
    (i.setEnd p e).endAt q = if q = p then e else i.endAt q := by
  unfold Info.endAt Info.setEnd
  by_cases h : q = p
  · subst h; simp
  · simp [h]

@[simp] theorem stopsEnd_none : stopsEnd none = false := rfl
@[simp] theorem stopsEnd_cont : stopsEnd (some .cont) = false := rfl
@[simp] theorem stopsEnd_brk : stopsEnd (some .brk) = true := rfl
@[simp] theorem stopsEnd_forced (r t i : Bool) : stopsEnd (some (.forced r t i)) = true := rfl
@[simp] theorem isForcedEnd_none : isForcedEnd none = false := rfl
@[simp] theorem isForcedEnd_cont : isForcedEnd (some .cont) = false := rfl
@[simp] theorem isForcedEnd_brk : isForcedEnd (some .brk) = false := rfl
@[simp] theorem isForcedEnd_forced (r t i : Bool) : isForcedEnd (some (.forced r t i)) = true := rfl

theorem stops_of_forced {e : Option End} (h : isForcedEnd e = true) : stopsEnd e = true := by
  rcases e with _ | ⟨r, t, i⟩ | _ | _ <;> simp_all

theorem markAsEnd_sc (p : Nat) (e : End) (a : A) :
    (markAsEnd p e a).sc = { a.sc with end_ := (markAsEnd p e a).sc.end_ } := by
  obtain ⟨⟨e0, mt, fb, fc, ho⟩, info⟩ := a
  unfold markAsEnd; rcases e0 with _ | ⟨r, t, i⟩ | _ | _ <;> simp

@[simp] theorem markAsEnd_foundBreak (p : Nat) (e : End) (a : A) : (markAsEnd p e a).sc.foundBreak = a.sc.foundBreak := by
  rw [markAsEnd_sc]
@[simp] theorem markAsEnd_foundContinue (p : Nat) (e : End) (a : A) :
    (markAsEnd p e a).sc.foundContinue = a.sc.foundContinue := by rw [markAsEnd_sc]
@[simp] theorem markAsEnd_mayThrow (p : Nat) (e : End) (a : A) : (markAsEnd p e a).sc.mayThrow = a.sc.mayThrow := by
  rw [markAsEnd_sc]
@[simp] theorem markAsEnd_hoist (p : Nat) (e : End) (a : A) : (markAsEnd p e a).sc.hoist = a.sc.hoist := by
  rw [markAsEnd_sc]

@[simp] theorem markAsEnd_ur (p : Nat) (e : End) (a : A) (q : Nat) : (markAsEnd p e a).info.ur q = a.info.ur q := by
  unfold markAsEnd; rcases h : a.sc.end_ with _ | ⟨r, t, i⟩ | _ | _ <;> simp [h]

theorem markAsEnd_endAt_other (p : Nat) (e : End) (a : A) (q : Nat) (hq : q ≠ p) :
    (markAsEnd p e a).info.endAt q = a.info.endAt q := by
  unfold markAsEnd; rcases h : a.sc.end_ with _ | ⟨r, t, i⟩ | _ | _ <;> simp [h, endAt_setEnd, hq]

theorem markAsEnd_info_other (p : Nat) (e : End) (a : A) (q : Nat) (hq : q ≠ p) :
    (markAsEnd p e a).info q = a.info q := by
  unfold markAsEnd; rcases h : a.sc.end_ with _ | ⟨r, t, i⟩ | _ | _ <;> simp [h, Info.setEnd, hq]

theorem markAsEnd_stops (p : Nat) (e : End) (a : A) :
    stopsEnd (markAsEnd p e a).sc.end_ = (stopsEnd a.sc.end_ || stopsEnd (some e)) := by
  unfold markAsEnd; rcases h : a.sc.end_ with _ | ⟨r, t, i⟩ | _ | _ <;> simp [h]

theorem markAsEnd_self_stops (p : Nat) (e : End) (a : A)
    (h : stopsEnd ((markAsEnd p e a).info.endAt p) = true) : stopsEnd a.sc.end_ = true ∨ stopsEnd (some e) = true := by
  unfold markAsEnd at h
  rcases h' : a.sc.end_ with _ | ⟨r, t, i⟩ | _ | _ <;> simp [h', endAt_setEnd] at h ⊢ <;> simp_all

theorem markAsEnd_self_forced (p : Nat) (e : End) (a : A)
    (h : isForcedEnd ((markAsEnd p e a).info.endAt p) = true) : isForcedEnd a.sc.end_ = true ∨ e.isForced = true := by
  unfold markAsEnd at h
  rcases h' : a.sc.end_ with _ | ⟨r, t, i⟩ | _ | _ <;> simp [h', endAt_setEnd] at h ⊢
  all_goals (cases e <;> simp_all [End.isForced, isForcedEnd])

theorem markAsEnd_forced (p : Nat) (e : End) (a : A) :
    isForcedEnd (markAsEnd p e a).sc.end_ =
      (isForcedEnd a.sc.end_ || (!stopsEnd a.sc.end_ && e.isForced)) := by
  unfold markAsEnd; rcases h : a.sc.end_ with _ | ⟨r, t, i⟩ | _ | _ <;> cases e <;> simp [h, End.isForced]

@[simp] theorem setEnd_info (a : A) (e : Option End) : (a.setEnd e).info = a.info := rfl
@[simp] theorem setEnd_end (a : A) (e : Option End) : (a.setEnd e).sc.end_ = e := rfl
@[simp] theorem setEnd_foundBreak (a : A) (e : Option End) : (a.setEnd e).sc.foundBreak = a.sc.foundBreak := rfl
@[simp] theorem setEnd_foundContinue (a : A) (e : Option End) : (a.setEnd e).sc.foundContinue = a.sc.foundContinue := rfl

@[simp] theorem seq_n (x y : Compl) : (x.seq y).n = (x.n && y.n) := by
  unfold Compl.seq; cases h : x.n <;> simp [h, Compl.union, Compl.abrupt]
@[simp] theorem seq_b (x y : Compl) : (x.seq y).b = (x.b || (x.n && y.b)) := by
  unfold Compl.seq; cases h : x.n <;> simp [h, Compl.union, Compl.abrupt]
@[simp] theorem seq_c (x y : Compl) : (x.seq y).c = (x.c || (x.n && y.c)) := by
  unfold Compl.seq; cases h : x.n <;> simp [h, Compl.union, Compl.abrupt]
@[simp] theorem union_n (x y : Compl) : (x.union y).n = (x.n || y.n) := rfl
@[simp] theorem union_b (x y : Compl) : (x.union y).b = (x.b || y.b) := rfl
@[simp] theorem union_c (x y : Compl) : (x.union y).c = (x.c || y.c) := rfl
@[simp] theorem evalCompl_eq (k : Kids) : evalCompl k = k.compl := rfl
theorem Cases.fallCompl_cons (p : Nat) (d : Bool) (t : Kids) (body : Stmts) (r : Cases) :
    (Cases.cons p d t body r).fallCompl = body.compl.seq r.fallCompl := rfl
theorem Cases.compl_cons (p : Nat) (d : Bool) (t : Kids) (body : Stmts) (r : Cases) :
    (Cases.cons p d t body r).compl = ((body.compl.seq r.fallCompl).union r.compl.1, d || r.compl.2) := rfl
@[simp] theorem testComplOf_eq (tt : Bool) (k : Kids) : testComplOf tt k.compl = testCompl tt k := rfl
@[simp] theorem normal_n : Compl.normal.n = true := rfl
@[simp] theorem normal_b : Compl.normal.b = false := rfl
@[simp] theorem normal_c : Compl.normal.c = false := rfl
@[simp] theorem loopCompl_n (ls : List Id) (x : Bool) (b : Compl) : (loopCompl ls x b).n = (x || b.b) := rfl
@[simp] theorem loopCompl_b (ls : List Id) (x : Bool) (b : Compl) : (loopCompl ls x b).b = false := rfl
@[simp] theorem loopCompl_c (ls : List Id) (x : Bool) (b : Compl) : (loopCompl ls x b).c = false := rfl
@[simp] theorem guard_n (g : Bool) (x : Compl) : (Compl.guard g x).n = (g && x.n) := by
  unfold Compl.guard; cases g <;> simp
@[simp] theorem guard_b (g : Bool) (x : Compl) : (Compl.guard g x).b = (g && x.b) := by
  unfold Compl.guard; cases g <;> simp
@[simp] theorem guard_c (g : Bool) (x : Compl) : (Compl.guard g x).c = (g && x.c) := by
  unfold Compl.guard; cases g <;> simp
@[simp] theorem abrupt_n (x : Compl) : x.abrupt.n = false := rfl
@[simp] theorem abrupt_b (x : Compl) : x.abrupt.b = x.b := rfl
@[simp] theorem abrupt_c (x : Compl) : x.abrupt.c = x.c := rfl

/-- some labelled `continue` is among the completions -/
def Compl.hasCl (x : Compl) : Bool := !x.cl.isEmpty

theorem not_isEmpty_append (x y : List Id) : (!(x ++ y).isEmpty) = (!x.isEmpty || !y.isEmpty) := by
  cases x <;> cases y <;> rfl

@[simp] theorem seq_hasCl (x y : Compl) : (x.seq y).hasCl = (x.hasCl || (x.n && y.hasCl)) := by
  unfold Compl.seq Compl.hasCl; cases h : x.n <;> simp [Compl.union, Compl.abrupt, not_isEmpty_append]
@[simp] theorem union_hasCl (x y : Compl) : (x.union y).hasCl = (x.hasCl || y.hasCl) := by
  simp [Compl.union, Compl.hasCl, not_isEmpty_append]
@[simp] theorem normal_hasCl : Compl.normal.hasCl = false := rfl
@[simp] theorem guard_hasCl (g : Bool) (x : Compl) : (Compl.guard g x).hasCl = (g && x.hasCl) := by
  unfold Compl.guard; cases g <;> simp [Compl.hasCl]
@[simp] theorem abrupt_hasCl (x : Compl) : x.abrupt.hasCl = x.hasCl := rfl

theorem not_isEmpty_of_filter {α : Type} (f : α → Bool) (l : List α) (h : (!(l.filter f).isEmpty) = true) :
    (!l.isEmpty) = true := by
  cases l with
  | nil => simp at h
  | cons a r => rfl

theorem loopCompl_hasCl (ls : List Id) (x : Bool) (b : Compl) (h : (loopCompl ls x b).hasCl = true) : b.hasCl = true :=
  not_isEmpty_of_filter _ _ h

theorem any_of_not_hasCl (x : Compl) (f : Id → Bool) (h : x.hasCl = false) : x.cl.any f = false := by
  unfold Compl.hasCl at h
  cases hc : x.cl with
  | nil => rfl
  | cons a r => rw [hc] at h; simp at h

@[simp] theorem seq_t (x y : Compl) : (x.seq y).t = (x.t || (x.n && y.t)) := by
  unfold Compl.seq; cases h : x.n <;> simp [Compl.union, Compl.abrupt]
@[simp] theorem union_t (x y : Compl) : (x.union y).t = (x.t || y.t) := rfl
@[simp] theorem normal_t : Compl.normal.t = false := rfl
@[simp] theorem guard_t (g : Bool) (x : Compl) : (Compl.guard g x).t = (g && x.t) := by
  unfold Compl.guard; cases g <;> simp
@[simp] theorem abrupt_t (x : Compl) : x.abrupt.t = x.t := rfl
@[simp] theorem loopCompl_t (ls : List Id) (x : Bool) (b : Compl) : (loopCompl ls x b).t = b.t := rfl

@[simp] theorem setEnd_mayThrow (a : A) (e : Option End) : (a.setEnd e).sc.mayThrow = a.sc.mayThrow := rfl

mutual
/-- no statement is nested directly in this expression tree (`with` bodies, class static blocks); function scopes are
not looked into -/
def Kid.pure : Kid → Bool
  | .expr _ ks => ks.pure
  | .fnScope _ _ => true
  | .block _ _ => false
  | .stmt _ => false
def Kids.pure : Kids → Bool
  | .nil => true
  | .cons k r => k.pure && r.pure
end

/-- completions that are normal or a throw only: no `break`/`continue` escapes -/
def Compl.plain (c : Compl) : Bool := !c.b && !c.c && !c.hasCl

theorem Compl.plain_b {c : Compl} (h : c.plain = true) : c.b = false := by
  unfold Compl.plain at h; cases hb : c.b <;> simp_all
theorem Compl.plain_c {c : Compl} (h : c.plain = true) : c.c = false := by
  unfold Compl.plain at h; cases hb : c.c <;> simp_all
theorem Compl.plain_hasCl {c : Compl} (h : c.plain = true) : c.hasCl = false := by
  unfold Compl.plain at h; cases hb : c.hasCl <;> simp_all

/-- what evaluating pure expressions can do: complete normally, or throw if some part may throw -/
def pureCompl (ks : Kids) : Compl := { n := true, t := ks.mayThrow }

@[simp] theorem pureCompl_n (k : Kids) : (pureCompl k).n = true := rfl
@[simp] theorem pureCompl_b (k : Kids) : (pureCompl k).b = false := rfl
@[simp] theorem pureCompl_c (k : Kids) : (pureCompl k).c = false := rfl
@[simp] theorem pureCompl_hasCl (k : Kids) : (pureCompl k).hasCl = false := rfl
@[simp] theorem pureCompl_t (k : Kids) : (pureCompl k).t = k.mayThrow := rfl
theorem pureCompl_plain (k : Kids) : (pureCompl k).plain = true := rfl

private theorem seq_simple (t1 t2 : Bool) : Compl.seq { n := true, t := t1 } { n := true, t := t2 } = { n := true, t := t1 || t2 } := by
  simp [Compl.seq, Compl.union, Compl.abrupt]

mutual
theorem Kid.compl_pure : ∀ (k : Kid), k.pure = true → k.compl = { n := true, t := k.mayThrow }
  | .expr e ks, h => by
    have hk := Kids.compl_pure ks (by simpa [Kid.pure] using h)
    simp only [Kid.compl, hk, pureCompl]
    cases e <;> simp [exprOwn, seq_simple, Kid.mayThrow]
  | .fnScope _ _, _ => by simp [Kid.compl, Kid.mayThrow, Compl.normal]
  | .block _ _, h => by simp [Kid.pure] at h
  | .stmt _, h => by simp [Kid.pure] at h
theorem Kids.compl_pure : ∀ (ks : Kids), ks.pure = true → ks.compl = pureCompl ks
  | .nil, _ => by simp [Kids.compl, pureCompl, Kids.mayThrow, Compl.normal]
  | .cons k r, h => by
    simp only [Kids.pure, Bool.and_eq_true] at h
    simp only [Kids.compl, Kid.compl_pure k h.1, Kids.compl_pure r h.2, pureCompl, seq_simple, Kids.mayThrow]
end

theorem testCompl_n (tt : Bool) (k : Kids) : (testCompl tt k).n = (tt || k.compl.n) := by
  unfold testCompl testComplOf; cases tt <;> simp
theorem testCompl_plain (tt : Bool) (k : Kids) (h : k.compl.plain = true) : (testCompl tt k).plain = true := by
  unfold testCompl testComplOf; cases tt
  · simpa using h
  · rfl
theorem testCompl_t (tt : Bool) (k : Kids) : (testCompl tt k).t = (!tt && k.compl.t) := by
  unfold testCompl testComplOf; cases tt <;> simp

theorem Stmt.reach_self (s : Stmt) : s.reach s.pos = true := by
  cases s with
  | ifS p t c a => cases a <;> simp [Stmt.reach, Stmt.pos]
  | _ => simp [Stmt.reach, Stmt.pos]

end DL.CF
