import DL.Lemmas.RxCompBase

/-! # Completeness: the helpers that cannot return `Err` -/
namespace DL.Rx
attribute [local irreducible] isScalar

@[rx_ne] theorem NE.isInRangeLoop (cp : Nat) (ranges : Array Nat) : ∀ n l r, NE (DL.Rx.isInRangeLoop cp ranges n l r)
  | 0, _, _ => by unfold DL.Rx.isInRangeLoop; ne_auto
  | n + 1, l, r => by
    have ih := NE.isInRangeLoop cp ranges n
    unfold DL.Rx.isInRangeLoop; ne_auto
    all_goals exact ih _ _

@[rx_ne] theorem NE.isInRange (cp : Nat) (ranges : Array Nat) : NE (DL.Rx.isInRange cp ranges) := by unfold DL.Rx.isInRange; ne_auto

@[rx_ne] theorem NE.isLargeIdStart (cp : Nat) : NE (DL.Rx.isLargeIdStart cp) := by unfold DL.Rx.isLargeIdStart; ne_auto

@[rx_ne] theorem NE.isLargeIdContinue (cp : Nat) : NE (DL.Rx.isLargeIdContinue cp) := by unfold DL.Rx.isLargeIdContinue; ne_auto

@[rx_ne] theorem NE.isIdStart (cp : Nat) : NE (DL.Rx.isIdStart cp) := by unfold DL.Rx.isIdStart; ne_auto

@[rx_ne] theorem NE.isIdContinue (cp : Nat) : NE (DL.Rx.isIdContinue cp) := by unfold DL.Rx.isIdContinue; ne_auto

@[rx_ne] theorem NE.isRegexpIdentifierStart (cp : Nat) : NE (DL.Rx.isRegexpIdentifierStart cp) := by unfold DL.Rx.isRegexpIdentifierStart; ne_auto

@[rx_ne] theorem NE.isRegexpIdentifierPart (cp : Nat) : NE (DL.Rx.isRegexpIdentifierPart cp) := by unfold DL.Rx.isRegexpIdentifierPart; ne_auto

@[rx_ne] theorem NE.checkedI64 (v : Int) (site : String) : NE (DL.Rx.checkedI64 v site) := by unfold DL.Rx.checkedI64; ne_auto

@[rx_ne] theorem NE.eatFixedHexDigitsLoop (start : Nat) : ∀ k, NE (DL.Rx.eatFixedHexDigitsLoop start k)
  | 0 => by unfold DL.Rx.eatFixedHexDigitsLoop; ne_auto
  | k + 1 => by
    have ih := NE.eatFixedHexDigitsLoop start k
    unfold DL.Rx.eatFixedHexDigitsLoop; ne_auto

@[rx_ne] theorem NE.eatFixedHexDigits (k : Nat) : NE (DL.Rx.eatFixedHexDigits k) := by unfold DL.Rx.eatFixedHexDigits; ne_auto

@[rx_ne] theorem NE.eatHexDigitsLoop : ∀ n, NE (DL.Rx.eatHexDigitsLoop n)
  | 0 => by unfold DL.Rx.eatHexDigitsLoop; ne_auto
  | n + 1 => by
    have ih := NE.eatHexDigitsLoop n
    unfold DL.Rx.eatHexDigitsLoop; ne_auto

@[rx_ne] theorem NE.eatHexDigits (n : Nat) : NE (DL.Rx.eatHexDigits n) := by unfold DL.Rx.eatHexDigits; ne_auto

@[rx_ne] theorem NE.eatDecimalDigitsLoop : ∀ n, NE (DL.Rx.eatDecimalDigitsLoop n)
  | 0 => by unfold DL.Rx.eatDecimalDigitsLoop; ne_auto
  | n + 1 => by
    have ih := NE.eatDecimalDigitsLoop n
    unfold DL.Rx.eatDecimalDigitsLoop; ne_auto

@[rx_ne] theorem NE.eatDecimalDigits (n : Nat) : NE (DL.Rx.eatDecimalDigits n) := by unfold DL.Rx.eatDecimalDigits; ne_auto

@[rx_ne] theorem NE.eatPropertyCharsLoop (p : Nat → Bool) (site : String) : ∀ n, NE (DL.Rx.eatPropertyCharsLoop p site n)
  | 0 => by unfold DL.Rx.eatPropertyCharsLoop; ne_auto
  | n + 1 => by
    have ih := NE.eatPropertyCharsLoop p site n
    unfold DL.Rx.eatPropertyCharsLoop; ne_auto

@[rx_ne] theorem NE.eatUnicodePropertyName (n : Nat) : NE (DL.Rx.eatUnicodePropertyName n) := by unfold DL.Rx.eatUnicodePropertyName; ne_auto

@[rx_ne] theorem NE.eatUnicodePropertyValue (n : Nat) : NE (DL.Rx.eatUnicodePropertyValue n) := by unfold DL.Rx.eatUnicodePropertyValue; ne_auto

@[rx_ne] theorem NE.eatLoneUnicodePropertyNameOrValue (n : Nat) : NE (DL.Rx.eatLoneUnicodePropertyNameOrValue n) := by unfold DL.Rx.eatLoneUnicodePropertyNameOrValue; ne_auto

@[rx_ne] theorem NE.eatDecimalEscapeLoop : ∀ n, NE (DL.Rx.eatDecimalEscapeLoop n)
  | 0 => by unfold DL.Rx.eatDecimalEscapeLoop; ne_auto
  | n + 1 => by
    have ih := NE.eatDecimalEscapeLoop n
    unfold DL.Rx.eatDecimalEscapeLoop; ne_auto

@[rx_ne] theorem NE.eatDecimalEscape (n : Nat) : NE (DL.Rx.eatDecimalEscape n) := by unfold DL.Rx.eatDecimalEscape; ne_auto

@[rx_ne] theorem NE.eatControlLetter : NE DL.Rx.eatControlLetter := by unfold DL.Rx.eatControlLetter; ne_auto

@[rx_ne] theorem NE.eatControlEscape : NE DL.Rx.eatControlEscape := by unfold DL.Rx.eatControlEscape; ne_auto

@[rx_ne] theorem NE.eatZero : NE DL.Rx.eatZero := by unfold DL.Rx.eatZero; ne_auto

@[rx_ne] theorem NE.eatCControlLetter : NE DL.Rx.eatCControlLetter := by unfold DL.Rx.eatCControlLetter; ne_auto

@[rx_ne] theorem NE.isValidIdentityEscape (cp : Nat) : NE (DL.Rx.isValidIdentityEscape cp) := by unfold DL.Rx.isValidIdentityEscape; ne_auto

@[rx_ne] theorem NE.eatIdentityEscape : NE DL.Rx.eatIdentityEscape := by unfold DL.Rx.eatIdentityEscape; ne_auto

@[rx_ne] theorem NE.eatRegexpUnicodeCodepointEscape (n : Nat) : NE (DL.Rx.eatRegexpUnicodeCodepointEscape n) := by unfold DL.Rx.eatRegexpUnicodeCodepointEscape; ne_auto

@[rx_ne] theorem NE.eatRegexpUnicodeSurrogatePairEscape : NE DL.Rx.eatRegexpUnicodeSurrogatePairEscape := by unfold DL.Rx.eatRegexpUnicodeSurrogatePairEscape; ne_auto

@[rx_ne] theorem NE.consumePatternCharacter : NE DL.Rx.consumePatternCharacter := by unfold DL.Rx.consumePatternCharacter; ne_auto

end DL.Rx
