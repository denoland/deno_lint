import DL.Lemmas.RxBCompRec
import DL.Lemmas.RxCompTop
import DL.Lemmas.RxBTop

/-! # Annex B (no `u` flag), completeness: `consume_pattern`, the two passes of `validate_pattern` -/
namespace DL.Rx
open DL.RxSpec DL.Gen.Unicode

attribute [local irreducible] isScalar
variable {src : List Nat} {K : Bool × Nat}

theorem countCapturingParens_wd (n : Nat) (r : List Nat) (s : St) (h : BAt src K r s) :
    Wc (countCapturingParens n s) (fun v s1 => v = scan r false false 0 ∧ BAt src K r s1 ∧ KeepN s s1) :=
  Wc.of_wp (countCapturingParens_wb n r s h) (NE.countCapturingParens n)

/-- a valid pattern passes `consume_pattern`; the names of its groups are what is left in the state -/
theorem consumePattern_wd (hlen : src.length < 2 ^ 62) (a : Attr)
    (hder : RxSpecB.Derives K.1 qokSat a.groups.length .Disjunction src [] a)
    (hnd : (groupNames a.groups).Nodup) (hrefs : ∀ x ∈ a.refs, x ∈ groupNames a.groups)
    (n : Nat) (s : St) (h : BAt src K src s) :
    Wc (consumePattern n s) (fun _ s1 => BAt src (K.1, a.groups.length) [] s1 ∧ s1.groupNames = groupNames a.groups) := by
  have hscan : scan src false false 0 = a.groups.length := by
    have := derives_scanB hder 0
    rw [this]; simp [scan]
  have hN : a.groups.length < 2 ^ 62 := by
    have := scan_le src false false 0; omega
  have hdj : PDjB src (K.1, a.groups.length) src [] a :=
    disj_of_bodyB (derives_completeB (src := src) (K := (K.1, a.groups.length)) hN hder) (.inl rfl)
  unfold consumePattern
  refine Wc.call (countCapturingParens_wd n src s h) (fun v s1 ⟨hv, hat1, hk1⟩ => ?_)
  rw [hscan] at hv
  subst hv
  with_reducible refine Wc.bind_modSt ?_
  have hat2 : BAt src (K.1, a.groups.length) src
      { s1 with numCapturingParens := a.groups.length, groupNames := [], backreferenceNames := [] } :=
    ⟨hat1.1, hat1.2.1, hat1.2.2.1, hat1.2.2.2.1, hat1.2.2.2.2.1, rfl⟩
  refine Wc.call (hdj n _ hat2 (by
    show ([] ++ groupNames a.groups).Nodup
    rw [List.nil_append]; exact hnd)) (fun _ s2 ⟨hat3, htr⟩ => ?_)
  rx7_auto
  · rename_i name hfind
    have hmem := List.mem_of_find?_eq_some hfind
    have hp := List.find?_some hfind
    have hin : name ∈ a.refs := by
      rcases (htr.bn name).mp hmem with h | h
      · exact nomatch h
      · exact h
    have hg : name ∈ s2.groupNames := by
      rw [htr.gn]
      exact List.mem_append_right _ (hrefs name hin)
    have : s2.groupNames.contains name = true := List.contains_iff_mem.mpr hg
    rw [this] at hp
    cases hp
  · refine ⟨hat3, ?_⟩
    rw [htr.gn]; exact List.nil_append _

/-- a valid pattern passes `validate_pattern` without the `u` flag -/
theorem validatePattern_wd (source : List Nat) (hlen : (encodeUtf16 source).length < 2 ^ 62) (a₀ : Attr)
    (hder0 : RxSpecB.Derives false qokSat a₀.groups.length .Disjunction (encodeUtf16 source) [] a₀)
    (hnd0 : (groupNames a₀.groups).Nodup) (hrefs0 : ∀ x ∈ a₀.refs, x ∈ groupNames a₀.groups)
    (h1 : groupNames a₀.groups ≠ [] → ∃ a₁ : Attr,
      RxSpecB.Derives true qokSat a₁.groups.length .Disjunction (encodeUtf16 source) [] a₁ ∧
      (groupNames a₁.groups).Nodup ∧ ∀ x ∈ a₁.refs, x ∈ groupNames a₁.groups)
    (fuel : Nat) (st : St) :
    Wc (validatePattern fuel source false st) (fun _ _ => True) := by
  rw [validatePattern_eq]
  have hstat : RStatic (encodeUtf16 source) (prep source false st).reader := ⟨rfl, rfl⟩
  have hrw := rewindLoop_eq (src := encodeUtf16 source) 0 (prep source false st) hstat 4 0 rfl (Nat.zero_le _)
  have hat : BAt (encodeUtf16 source) (false, st.numCapturingParens) (encodeUtf16 source)
      ((prep source false st).setPos (encodeUtf16 source) 0) :=
    ⟨RInv.setPos hstat (Nat.zero_le _), rfl, rfl, rfl, rfl, rfl⟩
  unfold afterPrep
  refine Wc.bind ?_
  have e : rewindLoop 0 4 0 (prep source false st) = .ok () ((prep source false st).setPos (encodeUtf16 source) 0) := hrw
  rw [e]
  refine Wc.ok ?_
  refine Wc.call (consumePattern_wd (K := (false, st.numCapturingParens)) hlen a₀ hder0 hnd0 hrefs0 fuel _ hat)
    (fun _ s1 ⟨hat1, hgn⟩ => ?_)
  with_reducible refine Wc.bind_getSt ?_
  by_cases hc : (!s1.nFlag && true && !s1.groupNames.isEmpty) = true
  · rw [if_pos hc]
    with_reducible refine Wc.bind_modSt ?_
    have hne : groupNames a₀.groups ≠ [] := by
      intro he
      rw [hgn, he] at hc
      simp at hc
    obtain ⟨a₁, hder1, hnd1, hrefs1⟩ := h1 hne
    have hat2 : BAt (encodeUtf16 source) (true, a₀.groups.length) []
        { s1 with nFlag := true } := ⟨hat1.1, hat1.2.1, hat1.2.2.1, hat1.2.2.2.1, rfl, hat1.2.2.2.2.2⟩
    refine WcB.bind_rewind' hat2 (Nat.zero_le _) (fun hat3 => ?_)
    refine Wc.tail ?_
    refine Wc.call (consumePattern_wd (K := (true, a₀.groups.length)) hlen a₁ hder1 hnd1 hrefs1 fuel _ hat3)
      (fun _ s2 _ => ?_)
    exact Wc.pure trivial
  · rw [if_neg hc]
    exact Wc.pure trivial

end DL.Rx
