import DL.Lemmas.RxReader
import DL.Lemmas.RxIdent

/-! # The `eat_*` leaves never panic -/
namespace DL.Rx

-- the unifier otherwise tries to evaluate `isScalar c` (bit operations on literals) when it meets it in an `if`
attribute [local irreducible] isScalar

/-! the test made before each `to_digit(..).unwrap()` implies `Some` -/

theorem toDigit_of_hex {c : Nat} (h : isAsciiHexdigit c = true) : ∃ d, toDigit c 16 = some d ∧ d < 16 := by
  unfold isAsciiHexdigit at h
  unfold toDigit
  by_cases hs : isScalar c = true
  · rw [if_pos hs] at h; rw [if_pos hs]
    have h := of_decide_eq_true h
    unfold charToDigit
    by_cases h1 : 0x30 ≤ c ∧ c ≤ 0x39
    · rw [if_pos h1]; dsimp only; rw [if_pos (by omega)]; exact ⟨_, rfl, by omega⟩
    · rw [if_neg h1]
      by_cases h2 : 0x61 ≤ c ∧ c ≤ 0x7a
      · rw [if_pos h2]; dsimp only; rw [if_pos (by omega)]; exact ⟨_, rfl, by omega⟩
      · rw [if_neg h2]
        have h3 : 0x41 ≤ c ∧ c ≤ 0x5a := by omega
        rw [if_pos h3]; dsimp only; rw [if_pos (by omega)]; exact ⟨_, rfl, by omega⟩
  · rw [if_neg hs] at h; cases h

theorem toDigit_of_isDigit {c r : Nat} (h : isDigit c r = true) : (toDigit c r).isSome = true := by
  unfold isDigit at h
  unfold toDigit
  by_cases hs : isScalar c = true
  · rw [if_pos hs] at h; rw [if_pos hs]; exact h
  · rw [if_neg hs] at h; cases h

theorem toDigit_of_asciiDigit {c : Nat} (h : isAsciiDigit c = true) : ∃ d, toDigit c 10 = some d ∧ d < 10 := by
  unfold isAsciiDigit at h
  unfold toDigit
  by_cases hs : isScalar c = true
  · rw [if_pos hs] at h; rw [if_pos hs]
    have h := of_decide_eq_true h
    unfold charToDigit
    rw [if_pos h]; dsimp only; rw [if_pos (by omega)]; exact ⟨_, rfl, by omega⟩
  · rw [if_neg hs] at h; cases h

theorem toDigit_isSome_of_asciiDigit {c : Nat} (h : isAsciiDigit c = true) : (toDigit c 10).isSome = true := by
  obtain ⟨d, hd, _⟩ := toDigit_of_asciiDigit h
  rw [hd]; rfl

theorem toDigit_isSome_of_hex {c : Nat} (h : isAsciiHexdigit c = true) : (toDigit c 16).isSome = true := by
  obtain ⟨d, hd, _⟩ := toDigit_of_hex h
  rw [hd]; rfl

theorem asciiAlphabetic_lt {c : Nat} (h : isAsciiAlphabetic c = true) : c < 0x7b := by
  unfold isAsciiAlphabetic at h
  by_cases hs : isScalar c = true
  · rw [if_pos hs] at h; have h := of_decide_eq_true h; omega
  · rw [if_neg hs] at h; cases h

theorem asciiDigit_lt {c : Nat} (h : isAsciiDigit c = true) : c < 0x7b := by
  unfold isAsciiDigit at h
  by_cases hs : isScalar c = true
  · rw [if_pos hs] at h; have h := of_decide_eq_true h; omega
  · rw [if_neg hs] at h; cases h

theorem propertyName_isChar {c : Nat} (h : isUnicodePropertyNameCharacter c = true) : (toChar c).isSome = true := by
  unfold isUnicodePropertyNameCharacter at h
  rcases Bool.or_eq_true _ _ |>.mp h with h | h
  · exact isChar_lt (by have := asciiAlphabetic_lt h; omega)
  · have : c = ch '_' := by simpa using h
    subst this; decide

theorem propertyValue_isChar {c : Nat} (h : isUnicodePropertyValueCharacter c = true) : (toChar c).isSome = true := by
  unfold isUnicodePropertyValueCharacter at h
  rcases Bool.or_eq_true _ _ |>.mp h with h | h
  · exact propertyName_isChar h
  · exact isChar_lt (by have := asciiDigit_lt h; omega)

theorem checkedI64_inrange {v : Int} {site : String} (h : i64Min ≤ v ∧ v ≤ i64Max) : checkedI64 v site = pure v := by
  unfold checkedI64; rw [if_pos h]

theorem unwrap_some_bind {α β : Type} (a : α) (why : String) (f : α → M β) : (unwrap (some a) why >>= f) = f a := rfl
theorem pure_bind' {α β : Type} (a : α) (f : α → M β) : ((pure a : M α) >>= f) = f a := rfl

theorem Safe.bind_getSt {β : Type} {P : St → Prop} {Q : β → St → Prop} {f : St → M β}
    (h : ∀ s0, P s0 → Safe (fun s => s = s0) (f s0) Q) : Safe P (DL.Rx.getSt >>= f) Q :=
  fun s hs => h s hs s rfl

theorem Safe.codePointWithOffset {P : St → Prop} (k : Nat) : Safe P (codePointWithOffset k) (fun _ s => P s) :=
  fun _ hs => hs

/-- `eat_fixed_hex_digits`' loop: with `k` iterations left and an accumulator below `16^j`, `j + k ≤ 15`, the
`16 * v + d` stays inside `i64` -/
theorem eatFixedHexDigitsLoop_safe (start : Nat) : ∀ k j, j + k ≤ 15 →
    Safe (fun s => Inv s ∧ ∃ w : Nat, s.lastIntValue = w ∧ w < 16 ^ j) (eatFixedHexDigitsLoop start k) (fun _ => Inv)
  | 0, _, _ => Safe.pure fun _ h => h.1
  | k + 1, j, hj => by
    unfold eatFixedHexDigitsLoop
    have hrew : Safe (fun s => Inv s ∧ ∃ w : Nat, s.lastIntValue = w ∧ w < 16 ^ j)
        (do rewind start; pure false : M Bool) (fun _ => Inv) :=
      (Keeps.bind (OK.rewind _) fun _ => Keeps.pure).pre (fun _ h => h.1)
    refine Safe.bind (Safe.codePointWithOffset 0) fun cp => ?_
    cases cp with
    | none => exact hrew
    | some c =>
      dsimp only
      refine Safe.ite (fun _ => ?_) fun hc => ?_
      · exact hrew
      obtain ⟨d, hd, hd16⟩ := toDigit_of_hex (c := c) (by simpa using hc)
      rw [hd, unwrap_some_bind]
      refine Safe.bind_getSt fun s0 hs0 => ?_
      obtain ⟨hI, w, hw, hlt⟩ := hs0
      have hpow : 16 ^ (j + 1) ≤ 16 ^ 15 := Nat.pow_le_pow_right (by decide) (by omega)
      have h15 : 16 ^ 15 = 1152921504606846976 := by decide
      rw [Nat.pow_succ] at hpow
      have hlt' : 16 * w + d < 16 ^ (j + 1) := by rw [Nat.pow_succ]; omega
      have hr : i64Min ≤ 16 * s0.lastIntValue + (d : Int) ∧ 16 * s0.lastIntValue + (d : Int) ≤ i64Max := by
        unfold i64Min i64Max; rw [hw]; omega
      rw [checkedI64_inrange hr, pure_bind']
      refine Safe.bind (R := fun _ s => Inv s ∧ s.lastIntValue = 16 * s0.lastIntValue + (d : Int))
        (Safe.modSt fun s hs => by subst hs; exact ⟨hI, rfl⟩) fun _ => ?_
      refine Safe.bind (advance_int _) fun _ => ?_
      refine (eatFixedHexDigitsLoop_safe start k (j + 1) (by omega)).pre fun s hs => ⟨hs.1, 16 * w + d, ?_, hlt'⟩
      rw [hs.2, hw]; simp

@[rx_ok] theorem OK.eatFixedHexDigits (length : Nat) (h : length ≤ 15) : OK (eatFixedHexDigits length) := by
  unfold DL.Rx.eatFixedHexDigits
  refine Keeps.bind OK.index fun start => ?_
  refine Safe.bind (R := fun _ s => Inv s ∧ ∃ w : Nat, s.lastIntValue = w ∧ w < 16 ^ 0)
    (Safe.modSt fun s hs => ⟨hs, 0, rfl, by decide⟩) fun _ => ?_
  exact eatFixedHexDigitsLoop_safe start length 0 (by omega)

theorem eq_true_of_not_bnot {b : Bool} (h : ¬(!b) = true) : b = true := by cases b <;> simp_all

/-- discharges the `Some`-ness side conditions of `unwrap` from the test made just before -/
macro "rx_side" : tactic => `(tactic| first
  | exact toDigit_of_isDigit (by assumption)
  | exact toDigit_isSome_of_hex (eq_true_of_not_bnot (by assumption))
  | exact toDigit_isSome_of_asciiDigit (eq_true_of_not_bnot (by assumption)))

@[rx_ok] theorem OK.eatOctalDigit : OK eatOctalDigit := by
  unfold DL.Rx.eatOctalDigit; rx_auto; all_goals rx_side

@[rx_ok] theorem OK.eatLegacyOctalEscapeSequence : OK eatLegacyOctalEscapeSequence := by
  unfold DL.Rx.eatLegacyOctalEscapeSequence; rx_auto

@[rx_ok] theorem OK.eatHexDigitsLoop : ∀ n, OK (eatHexDigitsLoop n)
  | 0 => Keeps.outOfFuel
  | n + 1 => by
    have ih := OK.eatHexDigitsLoop n
    unfold DL.Rx.eatHexDigitsLoop; rx_auto; all_goals rx_side

@[rx_ok] theorem OK.eatHexDigits (fuel : Nat) : OK (eatHexDigits fuel) := by
  unfold DL.Rx.eatHexDigits; rx_auto

theorem Safe.codePointWithOffset_eq {P : St → Prop} (k : Nat) :
    Safe P (DL.Rx.codePointWithOffset k) (fun a s => a = s.reader.cps[k]? ∧ P s) :=
  fun _ hs => ⟨rfl, hs⟩

/-- `eat_decimal_digits`: the second `code_point_with_offset(0).unwrap()` sees the same state as the `while let Some` -/
@[rx_ok] theorem OK.eatDecimalDigitsLoop : ∀ n, OK (eatDecimalDigitsLoop n)
  | 0 => Keeps.outOfFuel
  | n + 1 => by
    have ih := OK.eatDecimalDigitsLoop n
    unfold DL.Rx.eatDecimalDigitsLoop
    refine Safe.bind (Safe.codePointWithOffset_eq 0) fun o => ?_
    cases o with
    | none => exact Safe.pure fun _ h => h.2
    | some cp =>
      dsimp only
      refine Safe.ite (fun _ => Safe.pure fun _ h => h.2) fun hc => ?_
      have hd := toDigit_isSome_of_asciiDigit (eq_true_of_not_bnot hc)
      refine Safe.bind (Safe.codePointWithOffset_eq 0) fun o' => ?_
      refine Safe.pre (P := fun s => Inv s ∧ o' = some cp) ?_ (fun s h => ⟨h.2.2, h.1.trans h.2.1.symm⟩)
      refine Safe.assume fun ho => ?_
      subst ho
      rw [unwrap_some_bind]
      rx_auto
      exact hd

@[rx_ok] theorem OK.eatDecimalDigits (fuel : Nat) : OK (eatDecimalDigits fuel) := by
  unfold DL.Rx.eatDecimalDigits; rx_auto

@[rx_ok] theorem OK.eatHexEscapeSequence : OK eatHexEscapeSequence := by
  unfold DL.Rx.eatHexEscapeSequence; rx_auto

theorem OK.eatPropertyCharsLoop (p : Nat → Bool) (site : String) (hp : ∀ c, p c = true → (toChar c).isSome = true) :
    ∀ n, OK (eatPropertyCharsLoop p site n)
  | 0 => Keeps.outOfFuel
  | n + 1 => by
    have ih := OK.eatPropertyCharsLoop p site hp n
    unfold DL.Rx.eatPropertyCharsLoop; rx_auto
    exact hp _ (eq_true_of_not_bnot (by assumption))

@[rx_ok] theorem OK.eatUnicodePropertyName (fuel : Nat) : OK (eatUnicodePropertyName fuel) := by
  have := OK.eatPropertyCharsLoop _ "validator.rs:1373 to_char().unwrap()" (fun _ => propertyName_isChar) fuel
  unfold DL.Rx.eatUnicodePropertyName; rx_auto

@[rx_ok] theorem OK.eatUnicodePropertyValue (fuel : Nat) : OK (eatUnicodePropertyValue fuel) := by
  have := OK.eatPropertyCharsLoop _ "validator.rs:1392 to_char().unwrap()" (fun _ => propertyValue_isChar) fuel
  unfold DL.Rx.eatUnicodePropertyValue; rx_auto

@[rx_ok] theorem OK.eatLoneUnicodePropertyNameOrValue (fuel : Nat) : OK (eatLoneUnicodePropertyNameOrValue fuel) :=
  OK.eatUnicodePropertyValue fuel

@[rx_ok] theorem OK.eatUnicodePropertyValueExpression (fuel : Nat) : OK (eatUnicodePropertyValueExpression fuel) := by
  unfold DL.Rx.eatUnicodePropertyValueExpression; rx_auto

@[rx_ok] theorem OK.eatDecimalEscapeLoop : ∀ n, OK (eatDecimalEscapeLoop n)
  | 0 => Keeps.outOfFuel
  | n + 1 => by
    have ih := OK.eatDecimalEscapeLoop n
    unfold DL.Rx.eatDecimalEscapeLoop; rx_auto; all_goals rx_side

/-- `10 * last_int_value + d` comes right after `last_int_value = 0` -/
@[rx_ok] theorem OK.eatDecimalEscape (fuel : Nat) : OK (eatDecimalEscape fuel) := by
  unfold DL.Rx.eatDecimalEscape
  refine Safe.bind (R := fun _ s => Inv s ∧ s.lastIntValue = 0) (Safe.modSt fun s hs => ⟨hs, rfl⟩) fun _ => ?_
  refine Safe.bind (Safe.codePointWithOffset 0) fun o => ?_
  cases o with
  | none => exact Safe.pure fun _ h => h.1
  | some cp =>
    dsimp only
    refine Safe.ite (fun hc => ?_) (fun _ => Safe.pure fun _ h => h.1)
    have hdig : isAsciiDigit cp = true := (Bool.and_eq_true _ _ |>.mp hc).1
    obtain ⟨d, hd, hd10⟩ := toDigit_of_asciiDigit hdig
    rw [hd, unwrap_some_bind]
    refine Safe.bind_getSt fun s0 hs0 => ?_
    have hr : i64Min ≤ 10 * s0.lastIntValue + (d : Int) ∧ 10 * s0.lastIntValue + (d : Int) ≤ i64Max := by
      unfold i64Min i64Max; rw [hs0.2]; omega
    rw [checkedI64_inrange hr, pure_bind']
    refine Safe.pre (P := Inv) ?_ (fun s hs => hs ▸ hs0.1)
    rx_auto

@[rx_ok] theorem OK.isValidIdentityEscape (cp : Nat) : OK (isValidIdentityEscape cp) := by
  unfold DL.Rx.isValidIdentityEscape; rx_auto

@[rx_ok] theorem OK.eatIdentityEscape : OK eatIdentityEscape := by
  unfold DL.Rx.eatIdentityEscape; rx_auto

@[rx_ok] theorem OK.eatRegexpUnicodeCodepointEscape (fuel : Nat) : OK (eatRegexpUnicodeCodepointEscape fuel) := by
  unfold DL.Rx.eatRegexpUnicodeCodepointEscape; rx_auto

@[rx_ok] theorem OK.eatRegexpUnicodeSurrogatePairEscape : OK eatRegexpUnicodeSurrogatePairEscape := by
  unfold DL.Rx.eatRegexpUnicodeSurrogatePairEscape; rx_auto

@[rx_ok] theorem OK.eatRegexpUnicodeEscapeSequence (fuel : Nat) (f : Bool) : OK (eatRegexpUnicodeEscapeSequence fuel f) := by
  unfold DL.Rx.eatRegexpUnicodeEscapeSequence; rx_auto

@[rx_ok] theorem OK.eatControlLetter : OK eatControlLetter := by
  unfold DL.Rx.eatControlLetter; rx_auto

@[rx_ok] theorem OK.eatControlEscape : OK eatControlEscape := by
  unfold DL.Rx.eatControlEscape; rx_auto

@[rx_ok] theorem OK.eatZero : OK eatZero := by
  unfold DL.Rx.eatZero; rx_auto

@[rx_ok] theorem OK.eatCControlLetter : OK eatCControlLetter := by
  unfold DL.Rx.eatCControlLetter; rx_auto

end DL.Rx
