import DL.Lemmas.Scope2

/-! Lemmas about M-SCOPE2: the renaming invariant.  Well-formedness is used in exactly one place (`vars_ren`): a `var`
that sits in nested blocks is renamed together with the frame of its function because no scope in between declares the
same name. -/
namespace DL.Scope2

theorem renL_nil (x y : Nat) (a : Bool) : renL x y a [] = [] := by cases a <;> rfl
theorem renL_append (x y : Nat) (a : Bool) (l m : List Nat) : renL x y a (l ++ m) = renL x y a l ++ renL x y a m := by
  cases a <;> simp [renL]
theorem renL_singleton (x y : Nat) (a : Bool) (z : Nat) : renL x y a [z] = [renN x y a z] := by cases a <;> rfl
theorem renL_cons (x y : Nat) (a : Bool) (z : Nat) (l : List Nat) :
    renL x y a (z :: l) = renN x y a z :: renL x y a l := by cases a <;> rfl
theorem toList_renO (x y : Nat) (a : Bool) (o : Option Nat) : (renO x y a o).toList = renL x y a o.toList := by
  cases a <;> cases o <;> rfl
theorem renL_of_not_mem {x y : Nat} {l : List Nat} (a : Bool) (h : x ∉ l) : renL x y a l = l := by
  cases a
  · rfl
  · exact Binding.map_sw_of_not_mem h

theorem disj_iff (a b : List Nat) : disj a b = true ↔ ∀ x ∈ a, x ∉ b := by simp [disj]
theorem disj_cons (z : Nat) (l v : List Nat) : disj (z :: l) v = (disj [z] v && disj l v) := by simp [disj]

/-- a scope whose frame is disjoint from the names `vs` renames them like its surroundings -/
theorem renL_act (t : Sid) (x y : Nat) (a : Bool) (id : Sid) (fr vs : List Nat) (h : disj fr vs = true) :
    renL x y (act' t x a id fr) vs = renL x y a vs := by
  by_cases hx : x ∈ vs
  · have : x ∉ fr := fun hh => (disj_iff fr vs).mp h x hh hx
    simp [act', this]
  · rw [renL_of_not_mem _ hx, renL_of_not_mem _ hx]

abbrev Rel (t : Sid) (x y : Nat) (active : Bool) (env env' : Env) : Prop :=
  Binding.Rel t x y active (lookup env) (lookup env')

theorem Rel.step {t : Sid} {x y : Nat} {active : Bool} {env env' : Env} (h : Rel t x y active env env') (id : Sid)
    (fr : List Nat) (hy : y ∉ fr) :
    Rel t x y (act' t x active id fr) ((id, fr) :: env) ((id, renL x y (act' t x active id fr) fr) :: env') :=
  Binding.Rel.step h id hy

/-- one occurrence: its spelling is switched exactly when its binding is the renamed one -/
theorem entry_ok {t : Sid} {x y : Nat} {active : Bool} {env env' : Env} (h : Rel t x y active env env') (k : Occ)
    (z : Nat) (hz : z ≠ y) :
    (⟨k, renN x y active z, lookup env' (renN x y active z)⟩ : Entry) = swE t x y ⟨k, z, lookup env z⟩ := by
  have h1 : lookup env' (renN x y active z) = lookup env z := h.1 z hz
  have h2 : renN x y active z = if z = x ∧ lookup env z = some t then y else z := h.renN_eq z
  rw [h1, h2]
  unfold swE
  split <;> rfl

theorem declsIn_ren {t : Sid} {x y : Nat} {a : Bool} {env env' : Env} (h : Rel t x y a env env') (l : List Nat)
    (hl : ∀ p ∈ l, p ≠ y) : declsIn env' (renL x y a l) = (declsIn env l).map (swE t x y) := by
  induction l with
  | nil => rw [renL_nil]; rfl
  | cons p r ih =>
    rw [renL_cons]
    have := ih (fun q hq => hl q (List.mem_cons_of_mem _ hq))
    simp only [declsIn, List.map_cons] at this ⊢
    rw [this, entry_ok h .decl p (hl p List.mem_cons_self)]

theorem lets_ren (t : Sid) (x y : Nat) (a : Bool) : (b : Items) → (b.ren t x y a).lets = renL x y a b.lets
  | .nil => by cases a <;> rfl
  | .cons i r => by
    have ih := lets_ren t x y a r
    cases i <;> simp only [Items.ren, Item.ren, Items.lets, ih, renL_cons]

mutual
theorem Item.vars_ren (t : Sid) (x y : Nat) (a : Bool) (i : Item) (hwf : i.wf = true) :
    (i.ren t x y a).vars = renL x y a i.vars := by
  cases i with
  | ref z => simp only [Item.ren, Item.vars, renL_nil]
  | key z => simp only [Item.ren, Item.vars, renL_nil]
  | letDecl z => simp only [Item.ren, Item.vars, renL_nil]
  | varDecl z => simp only [Item.ren, Item.vars, renL_singleton]
  | func id nm ps b => simp only [Item.ren, Item.vars, renL_nil]
  | block id b =>
    simp only [Item.wf, Bool.and_eq_true] at hwf
    simp only [Item.ren, Item.vars]
    rw [Items.vars_ren t x y _ b hwf.2, renL_act _ _ _ _ _ _ _ hwf.1.2]
  | catchC id p b =>
    simp only [Item.wf, Bool.and_eq_true] at hwf
    simp only [Item.ren, Item.vars]
    rw [Items.vars_ren t x y _ b hwf.2, renL_act _ _ _ _ _ _ _ hwf.1.2]
  | forLet id z b =>
    simp only [Item.wf, Bool.and_eq_true] at hwf
    rw [disj_cons, Bool.and_eq_true] at hwf
    simp only [Item.ren, Item.vars]
    rw [Items.vars_ren t x y _ b hwf.2, renL_act _ _ _ _ _ _ _ hwf.1.2.2, renL_act _ _ _ _ _ _ _ hwf.1.2.1]
theorem Items.vars_ren (t : Sid) (x y : Nat) (a : Bool) (is : Items) (hwf : is.wf = true) :
    (is.ren t x y a).vars = renL x y a is.vars := by
  cases is with
  | nil => simp only [Items.ren, Items.vars, renL_nil]
  | cons i r =>
    simp only [Items.wf, Bool.and_eq_true] at hwf
    simp only [Items.ren, Items.vars, renL_append]
    rw [Item.vars_ren t x y a i hwf.1, Items.vars_ren t x y a r hwf.2]
end

theorem funcFrame_ren (t : Sid) (x y : Nat) (a : Bool) (ps : List Nat) (b : Items) (hwf : b.wf = true) :
    funcFrame (renL x y a ps) (b.ren t x y a) = renL x y a (funcFrame ps b) := by
  simp only [funcFrame, lets_ren, Items.vars_ren t x y a b hwf, renL_append]

theorem catchFrame_ren (t : Sid) (x y : Nat) (a : Bool) (p : Option Nat) (b : Items) :
    catchFrame (renO x y a p) (b.ren t x y a) = renL x y a (catchFrame p b) := by
  simp only [catchFrame, lets_ren, toList_renO, renL_append]

theorem lets_sub_names : (b : Items) → ∀ z ∈ b.lets, z ∈ b.names
  | .nil => nofun
  | .cons i r => by
    intro z hz
    rw [Items.names, List.mem_append]
    cases i with
    | letDecl x =>
      rcases List.mem_cons.mp hz with rfl | hz
      · exact Or.inl (List.mem_singleton_self _)
      · exact Or.inr (lets_sub_names r z hz)
    | _ => exact Or.inr (lets_sub_names r z hz)

mutual
theorem Item.vars_sub_names (i : Item) : ∀ z ∈ i.vars, z ∈ i.names := by
  cases i with
  | varDecl z => exact fun _ h => h
  | block id b => exact Items.vars_sub_names b
  | catchC id p b => exact fun w hw => List.mem_append_right _ (Items.vars_sub_names b w hw)
  | forLet id z b => exact fun w hw => List.mem_cons_of_mem _ (Items.vars_sub_names b w hw)
  | _ => nofun
theorem Items.vars_sub_names (is : Items) : ∀ z ∈ is.vars, z ∈ is.names := by
  cases is with
  | nil => nofun
  | cons i r =>
    simp only [Items.vars, List.forall_mem_append]
    exact ⟨fun w hw => List.mem_append_left _ (Item.vars_sub_names i w hw),
      fun w hw => List.mem_append_right _ (Items.vars_sub_names r w hw)⟩
end

theorem funcFrame_fresh {y : Nat} {ps : List Nat} {b : Items} (hp : y ∉ ps) (hb : y ∉ b.names) :
    y ∉ funcFrame ps b := by
  intro hh
  simp only [funcFrame, List.mem_append] at hh
  rcases hh with (hh | hh) | hh
  · exact hp hh
  · exact hb (lets_sub_names b y hh)
  · exact hb (Items.vars_sub_names b y hh)

mutual
theorem Item.res_ren (t : Sid) (x y : Nat) (i : Item) (active : Bool) (env env' : Env)
    (h : Rel t x y active env env') (hwf : i.wf = true) (hy : y ∉ i.names) :
    (i.ren t x y active).res env' = (i.res env).map (swE t x y) := by
  cases i with
  | ref z =>
    simp only [Item.ren, Item.res, List.map_cons, List.map_nil]
    rw [entry_ok h .ref z (fun hh => hy (hh ▸ List.mem_singleton_self _))]
  | key z => rfl
  | letDecl z =>
    simp only [Item.ren, Item.res, List.map_cons, List.map_nil]
    rw [entry_ok h .decl z (fun hh => hy (hh ▸ List.mem_singleton_self _))]
  | varDecl z =>
    simp only [Item.ren, Item.res, List.map_cons, List.map_nil]
    rw [entry_ok h .decl z (fun hh => hy (hh ▸ List.mem_singleton_self _))]
  | block id b =>
    simp only [Item.names] at hy
    simp only [Item.wf, Bool.and_eq_true] at hwf
    have hyl : y ∉ b.lets := fun hh => hy (lets_sub_names b y hh)
    have hs := h.step (.scope id) b.lets hyl
    simp only [Item.ren, Item.res, lets_ren]
    exact Items.res_ren t x y b _ _ _ hs hwf.2 hy
  | func id nm ps b =>
    simp only [Item.names, List.mem_append, not_or] at hy
    simp only [Item.wf, Bool.and_eq_true] at hwf
    have h1 := h.step (.head id) nm.toList hy.1
    have h2 := h1.step (.scope id) (funcFrame ps b) (funcFrame_fresh hy.2.1 hy.2.2)
    simp only [Item.ren, Item.res, List.map_append, toList_renO, funcFrame_ren t x y _ ps b hwf.2]
    rw [declsIn_ren h1 _ (fun p hp hh => hy.1 (hh ▸ hp)), declsIn_ren h2 _ (fun p hp hh => hy.2.1 (hh ▸ hp)),
      Items.res_ren t x y b _ _ _ h2 hwf.2 hy.2.2]
  | catchC id p b =>
    simp only [Item.names, List.mem_append, not_or] at hy
    simp only [Item.wf, Bool.and_eq_true] at hwf
    have h1 := h.step (.scope id) (catchFrame p b)
      (fun hh => (List.mem_append.mp hh).elim hy.1 (hy.2 ∘ lets_sub_names b y))
    simp only [Item.ren, Item.res, List.map_append, toList_renO, catchFrame_ren]
    rw [declsIn_ren h1 _ (fun q hq hh => hy.1 (hh ▸ hq)), Items.res_ren t x y b _ _ _ h1 hwf.2 hy.2]
  | forLet id z b =>
    simp only [Item.names, List.mem_cons, not_or] at hy
    simp only [Item.wf, Bool.and_eq_true] at hwf
    have hz : y ∉ [z] := by simpa using hy.1
    have h1 := h.step (.head id) [z] hz
    have h2 := h1.step (.scope id) b.lets (fun hh => hy.2 (lets_sub_names b y hh))
    simp only [Item.ren, Item.res, List.map_append, lets_ren, ← renL_singleton]
    rw [declsIn_ren h1 _ (fun q hq hh => hz (hh ▸ hq)), Items.res_ren t x y b _ _ _ h2 hwf.2 hy.2]
theorem Items.res_ren (t : Sid) (x y : Nat) (is : Items) (active : Bool) (env env' : Env)
    (h : Rel t x y active env env') (hwf : is.wf = true) (hy : y ∉ is.names) :
    (is.ren t x y active).res env' = (is.res env).map (swE t x y) := by
  cases is with
  | nil => rfl
  | cons i r =>
    simp only [Items.names, List.mem_append, not_or] at hy
    simp only [Items.wf, Bool.and_eq_true] at hwf
    simp only [Items.ren, Items.res, List.map_append]
    rw [Item.res_ren t x y i active env env' h hwf.1 hy.1, Items.res_ren t x y r active env env' h hwf.2 hy.2]
end

theorem declsIn_names (env : Env) (l : List Nat) : ∀ e ∈ declsIn env l, e.name ∈ l :=
  List.forall_mem_map.mpr fun _ hp => hp

mutual
theorem Item.res_names (i : Item) (env : Env) : ∀ e ∈ i.res env, e.name ∈ i.names := by
  cases i with
  | ref z => simp [Item.res, Item.names]
  | key z => simp [Item.res]
  | letDecl z => simp [Item.res, Item.names]
  | varDecl z => simp [Item.res, Item.names]
  | block id b => exact Items.res_names b _
  | func id nm ps b =>
    simp only [Item.res, List.forall_mem_append]
    exact ⟨fun e he => List.mem_append_left _ (declsIn_names _ _ e he),
      fun e he => List.mem_append_right _ (List.mem_append_left _ (declsIn_names _ _ e he)),
      fun e he => List.mem_append_right _ (List.mem_append_right _ (Items.res_names b _ e he))⟩
  | catchC id p b =>
    simp only [Item.res, List.forall_mem_append]
    exact ⟨fun e he => List.mem_append_left _ (declsIn_names _ _ e he),
      fun e he => List.mem_append_right _ (Items.res_names b _ e he)⟩
  | forLet id z b =>
    simp only [Item.res, List.forall_mem_append]
    exact ⟨fun e he => List.mem_append_left b.names (declsIn_names _ _ e he),
      fun e he => List.mem_cons_of_mem _ (Items.res_names b _ e he)⟩
theorem Items.res_names (is : Items) (env : Env) : ∀ e ∈ is.res env, e.name ∈ is.names := by
  cases is with
  | nil => simp [Items.res]
  | cons i r =>
    simp only [Items.res, List.forall_mem_append]
    exact ⟨fun e he => List.mem_append_left _ (Item.res_names i env e he),
      fun e he => List.mem_append_right _ (Items.res_names r env e he)⟩
end

end DL.Scope2
