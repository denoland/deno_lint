import DL.Lemmas.RxSpecChar
import DL.Lemmas.RxBlocks

/-! # Soundness w.r.t. the grammar: `\p{…}`, `CharacterClassEscape` -/
namespace DL.Rx
open DL.RxSpec
attribute [local irreducible] isScalar
variable {src : List Nat} {N : Nat}

theorem toChar_small {x : Nat} (h : x < 0xD800) : toChar x = some x := by
  unfold toChar; rw [if_pos (.inl h)]

theorem nameChar_iff (x : Nat) : isUnicodePropertyNameCharacter x = true ↔ UnicodePropertyNameCharacter x := by
  unfold isUnicodePropertyNameCharacter UnicodePropertyNameCharacter
  rw [Bool.or_eq_true]
  constructor
  · rintro (h | h)
    · exact .inl (controlLetter_of_isAsciiAlphabetic h)
    · exact .inr (by simpa using h)
  · rintro (h | h)
    · exact .inl (isAsciiAlphabetic_of_controlLetter h)
    · exact .inr (by simpa using h)

theorem valueChar_iff (x : Nat) : isUnicodePropertyValueCharacter x = true ↔ UnicodePropertyValueCharacter x := by
  unfold isUnicodePropertyValueCharacter UnicodePropertyValueCharacter
  rw [Bool.or_eq_true, nameChar_iff]
  constructor
  · rintro (h | h)
    · exact .inl h
    · exact .inr (decimalDigit_of_isAsciiDigit h)
  · rintro (h | h)
    · exact .inl h
    · exact .inr (isAsciiDigit_of_decimalDigit h)

theorem valueChar_lt {x : Nat} (h : UnicodePropertyValueCharacter x) : x < 0xD800 := by
  rcases h with (h | h) | h
  · have h' : (0x61 ≤ x ∧ x ≤ 0x7a) ∨ (0x41 ≤ x ∧ x ≤ 0x5a) := h
    omega
  · have : x = 0x5f := h
    omega
  · have h' : 0x30 ≤ x ∧ x ≤ 0x39 := h
    omega

/-- a run of property characters: the reader moves over the maximal run `ds`, which is appended to `last_str_value`;
stated as what the loop leaves alone, so that the state it reaches stays a variable for the callers -/
theorem eatPropertyCharsLoop_wp {p : Nat → Bool} {P : Nat → Prop} (site : String) (hP : ∀ x, p x = true ↔ P x)
    (hp : ∀ x, P x → toChar x = some x) : ∀ (n : Nat) (r : List Nat) (s : St), UAt src N r s →
    Wp (eatPropertyCharsLoop p site n s) (fun _ s1 => ∃ ds r1, r = ds ++ r1 ∧ (∀ d ∈ ds, P d) ∧
      (∀ d, r1.head? = some d → ¬P d) ∧ UAt src N r1 s1 ∧ KeepN s s1 ∧ s1.lastIntValue = s.lastIntValue ∧
      s1.lastKeyValue = s.lastKeyValue ∧ s1.lastStrValue = s.lastStrValue ++ ds)
  | 0, _, _, _ => Wp.outOfFuel
  | n + 1, r, s, h => by
    have ih := eatPropertyCharsLoop_wp site hP hp n
    unfold eatPropertyCharsLoop
    rx4_auto
    · rename_i x r' hn d hd hat a s1 ds r1 hr hds hnx hat1 hk hint hkey hstr
      have hx : P x := (hP x).mp (by simpa using hn)
      rw [hp x hx] at hd
      cases hd
      refine ⟨x :: ds, r1, by rw [hr]; rfl, ?_, hnx, hat1, ⟨hk.gn, hk.bn⟩, hint, hkey,
        hstr.trans (List.append_assoc ..)⟩
      intro d hd
      rcases List.mem_cons.mp hd with rfl | hd
      · exact hx
      · exact hds d hd
    · rename_i x r' hc
      refine ⟨[], x :: r', rfl, fun _ hd => (List.not_mem_nil hd).elim, ?_, h, .refl s, rfl, rfl,
        (List.append_nil _).symm⟩
      intro d hd hd'
      cases hd
      rw [(hP x).mpr hd'] at hc
      cases hc
    · exact ⟨[], [], rfl, fun _ hd => (List.not_mem_nil hd).elim, (fun _ hd => by cases hd), h, .refl s, rfl, rfl,
        (List.append_nil _).symm⟩

/-- `eat_unicode_property_name` and `eat_unicode_property_value` are one loop for two classes of characters -/
theorem eatPropertyRun_wp {p : Nat → Bool} {P : Nat → Prop} (site : String) (hP : ∀ x, p x = true ↔ P x)
    (hp : ∀ x, P x → toChar x = some x) (n : Nat) (r : List Nat) (s : St) (h : UAt src N r s) :
    Wp ((do setStr []; eatPropertyCharsLoop p site n; return !(← getSt).lastStrValue.isEmpty : M Bool) s)
      (fun b s1 => ∃ ds r1, r = ds ++ r1 ∧ (∀ d ∈ ds, P d) ∧ (∀ d, r1.head? = some d → ¬P d) ∧ UAt src N r1 s1 ∧
        KeepN s s1 ∧ s1.lastIntValue = s.lastIntValue ∧ s1.lastKeyValue = s.lastKeyValue ∧ s1.lastStrValue = ds ∧
        (b = true ↔ ds ≠ [])) := by
  have hloop := @eatPropertyCharsLoop_wp src N p P site hP hp n
  rx4_auto
  rename_i s1 ds r1 hr hds hnx hat1 hk hint hkey hstr
  have hstr : s1.lastStrValue = ds := hstr
  refine ⟨ds, r1, hr, hds, hnx, hat1, ⟨hk.gn, hk.bn⟩, hint, hkey, hstr, ?_⟩
  rw [hstr]
  cases ds <;> simp

theorem eatUnicodePropertyName_wp (n : Nat) (r : List Nat) (s : St) (h : UAt src N r s) :
    Wp (eatUnicodePropertyName n s) (fun b s1 => ∃ ds r1, r = ds ++ r1 ∧ (∀ d ∈ ds, UnicodePropertyNameCharacter d) ∧
      (∀ d, r1.head? = some d → ¬UnicodePropertyNameCharacter d) ∧ UAt src N r1 s1 ∧ KeepN s s1 ∧
      s1.lastIntValue = s.lastIntValue ∧ s1.lastKeyValue = s.lastKeyValue ∧ s1.lastStrValue = ds ∧
      (b = true ↔ ds ≠ [])) :=
  eatPropertyRun_wp _ nameChar_iff (fun _ hx => toChar_small (valueChar_lt (.inl hx))) n r s h

theorem eatUnicodePropertyValue_wp (n : Nat) (r : List Nat) (s : St) (h : UAt src N r s) :
    Wp (eatUnicodePropertyValue n s) (fun b s1 => ∃ ds r1, r = ds ++ r1 ∧ (∀ d ∈ ds, UnicodePropertyValueCharacter d) ∧
      (∀ d, r1.head? = some d → ¬UnicodePropertyValueCharacter d) ∧ UAt src N r1 s1 ∧ KeepN s s1 ∧
      s1.lastIntValue = s.lastIntValue ∧ s1.lastKeyValue = s.lastKeyValue ∧ s1.lastStrValue = ds ∧
      (b = true ↔ ds ≠ [])) :=
  eatPropertyRun_wp _ valueChar_iff (fun _ hx => toChar_small (valueChar_lt hx)) n r s h

/-- `Name=Value`; on `none` the reader is somewhere (the caller rewinds) -/
theorem propNameValue_wp (n : Nat) (r : List Nat) (s : St) (h : UAt src N r s) :
    Wp (propNameValue n s) (fun o s1 => KeepN s s1 ∧ s1.lastIntValue = s.lastIntValue ∧
      match o with
      | some b => b = true ∧ ∃ r1, UAt src N r1 s1 ∧ UnicodePropertyValueExpression r r1
      | none => ∃ r', UAt src N r' s1) := by
  unfold propNameValue
  rx4_auto
  all_goals (try exact ⟨by rx4_keep, by assumption, _, by rx4_at⟩)
  · rename_i hint1 _ _ _ _ _ _ _ _ _ _ _ _ _ _ _ _ hint2 _ _ _
    exact ⟨by rx4_keep, hint2.trans hint1, _, by rx4_at⟩
  · rename_i nm hnm _ hint1 _ hstr1 hnne m _ hr _ _ s2 vl r1 hm hvl hvx _ _ hint2 hkey2 hstr2 hvne hvalid
    refine ⟨by rx4_keep, hint2.trans hint1, rfl, r1, by rx4_at, UnicodePropertyValueExpression.nameValue r _ r1 nm vl
      ⟨hr, hnne.mp trivial, hnm⟩ ⟨hm, hvne.mp trivial, hvl⟩ hvx ?_⟩
    rw [← hkey2.trans hstr1, ← hstr2]
    exact hvalid

theorem propLone_wp (n : Nat) (r : List Nat) (s : St) (h : UAt src N r s) :
    Wp (propLone n s) (fun b s1 => KeepN s s1 ∧ s1.lastIntValue = s.lastIntValue ∧
      if b = true then ∃ r1, UAt src N r1 s1 ∧ UnicodePropertyValueExpression r r1 else UAt src N r s1) := by
  unfold propLone eatLoneUnicodePropertyNameOrValue
  rx4_auto
  · -- no character was read: the reader has not moved
    rename_i w1 w hr _ _ hat hk hint _ _ hne
    have hw : w1 = [] := Decidable.byContradiction hne.mpr
    subst hw
    exact ⟨hk, hint, by rw [if_neg (by decide), hr]; exact hat⟩
  · rename_i vl r1 hr hvl hvx _ _ hint _ hstr hne _ hc
    refine ⟨by rx4_keep, hint, ?_⟩
    rw [if_pos rfl]
    exact ⟨r1, by rx4_at, .lone _ _ vl ⟨hr, hne.mp trivial, hvl⟩ hvx (.inr (hstr ▸ hc))⟩
  · rename_i vl r1 hr hvl hvx _ _ hint _ hstr hne hc
    refine ⟨by rx4_keep, hint, ?_⟩
    rw [if_pos rfl]
    exact ⟨r1, by rx4_at, .lone _ _ vl ⟨hr, hne.mp trivial, hvl⟩ hvx (.inl (hstr ▸ hc))⟩

theorem eatUnicodePropertyValueExpression_wp (n : Nat) (r : List Nat) (s : St) (h : UAt src N r s) :
    Wp (eatUnicodePropertyValueExpression n s) (fun b s1 => KeepN s s1 ∧ s1.lastIntValue = s.lastIntValue ∧
      if b = true then ∃ r1, UAt src N r1 s1 ∧ UnicodePropertyValueExpression r r1 else UAt src N r s1) := by
  rw [eatUnicodePropertyValueExpression_eq]
  rx4_auto
  · rename_i s1 hk hint _ b ho
    obtain ⟨rfl, hx⟩ := ho
    exact ⟨hk, hint, by rw [if_pos rfl]; exact hx⟩
  · rename_i s1 hk hint _ ho
    obtain ⟨r', hat⟩ := ho
    rx4_auto
    rename_i b s2 hk2 hint2 hb
    exact ⟨by rx4_keep, hint2.trans hint, hb⟩

theorem propertyBraces_wp (n : Nat) (m : List Nat) (s : St) (h : UAt src N m s) :
    Wp (propertyBraces n s) (fun b s1 => KeepN s s1 ∧ s1.lastIntValue = -1 ∧ b = true ∧
      ∃ m' r1, m = c '{' :: m' ∧ UAt src N r1 s1 ∧ UnicodePropertyValueExpression m' (c '}' :: r1)) := by
  unfold propertyBraces
  rx4_auto
  rename_i m' _ _ _ hint r1 _ _ hD
  exact ⟨by rx4_keep, hint, rfl, m', r1, rfl, by rx4_at, hD⟩

/-- `eat` as an alternative of an ordered choice (cf. `Wp.orM_at`); `P` is what the choice says of the character -/
theorem eat_wp {r : List Nat} {x : Char} {s : St} {P : Nat → Prop} (h : UAt src N r s) (hx : P (ch x)) :
    Wp (eat x s) (fun b s1 => Keep s s1 ∧
      if b = true then ∃ y r1, r = y :: r1 ∧ P y ∧ UAt src N r1 s1 else UAt src N r s1) := by
  by_cases hh : r.head? = some (ch x)
  · cases r with
    | nil => cases hh
    | cons y r' =>
      have : y = ch x := by simpa using hh
      subst this
      rw [h.rat.eat_cons]
      exact ⟨⟨rfl, rfl, rfl⟩, (if_pos rfl).mpr ⟨_, r', rfl, hx, h.step⟩⟩
  · rw [h.rat.eat_ne hh]
    exact ⟨.refl s, (if_neg Bool.false_ne_true).mpr h⟩

theorem consumeCharacterClassEscape_wp (n : Nat) (r : List Nat) (s : St) (h : UAt src N r s) :
    Wp (consumeCharacterClassEscape n s) (fun b s1 => KeepN s s1 ∧
      if b = true then ∃ r1, UAt src N r1 s1 ∧ CharacterClassEscape r r1 ∧ s1.lastIntValue = -1
      else UAt src N r s1) := by
  rw [consumeCharacterClassEscape_eq]
  have hletter : Wp ((eat 'd' <or> eat 'D' <or> eat 's' <or> eat 'S' <or> eat 'w' <or> eat 'W') s)
      (fun b s1 => Keep s s1 ∧ if b = true then
        ∃ y r1, r = y :: r1 ∧ y ∈ [c 'd', c 'D', c 's', c 'S', c 'w', c 'W'] ∧ UAt src N r1 s1
        else UAt src N r s1) :=
    .orM_at (eat_wp h (by decide)) fun _ _ h1 => .orM_at (eat_wp h1 (by decide)) fun _ _ h2 =>
      .orM_at (eat_wp h2 (by decide)) fun _ _ h3 => .orM_at (eat_wp h3 (by decide)) fun _ _ h4 =>
      .orM_at (eat_wp h4 (by decide)) fun _ _ h5 => eat_wp h5 (by decide)
  refine Wp.call hletter fun b s1 ⟨hk, hb⟩ => ?_
  cases b
  · rw [if_neg Bool.false_ne_true] at hb
    rx4_auto
    iterate 2
      rename_i b s2 _ _ _ hint hb m' r1 hm hat hD
      subst hb hm
      exact ⟨by rx4_keep, by rw [if_pos rfl]; exact ⟨r1, hat, .property _ _ _ (by decide) hD, hint⟩⟩
    · rx4_false
  · obtain ⟨y, r1, rfl, hy, hat⟩ := (if_pos rfl).mp hb
    rx4_auto
    rx4_true
    exact ⟨r1, by rx4_at, .simple y r1 hy, rfl⟩

end DL.Rx
