import DL.Lemmas.CFPos

/-! Reference reachability only speaks about positions of the syntax: `reach` and `inner` (reach from the entries of
nested functions) are false outside `positions`.  Each `_false` lemma is proved by evaluating the Boolean with the facts
for the parts; the `_mem` lemmas are their contrapositives.  Pure expressions contain nothing that executes in the
enclosing flow (`flowReach_pure`), and a function-scope position of an expression tree is neither a statement position
nor reached inside it (`fpos_sep`, `Stmt.simple_own_sep`). -/
namespace DL.CF

private theorem mem_of_true {b : Bool} {p : Nat} {l : List Nat} (hf : p ∉ l → b = false) (h : b = true) : p ∈ l :=
  Decidable.by_contra fun hn => Bool.false_ne_true ((hf hn).symm.trans h)

mutual
theorem Stmt.outside (s : Stmt) (p : Nat) (h : p ∉ s.positions) : s.reach p = false ∧ s.inner p = false :=
  match s, h with
  | .simple q t kids, h => by simp_all [Stmt.mem_positions_simple, Stmt.reach, Stmt.inner, Kids.outside kids p]
  | .block q b, h => by simp_all [Stmt.positions, Stmt.reach, Stmt.inner, Stmts.outside b p]
  | .ifS q t c none, h => by
    simp_all [Stmt.positions, Stmt.reach, Stmt.inner, Kids.outside t p, Stmt.outside c p]
  | .ifS q t c (some al), h => by
    simp_all [Stmt.positions, Stmt.reach, Stmt.inner, Kids.outside t p, Stmt.outside c p, Stmt.outside al p]
  | .whileS q t _ b, h | .doWhileS q b t _, h => by
    simp_all [Stmt.positions, Stmt.reach, Stmt.inner, Kids.outside t p, Stmt.outside b p]
  | .forS q i u t _ _ b, h => by
    simp_all [Stmt.positions, Stmt.reach, Stmt.inner, Kids.outside i p, Kids.outside u p, Kids.outside t p, Stmt.outside b p]
  | .forInOf q l r b, h => by
    simp_all [Stmt.positions, Stmt.reach, Stmt.inner, Kids.outside l p, Kids.outside r p, Stmt.outside b p]
  | .switchS q d cs, h => by
    simp_all [Stmt.positions, Stmt.reach, Stmt.inner, Kids.outside d p, Cases.outside cs p]
  | .tryS q _ b _ _ ck _ _ f, h => by
    simp_all [Stmt.positions, Stmt.reach, Stmt.inner, Stmts.outside b p, Kids.outside ck p, Stmts.outside f p]
  | .labeled q _ b, h => by simp_all [Stmt.positions, Stmt.reach, Stmt.inner, Stmt.outside b p]
  | .brk q _, h | .cont q _, h => by simpa [Stmt.reach, Stmt.inner, Stmt.positions] using h
  | .ret q a, h | .throw q a, h => by simp_all [Stmt.positions, Stmt.reach, Stmt.inner, Kids.outside a p]
theorem Stmts.outside (l : Stmts) (p : Nat) (h : p ∉ l.positions) : l.reach p = false ∧ l.inner p = false :=
  match l, h with
  | .nil, _ => ⟨rfl, rfl⟩
  | .cons s r, h => by simp_all [Stmts.positions, Stmts.reach, Stmts.inner, Stmt.outside s p, Stmts.outside r p]
theorem Cases.outside (cs : Cases) (p : Nat) (h : p ∉ cs.positions) : cs.reach p = false ∧ cs.inner p = false :=
  match cs, h with
  | .nil, _ => ⟨rfl, rfl⟩
  | .cons q _ t b r, h => by
    simp_all [Cases.positions, Cases.reach, Cases.inner, Kids.outside t p, Stmts.outside b p, Cases.outside r p]
/-- the three readings of a kid list: evaluated in the flow, as a catch clause, as a function's parameters and body -/
theorem Kids.outside (l : Kids) (p : Nat) (h : p ∉ l.positions) :
    (l.flowReach p = false ∧ l.catchReach p = false ∧ l.entryReach p = false) ∧ l.inner p = false :=
  match l, h with
  | .nil, _ => ⟨⟨rfl, rfl, rfl⟩, rfl⟩
  | .cons (.block q body) r, h => by
    simp_all [Kids.positions, Kid.positions, Kids.flowReach, Kid.flowReach, Kids.catchReach, Kids.entryReach, Kids.inner, Kid.inner,
      Stmts.outside body p, Kids.outside r p]
  | .cons (.expr e ks) r, h => by
    simp_all [Kids.positions, Kid.positions, Kids.flowReach, Kid.flowReach, Kids.catchReach, Kids.entryReach, Kids.inner, Kid.inner,
      Kids.outside ks p, Kids.outside r p]
  | .cons (.fnScope q ks) r, h => by
    simp_all [Kids.positions, Kid.positions, Kids.flowReach, Kid.flowReach, Kids.catchReach, Kids.entryReach, Kids.inner, Kid.inner,
      Kids.outside ks p, Kids.outside r p]
  | .cons (.stmt s) r, h => by
    simp_all [Kids.positions, Kid.positions, Kids.flowReach, Kid.flowReach, Kids.catchReach, Kids.entryReach, Kids.inner, Kid.inner,
      Stmt.outside s p, Kids.outside r p]
end

theorem Stmt.reach_false (s : Stmt) (p : Nat) (h : p ∉ s.positions) : s.reach p = false := (s.outside p h).1
theorem Stmt.inner_false (s : Stmt) (p : Nat) (h : p ∉ s.positions) : s.inner p = false := (s.outside p h).2
theorem Stmts.reach_false (l : Stmts) (p : Nat) (h : p ∉ l.positions) : l.reach p = false := (l.outside p h).1
theorem Stmts.inner_false (l : Stmts) (p : Nat) (h : p ∉ l.positions) : l.inner p = false := (l.outside p h).2
theorem Cases.reach_false (cs : Cases) (p : Nat) (h : p ∉ cs.positions) : cs.reach p = false := (cs.outside p h).1
theorem Cases.inner_false (cs : Cases) (p : Nat) (h : p ∉ cs.positions) : cs.inner p = false := (cs.outside p h).2
theorem Kids.flowReach_false (l : Kids) (p : Nat) (h : p ∉ l.positions) : l.flowReach p = false := (l.outside p h).1.1
theorem Kids.catchReach_false (l : Kids) (p : Nat) (h : p ∉ l.positions) : l.catchReach p = false := (l.outside p h).1.2.1
theorem Kids.entryReach_false (l : Kids) (p : Nat) (h : p ∉ l.positions) : l.entryReach p = false := (l.outside p h).1.2.2
theorem Kids.inner_false (l : Kids) (p : Nat) (h : p ∉ l.positions) : l.inner p = false := (l.outside p h).2

theorem Kid.flowReach_false (k : Kid) (p : Nat) (h : p ∉ k.positions) : k.flowReach p = false := by
  have := (Kids.outside (.cons k .nil) p (by simpa [Kids.positions] using h)).1.1
  simpa [Kids.flowReach] using this
theorem Kid.inner_false (k : Kid) (p : Nat) (h : p ∉ k.positions) : k.inner p = false := by
  have := (Kids.outside (.cons k .nil) p (by simpa [Kids.positions] using h)).2
  simpa [Kids.inner] using this

theorem Stmt.reach_mem : ∀ (s : Stmt) (p : Nat), s.reach p = true → p ∈ s.positions :=
  fun s p => mem_of_true (s.reach_false p)
theorem Kids.flowReach_mem : ∀ (ks : Kids) (p : Nat), ks.flowReach p = true → p ∈ ks.positions :=
  fun ks p => mem_of_true (ks.flowReach_false p)

mutual
theorem Kid.flowReach_pure : ∀ (k : Kid) (p : Nat), k.pure = true → k.flowReach p = false
  | .expr _ ks, p, h => Kids.flowReach_pure ks p h
  | .fnScope _ _, _, _ => rfl
  | .block _ _, _, h => nomatch h
  | .stmt _, _, h => nomatch h
theorem Kids.flowReach_pure : ∀ (ks : Kids) (p : Nat), ks.pure = true → ks.flowReach p = false
  | .nil, _, _ => rfl
  | .cons k r, p, h => by
    simp only [Kids.pure, Bool.and_eq_true] at h
    simp [Kids.flowReach, Kid.flowReach_pure k p h.1, Kids.flowReach_pure r p h.2]
end

theorem Stmt.inner_mem : ∀ (s : Stmt) (p : Nat), s.inner p = true → p ∈ s.positions :=
  fun s p => mem_of_true (s.inner_false p)
theorem Kids.inner_mem : ∀ (ks : Kids) (p : Nat), ks.inner p = true → p ∈ ks.positions :=
  fun ks p => mem_of_true (ks.inner_false p)

mutual
theorem Kid.fpos_sep : ∀ (k : Kid) (q : Nat), q ∈ k.fpos → k.positions.Nodup → q ∉ k.upos ∧ k.inner q = false
  | .expr _ ks, q, h, hn => Kids.fpos_sep ks q h hn
  | .fnScope p ks, q, h, hn => by
    simp only [Kid.fpos, List.mem_singleton] at h; subst h
    have hq := (List.nodup_cons.mp hn).1
    refine ⟨mt (Kids.upos_sub ks q) hq, ?_⟩
    simp [Kid.inner, Kids.entryReach_false ks q hq, Kids.flowReach_false ks q hq, Kids.inner_false ks q hq]
  | .block _ _, q, h, _ => nomatch h
  | .stmt _, q, h, _ => nomatch h
theorem Kids.fpos_sep : ∀ (ks : Kids) (q : Nat), q ∈ ks.fpos → ks.positions.Nodup → q ∉ ks.upos ∧ ks.inner q = false
  | .nil, q, h, _ => nomatch h
  | .cons k r, q, h, hn => by
    simp only [Kids.fpos, List.mem_append] at h
    simp only [Kids.positions, List.nodup_append] at hn
    simp only [Kids.upos, Kids.inner, List.mem_append, not_or, Bool.or_eq_false_iff]
    rcases h with h | h
    · have h1 := Kid.fpos_sep k q h hn.1
      have hq : q ∉ r.positions := fun hr => hn.2.2 q (Kid.fpos_sub k q h) q hr rfl
      exact ⟨⟨h1.1, mt (Kids.upos_sub r q) hq⟩, h1.2, Kids.inner_false r q hq⟩
    · have h1 := Kids.fpos_sep r q h hn.2.1
      have hq : q ∉ k.positions := fun hk => hn.2.2 q hk q (Kids.fpos_sub r q h) rfl
      exact ⟨⟨mt (Kid.upos_sub k q) hq, h1.1⟩, Kid.inner_false k q hq, h1.2⟩
end

theorem Stmt.simple_own_sep (p : Nat) (t : Tag) (kids : Kids) (h : (Stmt.simple p t kids).positions.Nodup) :
    p ∉ kids.upos ∧ kids.inner p = false := by
  rcases Stmt.simple_own p t kids h with h1 | h1
  · exact Kids.fpos_sep kids p h1 (Stmt.nodup_simple p t kids h)
  · exact ⟨mt (Kids.upos_sub kids p) h1, Kids.inner_false kids p h1⟩

end DL.CF
