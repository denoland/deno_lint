import DL.Lemmas.RxSpecAtomEsc

/-! # Soundness w.r.t. the grammar: character classes -/
namespace DL.Rx
open DL.RxSpec DL.Gen.Unicode
attribute [local irreducible] isScalar
variable {src : List Nat} {N : Nat}

/-- `last_int_value` after a class atom: the CharacterValue, or `-1` for a class escape -/
def IntIs (s : St) : Option Nat → Prop
  | some x => s.lastIntValue = (x : Nat)
  | none => s.lastIntValue = -1

theorem consumeClassEscape_wp (n : Nat) (r : List Nat) (s : St) (h : UAt src N r s) :
    Wp (consumeClassEscape n s) (fun b s1 => KeepN s s1 ∧
      if b = true then ∃ r1 v, UAt src N r1 s1 ∧ ClassEscape r r1 v ∧ IntIs s1 v else UAt src N r s1) := by
  unfold consumeClassEscape
  rx4_auto
  all_goals (try rx4_false)
  · rx4_true; exact ⟨_, some 8, by rx4_at, ClassEscape.b _, rfl⟩
  · rx4_true; exact ⟨_, some (c '-'), by rx4_at, ClassEscape.dash _, rfl⟩
  all_goals (try (
    rx4_true
    exact ⟨_, none, ‹UAt src N _ _›, ClassEscape.characterClass _ _ ‹CharacterClassEscape _ _›, ‹_ = -1›⟩))
  all_goals (
    rename_i b s2 hk2 hb
    refine ⟨by rx4_keep, ?_⟩
    cases b
    · rw [if_neg (by decide)] at hb ⊢; exact hb
    · rw [if_pos rfl] at hb ⊢
      obtain ⟨r1, v, hat, hce, hv⟩ := hb
      exact ⟨r1, some v, hat, ClassEscape.character _ r1 v hce, hv⟩)

theorem consumeClassAtom_wp (hsrc : ∀ x ∈ src, x ≤ 0x10FFFF) (n : Nat) (r : List Nat) (s : St) (h : UAt src N r s) :
    Wp (consumeClassAtom n s) (fun b s1 => KeepN s s1 ∧
      if b = true then ∃ r1 v, UAt src N r1 s1 ∧ ClassAtom r r1 v ∧ IntIs s1 v else UAt src N r s1) := by
  unfold consumeClassAtom
  rx4_auto
  all_goals (try rx4_false)
  · rename_i m hn hat0 s1 hk r1 v hat1 hce hv
    rx4_true
    exact ⟨r1, v, hat1, ClassAtom.noDash _ r1 v (ClassAtomNoDash.escape m r1 v hce), hv⟩
  · rename_i x r1 hc hat
    rx4_true
    have hx : x ≠ ch '\\' ∧ x ≠ ch ']' := by simpa using hc
    by_cases hd : x = ch '-'
    · subst hd
      exact ⟨r1, some (c '-'), by rx4_at, ClassAtom.dash r1, rfl⟩
    · exact ⟨r1, some x, by rx4_at, ClassAtom.noDash _ r1 _
        (ClassAtomNoDash.char x r1 (hsrc x (h.mem_src List.mem_cons_self)) hx.1 hx.2 hd), rfl⟩

/-- what the loop of `consume_class_ranges` reads: atoms, ranges, and possibly a trailing `atom -`;
the flag says whether anything was read -/
inductive Items : Bool → Str → Str → Prop
  | nil (r : Str) : Items false r r
  | atom (b : Bool) (r m r1 : Str) (v : Option Nat) : ClassAtom r m v → m.head? ≠ some (c '-') → Items b m r1 →
      Items true r r1
  | range (b : Bool) (r m₁ m₂ r1 : Str) (x y : Option Nat) : ClassAtom r (c '-' :: m₁) x → ClassAtom m₁ m₂ y →
      RangeOk x y → Items b m₂ r1 → Items true r r1
  | trailing (r m : Str) (v : Option Nat) : ClassAtom r (c '-' :: m) v → Items true r m

theorem rangeOk_of {sa sb : St} {x y : Option Nat} (hx : IntIs sa x) (hy : IntIs sb y)
    (h1 : ¬(sa.lastIntValue == -1 || sb.lastIntValue == -1) = true) (h2 : ¬sa.lastIntValue > sb.lastIntValue) :
    RangeOk x y := by
  simp only [Bool.or_eq_true, beq_iff_eq, not_or] at h1
  cases x with
  | none => exact (h1.1 hx).elim
  | some a =>
    cases y with
    | none => exact (h1.2 hy).elim
    | some b =>
      have ha : sa.lastIntValue = (a : Nat) := hx
      have hb : sb.lastIntValue = (b : Nat) := hy
      rw [ha, hb] at h2
      exact ⟨a, b, rfl, rfl, by omega⟩

theorem consumeClassRanges_wp (hsrc : ∀ x ∈ src, x ≤ 0x10FFFF) : ∀ (n : Nat) (r : List Nat) (s : St), UAt src N r s →
    Wp (consumeClassRanges n s) (fun _ s1 => KeepN s s1 ∧ ∃ b r1, Items b r r1 ∧ UAt src N r1 s1)
  | 0, _, _, _ => Wp.outOfFuel
  | n + 1, r, s, h => by
    have ih := consumeClassRanges_wp hsrc n
    unfold consumeClassRanges
    rx4_auto
    · -- a range
      rename_i s1 hk1 x hx m1 hat0 hat1 ha s2 hk2 m2 y hat2 hb hy hne hle _ s3 hk3 b r1 hit hat3
      refine ⟨by rx4_keep, true, r1, Items.range b r m1 m2 r1 x y ha hb (rangeOk_of hx hy hne hle) hit, hat3⟩
    · -- `atom -` at the end
      rename_i s1 hk1 x hx m1 hat0 hat1 ha s2 hk2 hat2
      exact ⟨by rx4_keep, true, m1, Items.trailing r m1 x ha, hat2⟩
    · -- an atom not followed by `-`
      rename_i s1 hk1 m x hat1 ha hx hne _ s2 hk2 b r1 hit hat2
      exact ⟨by rx4_keep, true, r1, Items.atom b r m r1 x ha hne hit, hat2⟩
    · -- no atom
      rename_i s1 hk1 hat1
      exact ⟨hk1, false, r, Items.nil r, hat1⟩

theorem classAtom_noDash {r m : Str} {v : Option Nat} (h : ClassAtom r m v) (hne : r.head? ≠ some (c '-')) :
    ClassAtomNoDash r m v := by
  cases h with
  | dash r => exact (hne rfl).elim
  | noDash i r v h => exact h

theorem items_cr {b : Bool} {r r1 : Str} (h : Items b r r1) :
    CR .ClassRanges r r1 ∧ (b = true → r.head? ≠ some (c '-') → CR .NonemptyClassRangesNoDash r r1) := by
  induction h with
  | nil r => exact ⟨CR.empty r, fun h => by cases h⟩
  | atom b r m r1 v ha hne hrest ih =>
    cases b with
    | false =>
      cases hrest
      exact ⟨CR.nonempty _ _ (CR.atom _ _ v ha), fun _ _ => CR.ndAtom _ _ v ha⟩
    | true =>
      have hnd := ih.2 rfl hne
      exact ⟨CR.nonempty _ _ (CR.atomMore _ _ _ v ha hnd),
        fun _ hr => CR.ndAtomMore _ _ _ v (classAtom_noDash ha hr) hnd⟩
  | range b r m₁ m₂ r1 x y ha hb hok hrest ih =>
    exact ⟨CR.nonempty _ _ (CR.range _ _ _ _ x y ha hb hok ih.1),
      fun _ hr => CR.ndRange _ _ _ _ x y (classAtom_noDash ha hr) hb hok ih.1⟩
  | trailing r m v ha =>
    exact ⟨CR.nonempty _ _ (CR.atomMore _ _ _ v ha (CR.ndAtom _ _ _ (ClassAtom.dash m))),
      fun _ hr => CR.ndAtomMore _ _ _ v (classAtom_noDash ha hr) (CR.ndAtom _ _ _ (ClassAtom.dash m))⟩

theorem consumeCharacterClass_wp (hsrc : ∀ x ∈ src, x ≤ 0x10FFFF) (n : Nat) (r : List Nat) (s : St)
    (h : UAt src N r s) :
    Wp (consumeCharacterClass n s) (fun b s1 => KeepN s s1 ∧
      if b = true then ∃ r1, UAt src N r1 s1 ∧ CharacterClass r r1 else UAt src N r s1) := by
  unfold consumeCharacterClass
  rx4_auto
  all_goals (try rx4_false)
  · rename_i m hat0 hat1 _ s1 hk b r1 hat2 hit hat3
    rx4_true
    exact ⟨r1, by rx4_at, CharacterClass.neg m r1 (items_cr hit).1⟩
  · rename_i m hat0 hne _ s1 hk b r1 hat2 hit hat3
    rx4_true
    exact ⟨r1, by rx4_at, CharacterClass.pos m r1 hne (items_cr hit).1⟩

end DL.Rx
