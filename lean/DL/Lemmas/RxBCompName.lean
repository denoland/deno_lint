import DL.Lemmas.RxBCompChar
import DL.Lemmas.RxCompName2

/-! # Annex B (no `u` flag), completeness: group names — the identifier characters, then `RegExpIdentifierName` and
`GroupName` -/
namespace DL.Rx
open DL.RxSpec DL.Gen.Unicode

attribute [local irreducible] isScalar
variable {src : List Nat} {K : Bool × Nat}

theorem isRegexpIdentifierStart_wd (cp : Nat) (s : St) (hp : IdentifierStartChar cp) :
    Wc (isRegexpIdentifierStart cp s) (fun b s1 => b = true ∧ s1 = s) := isRegexpIdentifierStart_wc cp s hp

theorem isRegexpIdentifierPart_wd (cp : Nat) (s : St) (hp : IdentifierPartChar cp) :
    Wc (isRegexpIdentifierPart cp s) (fun b s1 => b = true ∧ s1 = s) := isRegexpIdentifierPart_wc cp s hp

theorem isRegexpIdentifierPart_wdn (cp : Nat) (s : St) (hp : ¬IdentifierPartChar cp) :
    Wc (isRegexpIdentifierPart cp s) (fun b s1 => b = false ∧ s1 = s) := isRegexpIdentifierPart_wcn cp s hp

/-- `\uXXXX` read in Unicode mode, where the four digits do not begin the text of a surrogate pair -/
theorem names_rues_hex4 (n : Nat) (m r1 : List Nat) (v : Nat) (s : St) (h : BAt src K (ch 'u' :: m) s)
    (h4 : Hex4Digits m r1 v) (hnp : ¬∃ r1 l t, PairText m r1 l t) :
    Wc (eatRegexpUnicodeEscapeSequence n true s) (fun b s1 => b = true ∧ BAt src K r1 s1 ∧
      s1.lastIntValue = (v : Nat) ∧ Keep s s1) := by
  obtain ⟨a, b, c', d, e1, ha, hb, hc, hd, v1⟩ := h4
  subst e1 v1
  have hfx := fun s h => eatFixedHexDigits_wd (src := src) (K := K) 4 (by decide) [a, b, c', d] r1 s h rfl
    (by intro x hx; simp at hx; rcases hx with rfl | rfl | rfl | rfl <;> assumption)
  unfold eatRegexpUnicodeEscapeSequence
  rx7_auto
  all_goals rx7_close

/-- the Unicode-mode escapes inside a group name (`force_u_flag`) -/
theorem names_rues (n : Nat) (r r1 : List Nat) (v : Nat) (s : St) (h : BAt src K r s)
    (hD : RegExpUnicodeEscapeSequence r r1 v) :
    Wc (eatRegexpUnicodeEscapeSequence n true s) (fun b s1 => b = true ∧ BAt src K r1 s1 ∧
      s1.lastIntValue = (v : Nat) ∧ Keep s s1) := by
  cases hD with
  | surrogatePair m₁ m₂ _ lead trail h1 hl h2 ht =>
    have hp := pairText_of_hex4 h1 hl h2 ht
    unfold eatRegexpUnicodeEscapeSequence
    rx7_auto
    all_goals rx7_close
  | lead m _ _ h4 hl hno =>
    refine names_rues_hex4 n m r1 v s h h4 ?_
    rintro ⟨r1', l, t, hp⟩
    obtain ⟨_, m', e, h4', ht⟩ := hex4_of_pairText hp h4
    exact hno ⟨m', r1', t, e, h4', ht⟩
  | nonLead m _ _ h4 hnl =>
    refine names_rues_hex4 n m r1 v s h h4 ?_
    rintro ⟨r1', l, t, hp⟩
    obtain ⟨e, _⟩ := hex4_of_pairText hp h4
    obtain ⟨_, _, _, _, _, _, _, _, _, hL, _⟩ := hp
    exact hnl (e ▸ hL)
  | codePoint m _ ds hrun hle =>
    obtain ⟨e, hne, hds⟩ := hrun
    subst e
    have hnp : ¬∃ r1' l t, PairText (c '{' :: (ds ++ c '}' :: r1)) r1' l t := no_pair_of_head not_hexDigit_lbrace
    have hnf : ¬∃ ds' r1', c '{' :: (ds ++ c '}' :: r1) = ds' ++ r1' ∧ ds'.length = 4 ∧ ∀ d ∈ ds', HexDigit d :=
      no_fixed_of_head (by decide) not_hexDigit_lbrace
    unfold eatRegexpUnicodeEscapeSequence
    rx7_auto
    all_goals rx7_close

theorem notLead_of_partChar {x : Nat} (h : IdentifierPartChar x) : isLeadSurrogate (x : Int) = false := by
  have h1 := (identifierPartChar_char h).1
  unfold toChar at h1
  by_cases hc : x < 0xD800 ∨ (0xE000 ≤ x ∧ x < 0x110000)
  · unfold isLeadSurrogate
    simp only [Bool.and_eq_false_iff, decide_eq_false_iff_not]
    omega
  · rw [if_neg hc] at h1; cases h1

theorem partChar_ne_backslash {x : Nat} (h : IdentifierPartChar x) : (x == ch '\\') = false := by
  have : x ≠ ch '\\' := fun e => not_identifierPartChar_backslash (e ▸ h)
  simpa using this

theorem lead_ne_backslash {l : Nat} (h : isLead l) : (l == ch '\\') = false := by
  unfold isLead at h
  have : l ≠ ch '\\' := by intro e; rw [e] at h; revert h; decide
  simpa using this

/-- a plain character: neither the beginning of an escape nor of a surrogate pair -/
theorem identStartCp_wdn (n cp0 : Nat) (cp1 : Option Nat) (s : St) (hne : (cp0 == ch '\\') = false)
    (hnl : isLeadSurrogate (cp0 : Int) = false) :
    Wc (identStartCp n true cp0 cp1 s) (fun cp s1 => cp = cp0 ∧ s1 = s) := by
  unfold identStartCp
  rw [hne, hnl]
  exact ⟨rfl, rfl⟩

theorem identPartCp_wdn (n cp0 : Nat) (cp1 : Option Nat) (s : St) (hne : (cp0 == ch '\\') = false)
    (hnl : isLeadSurrogate (cp0 : Int) = false) :
    Wc (identPartCp n true (some cp0) cp1 s) (fun cp s1 => cp = some cp0 ∧ s1 = s) := by
  rw [identPartCp_some]
  exact Wc.call (identStartCp_wdn n cp0 cp1 s hne hnl) fun _ _ ⟨e1, e2⟩ => Wc.pure ⟨congrArg some e1, e2⟩

/-- `hv` is what makes a plain character the block's answer: it begins neither an escape nor a surrogate pair -/
theorem identStartCp_wd (n cp0 : Nat) (cp1 : Option Nat) (r r1 : List Nat) (v : Nat) (s : St) (h : BAt src K r s)
    (hcp : IdentCpB (cp0 :: r) r1 v) (hv : IdentifierPartChar v) (h1 : cp1 = r[0]?) :
    Wc (identStartCp n true cp0 cp1 s) (fun cp s1 => cp = v ∧ BAt src K r1 s1 ∧ Keep s s1) := by
  cases hcp with
  | char =>
    exact (identStartCp_wdn n cp0 cp1 s (partChar_ne_backslash hv) (notLead_of_partChar hv)).mono
      (fun cp s1 ⟨e1, e2⟩ => ⟨e1, e2 ▸ h, e2 ▸ Keep.refl s⟩)
  | escape _ _ _ hu =>
    have hru := fun s h => names_rues (src := src) (K := K) n r r1 v s h hu
    unfold identStartCp
    rx7_autos
    rename_i s1 _ hat hval hk
    rw [hval, i64AsU32_small (rues_le hu)]
    exact ⟨rfl, hat, hk⟩
  | pair _ _ _ hp =>
    obtain ⟨l, t, e, hl, ht, rfl⟩ := hp
    cases e
    obtain rfl : cp1 = some t := h1
    have hne := lead_ne_backslash hl
    have hL := (isLeadSurrogate_iff cp0).mpr hl
    have hT := (isTrailSurrogate_iff t).mpr ht
    unfold identStartCp
    rx7_autos
    exact ⟨(pair_value hL hT).2.2, by assumption, by rx6_keep⟩

theorem identPartCp_wd (n cp0 : Nat) (cp1 : Option Nat) (r r1 : List Nat) (v : Nat) (s : St) (h : BAt src K r s)
    (hcp : IdentCpB (cp0 :: r) r1 v) (hv : IdentifierPartChar v) (h1 : cp1 = r[0]?) :
    Wc (identPartCp n true (some cp0) cp1 s) (fun cp s1 => cp = some v ∧ BAt src K r1 s1 ∧ Keep s s1) := by
  rw [identPartCp_some]
  exact Wc.call (identStartCp_wd n cp0 cp1 r r1 v s h hcp hv h1) fun _ _ ⟨e, hq⟩ => Wc.pure ⟨congrArg some e, hq⟩

theorem identStartHit_wd (n : Nat) (r r1 : List Nat) (x : Nat) (s : St) (h : BAt src K r s)
    (hD : RxSpecB.RegExpIdentifierStart r r1 x) :
    Wc (identStartHit n true s) (fun b s1 => b = true ∧ BAt src K r1 s1 ∧ s1.lastIntValue = (x : Nat) ∧ Keep s s1) := by
  obtain ⟨hcp, hx⟩ := regExpIdentifierStart_iff.mp hD
  obtain ⟨c, r', rfl⟩ := hcp.cons
  unfold identStartHit
  rx7_step
  rx7_step
  rename_i h'
  -- the unit after `c` is looked at by the block only: no case distinction on it here
  refine WcB.bind_cpo h' (by decide) ?_
  refine Wc.call (identStartCp_wd n c _ r' r1 x _ h' hcp (identifierStartChar_part hx) rfl)
    (fun cp s1 ⟨e, hat, hk⟩ => ?_)
  subst e
  rx7_autos
  rx7_fin

theorem identPartHit_wd (n : Nat) (r r1 : List Nat) (x : Nat) (s : St) (h : BAt src K r s)
    (hD : RxSpecB.RegExpIdentifierPart r r1 x) :
    Wc (identPartHit n true s) (fun b s1 => b = true ∧ BAt src K r1 s1 ∧ s1.lastIntValue = (x : Nat) ∧ Keep s s1) := by
  obtain ⟨hcp, hx⟩ := regExpIdentifierPart_iff.mp hD
  obtain ⟨c, r', rfl⟩ := hcp.cons
  unfold identPartHit
  rx7_step
  rx7_step
  rename_i h'
  -- as in `identStartHit_wd`
  refine WcB.bind_cpo h' (by decide) ?_
  refine Wc.call (identPartCp_wd n c _ r' r1 x _ h' hcp hx rfl) (fun cp s1 ⟨e, hat, hk⟩ => ?_)
  subst e
  rx7_autos
  rx7_fin

/-- the frame of the two identifier functions: a hit is passed on -/
theorem identFrame_wd {hit : Bool → M Bool} {Q : St → Prop} (r : List Nat) (s : St) (h : BAt src K r s)
    (hhit : Wc (hit true s) (fun b s1 => b = true ∧ Q s1)) :
    Wc (identFrame hit s) (fun b s1 => b = true ∧ Q s1) := by
  unfold identFrame
  rx7_step
  rx7_step
  dsimp only
  simp only [h.uFlag', Bool.not_false, Bool.true_and]
  refine Wc.call hhit (fun b s1 ⟨hb, hq⟩ => ?_)
  subst hb
  exact ⟨rfl, hq⟩

theorem eatRegexpIdentifierStart_wd (n : Nat) (r r1 : List Nat) (x : Nat) (s : St) (h : BAt src K r s)
    (hD : RxSpecB.RegExpIdentifierStart r r1 x) :
    Wc (eatRegexpIdentifierStart n s) (fun b s1 => b = true ∧ BAt src K r1 s1 ∧ s1.lastIntValue = (x : Nat) ∧ Keep s s1) := by
  rw [eatRegexpIdentifierStart_eq_frame]
  exact identFrame_wd r s h (identStartHit_wd n r r1 x s h hD)

theorem eatRegexpIdentifierPart_wd (n : Nat) (r r1 : List Nat) (x : Nat) (s : St) (h : BAt src K r s)
    (hD : RxSpecB.RegExpIdentifierPart r r1 x) :
    Wc (eatRegexpIdentifierPart n s) (fun b s1 => b = true ∧ BAt src K r1 s1 ∧ s1.lastIntValue = (x : Nat) ∧ Keep s s1) := by
  rw [eatRegexpIdentifierPart_eq_frame]
  exact identFrame_wd r s h (identPartHit_wd n r r1 x s h hD)

/-- at `>` there is no further `RxSpecB.RegExpIdentifierPart` -/
theorem eatRegexpIdentifierPart_wdn (n : Nat) (r1 : List Nat) (s : St) (h : BAt src K (ch '>' :: r1) s) :
    Wc (eatRegexpIdentifierPart n s) (fun b s1 => b = false ∧ BAt src K (ch '>' :: r1) s1 ∧ Keep s s1) := by
  have hgt := not_identifierPartChar_gt
  unfold eatRegexpIdentifierPart
  rx7_step
  rx7_step
  dsimp only
  simp only [h.uFlag', Bool.not_false, Bool.true_and]
  rx7_autos
  all_goals first
    | (rx7_fin; done)
    | (rename_i hn; exact ⟨rfl, BAt.of_index_eq (by assumption) h (by simpa using hn), by rx6_keep⟩)

theorem PartsRunB.snoc {m r r' : List Nat} {xs : List Nat} {y : Nat} (h : PartsRunB m r xs) (hp : RxSpecB.RegExpIdentifierPart r r' y) :
    PartsRunB m r' (xs ++ [y]) := by
  induction h with
  | nil r => exact PartsRunB.cons _ _ _ _ _ hp (PartsRunB.nil _)
  | cons r0 m0 r1 x xs hp0 _ ih => exact PartsRunB.cons _ _ _ _ _ hp0 (ih hp)

theorem name_splitB {i r : List Nat} {nm : List Nat} (h : RxSpecB.RegExpIdentifierName i r nm) :
    ∃ m x xs, RxSpecB.RegExpIdentifierStart i m x ∧ PartsRunB m r xs ∧ nm = x :: xs := by
  induction h with
  | start _ _ hs => exact ⟨_, _, [], hs, PartsRunB.nil _, rfl⟩
  | part _ _ _ _ _ hp ih =>
    obtain ⟨m0, x0, xs, hs, hrun, rfl⟩ := ih
    exact ⟨m0, x0, xs ++ [_], hs, hrun.snoc hp, rfl⟩

theorem eatRegexpIdentifierNameLoop_wd (r1 : List Nat) : ∀ (n : Nat) (r : List Nat) (xs : List Nat) (s : St),
    BAt src K r s → PartsRunB r (ch '>' :: r1) xs →
    Wc (eatRegexpIdentifierNameLoop n s) (fun _ s1 => BAt src K (ch '>' :: r1) s1 ∧
      s1.lastStrValue = s.lastStrValue ++ xs ∧ KeepN s s1)
  | 0, _, _, _, _, _ => Wc.outOfFuel
  | n + 1, r, xs, s, h, hrun => by
    have ih := eatRegexpIdentifierNameLoop_wd r1 n
    cases hrun with
    | nil =>
      unfold eatRegexpIdentifierNameLoop
      rx7_auto
      have hk := ‹Keep s _›
      exact ⟨‹BAt src K (ch '>' :: r1) _›, by rw [hk.str, List.append_nil], hk.toN⟩
    | cons _ m _ x xs' hp hrest =>
      unfold eatRegexpIdentifierNameLoop
      rx7_auto
      rename_i s1 _ _ hv hk y hy _ s2 hat2 hstr hk2
      have hpc := identifierPartChar_char (part_valueB hp)
      rw [hv, i64AsU32_small hpc.2, hpc.1] at hy
      cases hy
      refine ⟨hat2, ?_, ⟨hk2.gn.trans hk.gn, hk2.bn.trans hk.bn⟩⟩
      rw [hstr]
      show (s1.lastStrValue ++ [x]) ++ xs' = _
      rw [hk.str, List.append_assoc]; rfl

theorem eatRegexpIdentifierName_wd (n : Nat) (r r1 : List Nat) (nm : List Nat) (s : St) (h : BAt src K r s)
    (hD : RxSpecB.RegExpIdentifierName r (ch '>' :: r1) nm) :
    Wc (eatRegexpIdentifierName n s) (fun b s1 => b = true ∧ BAt src K (ch '>' :: r1) s1 ∧ s1.lastStrValue = nm ∧
      KeepN s s1) := by
  obtain ⟨m, x, xs, hstart, hrun, rfl⟩ := name_splitB hD
  have hloop := fun s (h : BAt src K m s) => eatRegexpIdentifierNameLoop_wd (src := src) (K := K) r1 n m xs s h hrun
  unfold eatRegexpIdentifierName
  rx7_auto
  rename_i s1 _ _ hv hk y hy _ s2 hat2 hstr hk2
  have hpc := identifierPartChar_char (identifierStartChar_part (start_valueB hstart))
  rw [hv, i64AsU32_small hpc.2, hpc.1] at hy
  cases hy
  exact ⟨rfl, hat2, hstr, ⟨hk2.gn.trans hk.gn, hk2.bn.trans hk.bn⟩⟩

theorem eatGroupName_wd (n : Nat) (r r1 : List Nat) (nm : List Nat) (s : St) (h : BAt src K r s)
    (hD : RxSpecB.GroupName r r1 nm) :
    Wc (eatGroupName n s) (fun b s1 => b = true ∧ BAt src K r1 s1 ∧ s1.lastStrValue = nm ∧ KeepN s s1) := by
  obtain ⟨m, rfl, hname⟩ := hD
  unfold eatGroupName
  rx7_auto
  rx7_fin

theorem eatGroupName_wdn (n : Nat) (r : List Nat) (s : St) (h : BAt src K r s) (hn : r.head? ≠ some (ch '<')) :
    Wc (eatGroupName n s) (fun b s1 => b = false ∧ s1 = s) := by
  unfold eatGroupName
  rx7_auto
  exact ⟨rfl, rfl⟩

end DL.Rx
