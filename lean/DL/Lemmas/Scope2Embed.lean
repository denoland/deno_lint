import DL.Lemmas.Scope
import DL.Lemmas.Scope2

/-! M-SCOPE2 extends M-SCOPE conservatively: on the language of M-SCOPE (`decl` ↦ `letDecl`, `func id ps b` ↦ an anonymous
`func`) the two resolvers agree, scope `id` of M-SCOPE being `Sid.scope id` of M-SCOPE2. -/
namespace DL.Scope2

mutual
def upItem : DL.Scope.Item → Item
  | .ref x => .ref x
  | .key x => .key x
  | .decl x => .letDecl x
  | .block id b => .block id (upItems b)
  | .func id ps b => .func id none ps (upItems b)
def upItems : DL.Scope.Items → Items
  | .nil => .nil
  | .cons i r => .cons (upItem i) (upItems r)
end

def upOcc : DL.Scope.Occ → Occ
  | .decl => .decl
  | .ref => .ref

def upEntry (e : DL.Scope.Entry) : Entry := ⟨upOcc e.kind, e.name, e.bind.map Sid.scope⟩

theorem up_lets : (b : DL.Scope.Items) → (upItems b).lets = b.lets
  | .nil => rfl
  | .cons i r => by
    have ih := up_lets r
    cases i <;> simp [upItems, upItem, Items.lets, DL.Scope.Items.lets, ih]

mutual
theorem upItem_vars (i : DL.Scope.Item) : (upItem i).vars = [] := by
  cases i with
  | ref x => rfl
  | key x => rfl
  | decl x => rfl
  | block id b => simp only [upItem, Item.vars]; exact upItems_vars b
  | func id ps b => rfl
theorem upItems_vars (is : DL.Scope.Items) : (upItems is).vars = [] := by
  cases is with
  | nil => rfl
  | cons i r => simp only [upItems, Items.vars, upItem_vars i, upItems_vars r, List.append_nil]
end

/-- the environment of M-SCOPE2 resolves like that of M-SCOPE -/
def EnvRel (env : DL.Scope.Env) (env2 : Env) : Prop :=
  ∀ x, lookup env2 x = (DL.Scope.lookup env x).map Sid.scope

theorem EnvRel.push {env : DL.Scope.Env} {env2 : Env} (h : EnvRel env env2) (id : Nat) (fr : List Nat) :
    EnvRel ((id, fr) :: env) ((.scope id, fr) :: env2) := by
  intro x
  rw [lookup_cons, DL.Scope.lookup_cons]
  unfold Binding.push
  split
  · rfl
  · exact h x

theorem EnvRel.skip {env : DL.Scope.Env} {env2 : Env} (h : EnvRel env env2) (id : Sid) :
    EnvRel env ((id, []) :: env2) :=
  fun x => (if_neg List.not_mem_nil).trans (h x)

mutual
theorem upItem_res (i : DL.Scope.Item) (env : DL.Scope.Env) (env2 : Env) (h : EnvRel env env2) :
    (upItem i).res env2 = (i.res env).map upEntry := by
  cases i with
  | ref x => simp [upItem, Item.res, DL.Scope.Item.res, upEntry, upOcc, h x]
  | key x => simp [upItem, Item.res, DL.Scope.Item.res]
  | decl x => simp [upItem, Item.res, DL.Scope.Item.res, upEntry, upOcc, h x]
  | block id b =>
    simp only [upItem, Item.res, DL.Scope.Item.res, up_lets]
    exact upItems_res b _ _ (h.push id b.lets)
  | func id ps b =>
    have h2 := (h.skip (.head id)).push id (ps ++ b.lets)
    simp only [upItem, Item.res, DL.Scope.Item.res, funcFrame, up_lets, upItems_vars, List.append_nil,
      Option.toList_none, declsIn, List.map_nil, List.nil_append, List.map_append, List.map_map]
    rw [upItems_res b _ _ h2]
    congr 1
    apply List.map_congr_left
    intro p _
    simp [upEntry, upOcc, h2 p]
theorem upItems_res (is : DL.Scope.Items) (env : DL.Scope.Env) (env2 : Env) (h : EnvRel env env2) :
    (upItems is).res env2 = (is.res env).map upEntry := by
  cases is with
  | nil => simp [upItems, Items.res, DL.Scope.Items.res]
  | cons i r =>
    simp only [upItems, Items.res, DL.Scope.Items.res, List.map_append]
    rw [upItem_res i env env2 h, upItems_res r env env2 h]
end

/-- **conservativity**: the resolver of M-SCOPE2 agrees with `DL.Scope.Program.res` on the language of M-SCOPE -/
theorem program_res_up (p : DL.Scope.Items) : Program.res (upItems p) = (DL.Scope.Program.res p).map upEntry := by
  unfold Program.res DL.Scope.Program.res
  have h0 : EnvRel [] [] := fun x => rfl
  have := h0.push 0 p.lets
  simp only [funcFrame, up_lets, upItems_vars, List.append_nil, List.nil_append]
  exact upItems_res p _ _ this

theorem isGlobalRef_up (g : Nat) (e : DL.Scope.Entry) : isGlobalRef g (upEntry e) = DL.Scope.isGlobalRef g e := by
  obtain ⟨k, n, b⟩ := e
  cases k <;> cases b <;> rfl

/-- …hence so do the global-name rules -/
theorem globalReports_up (g : Nat) (p : DL.Scope.Items) : globalReports g (upItems p) = DL.Scope.globalReports g p := by
  unfold globalReports DL.Scope.globalReports
  rw [program_res_up]
  generalize DL.Scope.Program.res p = l
  generalize 0 = k
  induction l generalizing k with
  | nil => rfl
  | cons e r ih => simp only [List.map_cons, reportIdx, DL.Scope.reportIdx, isGlobalRef_up, ih]

end DL.Scope2
