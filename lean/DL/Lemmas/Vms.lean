import DL.Model.Vms
/-!
# The C13 proof for M-VMS

`analyze_import` and `analyze_export` are one analysis: a declaration is *live* (looked at) or not, and each of its
specifiers is typed or brings in a name as a value.  `Item.side`, `Item.live`, `Item.gspecs` are that view of an item;
`value s` / `Module.has s` are `importValue` / `exportValue` and `hasImportIdent` / `hasExportIdent` by side; `FixView`
lists what a fix does to an item in terms of the view, and is the only place where `fixItem` is unfolded.

The number of diagnostics is a sum of per-item counts (`itemsDiags_length`); the count of an item depends on the module
only through `Module.has` of its side at the names of its own value specifiers (`itemCnt_congr`); a fix removes from the
values of a side only names that were "only used in types" (`value_fix_lost`), hence `Module.has` is unchanged where it
matters (`has_stable`) and all other items keep their counts; the fixed item loses one (`fix_local_lt`), and the first
of the items that replace it no longer reports the fixed diagnostic (`not_mem_head_fix`).
-/
namespace DL.Vms


theorem usageIdx_length (p : α → Bool) (l : List α) (i : Nat) :
    (usageIdx p l i).length = l.countP p := by
  induction l generalizing i with
  | nil => rfl
  | cons a r ih =>
    simp only [usageIdx, List.length_append, ih, List.countP_cons]
    cases p a <;> simp <;> omega

theorem mem_usageIdx (p : α → Bool) (l : List α) (i j : Nat) :
    j ∈ usageIdx p l i ↔ i ≤ j ∧ ∃ a, l[j - i]? = some a ∧ p a = true := by
  induction l generalizing i with
  | nil => simp [usageIdx]
  | cons a r ih =>
    simp only [usageIdx, List.mem_append, ih]
    constructor
    · rintro (h | ⟨h1, b, h2, h3⟩)
      · cases hp : p a
        · simp [hp] at h
        · simp [hp] at h
          subst h
          exact ⟨Nat.le_refl _, a, by simp, hp⟩
      · refine ⟨by omega, b, ?_, h3⟩
        have : j - i = (j - (i + 1)) + 1 := by omega
        rw [this]; simpa using h2
    · rintro ⟨h1, b, h2, h3⟩
      by_cases hji : j = i
      · subst hji
        simp at h2
        subst h2
        left; simp [h3]
      · right
        refine ⟨by omega, b, ?_, h3⟩
        have : j - i = (j - (i + 1)) + 1 := by omega
        rw [this] at h2; simpa using h2

theorem usageIdx_map {β : Type} (v : α → β) (p : β → Bool) (l : List α) (i : Nat) :
    usageIdx p (l.map v) i = usageIdx (p ∘ v) l i := by
  induction l generalizing i with
  | nil => rfl
  | cons a r ih => simp only [List.map_cons, usageIdx, ih, Function.comp]

theorem countP_add_countP_of_disjoint (p t : α → Bool) (hd : ∀ a, p a = true → t a = false) (l : List α) :
    l.countP p + l.countP t = l.countP (fun a => p a || t a) := by
  induction l with
  | nil => rfl
  | cons a r ih =>
    simp only [List.countP_cons]
    cases hp : p a
    · cases ht : t a <;> simp <;> omega
    · have := hd a hp
      simp [this]; omega

theorem countP_add_countP_le (p t : α → Bool) (hd : ∀ a, p a = true → t a = false) (l : List α) :
    l.countP p + l.countP t ≤ l.length := by
  rw [countP_add_countP_of_disjoint p t hd]
  exact List.countP_le_length

theorem all_of_length_eq (p t : α → Bool) (hd : ∀ a, p a = true → t a = false) (l : List α)
    (h : l.length = l.countP p + l.countP t) : ∀ a ∈ l, p a = true ∨ t a = true := by
  rw [countP_add_countP_of_disjoint p t hd] at h
  have := (List.countP_eq_length (p := fun a => p a || t a) (l := l)).1 h.symm
  intro a ha
  simpa using this a ha

/-- `modify` and `eraseIdx` at an index, through the list split at that index -/
theorem split_at {l : List α} {i : Nat} {a : α} (h : l[i]? = some a) :
    ∃ l₁ l₂, l₁.length = i ∧ l = l₁ ++ a :: l₂ ∧ (∀ f, l.modify i f = l₁ ++ f a :: l₂) ∧ l.eraseIdx i = l₁ ++ l₂ := by
  obtain ⟨hi, rfl⟩ := List.getElem?_eq_some_iff.mp h
  exact ⟨l.take i, l.drop (i + 1), List.length_take_of_le (Nat.le_of_lt hi),
    by rw [← List.drop_eq_getElem_cons hi, List.take_append_drop],
    fun f => List.modify_eq_take_cons_drop hi, List.eraseIdx_eq_take_drop_succ l i⟩

theorem isEmpty_mid (l₁ l₂ : List α) (g : α) : (l₁ ++ g :: l₂).isEmpty = false := by cases l₁ <;> rfl

/-- the shape shared by `importDiags` and `exportDiags` -/
def gDiags (p t : α → Bool) (k : Nat) (l : List α) : List Diag :=
  if l.length == (usageIdx p l 0).length + (l.filter t).length then [⟨k, .all⟩]
  else (usageIdx p l 0).map (fun i => ⟨k, .spec i⟩)

def gCnt (p t : α → Bool) (l : List α) : Nat :=
  if l.length = l.countP p + l.countP t then 1 else l.countP p

theorem gDiags_length (p t : α → Bool) (k : Nat) (l : List α) : (gDiags p t k l).length = gCnt p t l := by
  unfold gDiags gCnt
  simp only [usageIdx_length, ← List.countP_eq_length_filter, beq_iff_eq]
  split <;> simp [usageIdx_length]

theorem gCnt_congr (p q t : α → Bool) (l : List α) (h : ∀ a ∈ l, p a = q a) : gCnt p t l = gCnt q t l := by
  have : l.countP p = l.countP q := List.countP_congr (fun a ha => by rw [h a ha])
  unfold gCnt; rw [this]

theorem gDiags_map {β : Type} (v : α → β) (p t : β → Bool) (k : Nat) (l : List α) :
    gDiags p t k (l.map v) = gDiags (p ∘ v) (t ∘ v) k l := by
  simp only [gDiags, usageIdx_map, List.length_map, List.filter_map]

theorem item_of_mem_gDiags (p t : α → Bool) (k : Nat) (l : List α) (d : Diag) (h : d ∈ gDiags p t k l) :
    d.item = k := by
  unfold gDiags at h
  split at h
  · rw [List.mem_singleton.mp h]
  · obtain ⟨i, _, rfl⟩ := List.mem_map.mp h
    rfl

theorem gDiags_all_inv (p t : α → Bool) (k : Nat) (l : List α) (k' : Nat) (h : ⟨k', .all⟩ ∈ gDiags p t k l) :
    l.length = l.countP p + l.countP t := by
  unfold gDiags at h
  simp only [usageIdx_length, ← List.countP_eq_length_filter, beq_iff_eq] at h
  split at h
  · assumption
  · simp at h

theorem gDiags_spec_inv (p t : α → Bool) (k : Nat) (l : List α) (k' i : Nat) (h : ⟨k', .spec i⟩ ∈ gDiags p t k l) :
    l.length ≠ l.countP p + l.countP t ∧ ∃ a, l[i]? = some a ∧ p a = true := by
  unfold gDiags at h
  simp only [usageIdx_length, ← List.countP_eq_length_filter, beq_iff_eq] at h
  split at h
  · simp at h
  · rename_i hne
    refine ⟨hne, ?_⟩
    simp only [List.mem_map, Diag.mk.injEq, Target.spec.injEq] at h
    rcases h with ⟨j, hj, _, rfl⟩
    have := (mem_usageIdx p l 0 j).1 hj
    simpa using this.2

/-- making a reported specifier typed, or taking it out, lowers by one the count of a declaration that is not reported
as a whole (and such a declaration keeps a specifier) -/
theorem gCnt_fix {p t : α → Bool} (hd : ∀ a, p a = true → t a = false) {l₁ l₂ : List α} {g : α} (g' : α)
    (hp : p g = true) (hp' : p g' = false) (ht' : t g' = true)
    (hne : (l₁ ++ g :: l₂).length ≠ (l₁ ++ g :: l₂).countP p + (l₁ ++ g :: l₂).countP t) :
    gCnt p t (l₁ ++ g' :: l₂) + 1 = gCnt p t (l₁ ++ g :: l₂) ∧ gCnt p t (l₁ ++ l₂) + 1 = gCnt p t (l₁ ++ g :: l₂) ∧
      l₁ ++ l₂ ≠ [] := by
  have hle := countP_add_countP_le p t hd (l₁ ++ l₂)
  simp only [gCnt, List.length_append, List.length_cons, List.countP_append, List.countP_cons, hp, hd g hp, hp', ht',
    if_true, Bool.false_eq_true, if_false] at hne hle ⊢
  rw [if_neg hne, if_neg (by omega), if_neg (by omega)]
  refine ⟨by omega, by omega, fun h0 => ?_⟩
  have := congrArg List.length h0
  simp only [List.length_append, List.length_nil] at this
  omega

theorem importDiags_eq (m : Module) (k : Nat) (d : IDecl) :
    importDiags m k d =
      if d.typeOnly || d.specs.isEmpty then []
      else gDiags (fun s => !s.typed && !m.hasImportIdent s.name) (·.typed) k d.specs := rfl

theorem exportDiags_eq (m : Module) (k : Nat) (d : EDecl) :
    exportDiags m k d =
      if d.typeOnly || d.specs.isEmpty || d.hasSrc then []
      else gDiags (fun s => !s.inlineType && !m.hasExportIdent s.orig) (·.inlineType) k d.specs := rfl

def itemDiags (m : Module) (k : Nat) : Item → List Diag
  | .imp d => importDiags m k d
  | .exp d => exportDiags m k d

theorem itemsDiags_cons (m : Module) (it : Item) (r : List Item) (k : Nat) :
    itemsDiags m (it :: r) k = itemDiags m k it ++ itemsDiags m r (k + 1) := by
  cases it <;> rfl

@[simp] theorem importValue_exp (d : EDecl) : importValue [Item.exp d] = [] := rfl

@[simp] theorem exportValue_imp (d : IDecl) : exportValue [Item.imp d] = [] := rfl

/-- which of the two analyses: of the import or of the export declarations -/
inductive Side
  | imp | exp
  deriving DecidableEq

def Side.other : Side → Side
  | .imp => .exp
  | .exp => .imp

theorem Side.other_other (s : Side) : s.other.other = s := by cases s <;> rfl

/-- a specifier as either analysis sees it -/
structure GSpec where
  typed : Bool
  name : Nat

def Item.side : Item → Side
  | .imp _ => .imp
  | .exp _ => .exp

/-- is the declaration analysed at all -/
def Item.live : Item → Bool
  | .imp d => !d.typeOnly
  | .exp d => !(d.typeOnly || d.hasSrc)

def ISpec.g (s : ISpec) : GSpec := ⟨s.typed, s.name⟩

def ESpec.g (s : ESpec) : GSpec := ⟨s.inlineType, s.orig⟩

def Item.gspecs : Item → List GSpec
  | .imp d => d.specs.map ISpec.g
  | .exp d => d.specs.map ESpec.g

/-- the names a live declaration brings in (imports) or sends out (exports) as values -/
def Item.value (it : Item) : List Nat := if it.live then (it.gspecs.filter (!·.typed)).map (·.name) else []

def value (s : Side) (its : List Item) : List Nat := its.flatMap fun it => if it.side = s then it.value else []

theorem importValue_eq (its : List Item) : importValue its = value .imp its := by
  induction its with
  | nil => rfl
  | cons it r ih =>
    cases it with
    | exp d => simp [importValue, value, ih, Item.side]
    | imp d =>
      cases h1 : d.typeOnly <;>
        simp [importValue, value, ih, Item.side, Item.value, Item.live, Item.gspecs, List.filter_map, Function.comp_def,
          ISpec.g, h1]

theorem exportValue_eq (its : List Item) : exportValue its = value .exp its := by
  induction its with
  | nil => rfl
  | cons it r ih =>
    cases it with
    | imp d => simp [exportValue, value, ih, Item.side]
    | exp d =>
      cases h1 : d.typeOnly <;> cases h2 : d.hasSrc <;>
        simp [exportValue, value, ih, Item.side, Item.value, Item.live, Item.gspecs, List.filter_map, Function.comp_def,
          ESpec.g, h1, h2]

/-- `hasImportIdent` (`s = .imp`) / `hasExportIdent` (`s = .exp`): used as a value, or a value on the other side -/
def Module.has (m : Module) (s : Side) (x : Nat) : Bool := m.used.contains x || (value s.other m.items).contains x

theorem hasImportIdent_eq (m : Module) : m.hasImportIdent = m.has .imp := by
  funext x; rw [Module.hasImportIdent, exportValue_eq]; rfl

theorem hasExportIdent_eq (m : Module) : m.hasExportIdent = m.has .exp := by
  funext x; rw [Module.hasExportIdent, importValue_eq]; rfl

theorem value_append (s : Side) (a b : List Item) : value s (a ++ b) = value s a ++ value s b := List.flatMap_append

theorem value_cons (s : Side) (it : Item) (r : List Item) : value s (it :: r) = value s [it] ++ value s r :=
  value_append s [it] r

theorem mem_value_single {s : Side} {it : Item} {x : Nat} :
    x ∈ value s [it] ↔ it.side = s ∧ it.live = true ∧ ∃ g ∈ it.gspecs, g.typed = false ∧ g.name = x := by
  by_cases hs : it.side = s <;> cases hl : it.live <;> simp [value, Item.value, hs, hl, and_assoc]

theorem value_single_of_dead (s : Side) {it : Item} (h : it.live = false) : value s [it] = [] := by
  simp [value, Item.value, h]

/-- a specifier is reported when it is a value and its name is not otherwise needed as one -/
def flag (h : Nat → Bool) (g : GSpec) : Bool := !g.typed && !h g.name

theorem flag_disjoint (h : Nat → Bool) (g : GSpec) (hg : flag h g = true) : g.typed = false := by
  simp only [flag, Bool.and_eq_true, Bool.not_eq_true'] at hg; exact hg.1

/-- the diagnostics of an item, from what the view shows of it -/
theorem itemDiags_view (m : Module) (k : Nat) (it : Item) :
    itemDiags m k it =
      if it.live && !it.gspecs.isEmpty then gDiags (flag (m.has it.side)) GSpec.typed k it.gspecs else [] := by
  cases it with
  | imp d =>
    rw [itemDiags, importDiags_eq, hasImportIdent_eq]
    simp only [Item.live, Item.gspecs, Item.side, gDiags_map, List.isEmpty_map]
    cases d.typeOnly <;> cases d.specs.isEmpty <;> rfl
  | exp d =>
    rw [itemDiags, exportDiags_eq, hasExportIdent_eq]
    simp only [Item.live, Item.gspecs, Item.side, gDiags_map, List.isEmpty_map]
    cases d.typeOnly <;> cases d.specs.isEmpty <;> cases d.hasSrc <;> rfl

theorem itemDiags_inv {m : Module} {k : Nat} {it : Item} {d : Diag} (h : d ∈ itemDiags m k it) :
    it.live = true ∧ it.gspecs.isEmpty = false ∧ d ∈ gDiags (flag (m.has it.side)) GSpec.typed k it.gspecs := by
  rw [itemDiags_view] at h
  split at h
  · rename_i hc
    simp only [Bool.and_eq_true, Bool.not_eq_true'] at hc
    exact ⟨hc.1, hc.2, h⟩
  · cases h

/-- the specifier a specifier diagnostic is about -/
theorem spec_of_mem {p t : GSpec → Bool} {k k' : Nat} {l₁ l₂ : List GSpec} {g : GSpec}
    (h : ⟨k', .spec l₁.length⟩ ∈ gDiags p t k (l₁ ++ g :: l₂)) :
    (l₁ ++ g :: l₂).length ≠ (l₁ ++ g :: l₂).countP p + (l₁ ++ g :: l₂).countP t ∧ p g = true := by
  obtain ⟨hne, g', hg', hp⟩ := gDiags_spec_inv _ _ _ _ _ _ h
  rw [List.getElem?_append_right (Nat.le_refl _), Nat.sub_self, List.getElem?_cons_zero, Option.some.injEq] at hg'
  exact ⟨hne, hg' ▸ hp⟩

theorem item_of_mem_itemDiags (m : Module) (k : Nat) (it : Item) (d : Diag) (h : d ∈ itemDiags m k it) :
    d.item = k := item_of_mem_gDiags _ _ _ _ _ (itemDiags_inv h).2.2

theorem split_of_mem_itemsDiags (m : Module) (its : List Item) (k : Nat) (d : Diag) (h : d ∈ itemsDiags m its k) :
    ∃ pre it post, its = pre ++ it :: post ∧ d.item = k + pre.length ∧ d ∈ itemDiags m d.item it := by
  induction its generalizing k with
  | nil => simp [itemsDiags] at h
  | cons it r ih =>
    rw [itemsDiags_cons, List.mem_append] at h
    rcases h with h | h
    · have := item_of_mem_itemDiags m k it d h
      exact ⟨[], it, r, rfl, by simpa using this, by rw [this]; exact h⟩
    · rcases ih (k + 1) h with ⟨pre, it', post, h1, h2, h3⟩
      exact ⟨it :: pre, it', post, by rw [h1]; rfl, by simp only [List.length_cons]; omega, h3⟩

theorem mem_itemsDiags (m : Module) (its : List Item) (k : Nat) (d : Diag) (h : d ∈ itemsDiags m its k) :
    ∃ it, its[d.item - k]? = some it ∧ k ≤ d.item ∧ d ∈ itemDiags m d.item it := by
  obtain ⟨pre, it, post, h1, h2, h3⟩ := split_of_mem_itemsDiags m its k d h
  refine ⟨it, ?_, by omega, h3⟩
  have : d.item - k = pre.length := by omega
  rw [this, h1]; simp

theorem fixItems_split (pre : List Item) (it : Item) (post : List Item) (t : Target) :
    fixItems (pre ++ it :: post) pre.length t = pre ++ (fixItem it t ++ post) := by
  induction pre with
  | nil => rfl
  | cons a r ih => simp only [List.cons_append, List.length_cons, fixItems, ih]

theorem applyFix_items (m : Module) (d : Diag) (pre : List Item) (it : Item) (post : List Item)
    (h1 : m.items = pre ++ it :: post) (h2 : d.item = pre.length) :
    (applyFix m d).items = pre ++ (fixItem it d.target ++ post) := by
  simp only [applyFix, h1, h2, fixItems_split]

/-- what the fix of a diagnostic with target `t` does to an item, as the analyses see it: a whole-declaration fix leaves
a declaration that is not looked at; a specifier fix makes the specifier typed, or moves it to a declaration of its own
that is not looked at -/
inductive FixView (it : Item) : Target → List Item → Prop
  | all (a : Item) : a.live = false → FixView it .all [a]
  | noSpec (i : Nat) : it.gspecs[i]? = none → FixView it (.spec i) [it]
  | setTyped (l₁ : List GSpec) (g : GSpec) (l₂ : List GSpec) (a : Item) : it.gspecs = l₁ ++ g :: l₂ →
      a.side = it.side → a.live = it.live → a.gspecs = l₁ ++ { g with typed := true } :: l₂ →
      FixView it (.spec l₁.length) [a]
  | split (l₁ : List GSpec) (g : GSpec) (l₂ : List GSpec) (a b : Item) : it.gspecs = l₁ ++ g :: l₂ →
      a.live = false → b.side = it.side → b.live = it.live → b.gspecs = l₁ ++ l₂ →
      FixView it (.spec l₁.length) [a, b]

theorem fixItem_view (it : Item) (t : Target) : FixView it t (fixItem it t) := by
  cases it with
  | imp d =>
    cases t with
    | all => exact .all _ rfl
    | spec i =>
      cases hs : d.specs[i]? with
      | none =>
        simp only [fixItem, hs]
        exact .noSpec i (by simp [Item.gspecs, hs])
      | some s =>
        obtain ⟨l₁, l₂, rfl, hl, hm, he⟩ := split_at hs
        have hv : (Item.imp d).gspecs = l₁.map ISpec.g ++ s.g :: l₂.map ISpec.g := by
          rw [Item.gspecs, hl, List.map_append, List.map_cons]
        simp only [fixItem, hs]
        rw [← List.length_map (f := ISpec.g)]
        split
        · rename_i hk
          exact .setTyped _ _ _ _ hv rfl rfl (by simp [Item.gspecs, setTyped, hm, ISpec.g, ISpec.typed, hk])
        · exact .split _ _ _ _ _ hv rfl rfl rfl (by simp [Item.gspecs, he])
  | exp d =>
    cases t with
    | all => exact .all _ (by simp [Item.live])
    | spec i =>
      simp only [fixItem]
      cases hs : d.specs[i]? with
      | none =>
        have : setTypedE i d.specs = d.specs := List.modify_eq_self (List.getElem?_eq_none_iff.mp hs)
        rw [this]
        exact .noSpec i (by simp [Item.gspecs, hs])
      | some s =>
        obtain ⟨l₁, l₂, rfl, hl, hm, _⟩ := split_at hs
        have hv : (Item.exp d).gspecs = l₁.map ESpec.g ++ s.g :: l₂.map ESpec.g := by
          rw [Item.gspecs, hl, List.map_append, List.map_cons]
        rw [← List.length_map (f := ESpec.g)]
        exact .setTyped _ _ _ _ hv rfl rfl (by simp [Item.gspecs, setTypedE, hm, ESpec.g])

theorem value_fix_subset (s : Side) {it : Item} {t : Target} {its : List Item} (h : FixView it t its) :
    ∀ x ∈ value s its, x ∈ value s [it] := by
  intro x hx
  cases h with
  | all a ha => rw [value_single_of_dead s ha] at hx; cases hx
  | noSpec => exact hx
  | setTyped l₁ g l₂ a hg hs hl ha =>
    obtain ⟨h1, h2, g', hg', hty, hn⟩ := mem_value_single.mp hx
    refine mem_value_single.mpr ⟨hs ▸ h1, hl ▸ h2, g', ?_, hty, hn⟩
    simp only [ha, hg, List.mem_append, List.mem_cons] at hg' ⊢
    rcases hg' with h | rfl | h
    · exact Or.inl h
    · cases hty
    · exact Or.inr (Or.inr h)
  | split l₁ g l₂ a b hg ha hs hl hb =>
    rw [value_cons, value_single_of_dead s ha, List.nil_append] at hx
    obtain ⟨h1, h2, g', hg', hty, hn⟩ := mem_value_single.mp hx
    refine mem_value_single.mpr ⟨hs ▸ h1, hl ▸ h2, g', ?_, hty, hn⟩
    simp only [hb, hg, List.mem_append, List.mem_cons] at hg' ⊢
    exact hg'.imp_right Or.inr

/-- a fix takes away from the values of a side only names that are not needed as values there -/
theorem value_fix_lost {m : Module} {k k' : Nat} {it : Item} {t : Target} {its : List Item} (h : FixView it t its)
    (hd : ⟨k', t⟩ ∈ itemDiags m k it) (s : Side) :
    ∀ x ∈ value s [it], x ∈ value s its ∨ m.has s x = false := by
  intro x hx
  obtain ⟨hs, hl, g', hg', hty, hn⟩ := mem_value_single.mp hx
  obtain ⟨_, _, hd⟩ := itemDiags_inv hd
  rw [hs] at hd
  have hharmless : flag (m.has s) g' = true → m.has s x = false := fun hp => by
    simp only [flag, Bool.and_eq_true, Bool.not_eq_true'] at hp
    exact hn ▸ hp.2
  cases h with
  | all a ha =>
    rcases all_of_length_eq _ _ (flag_disjoint _) _ (gDiags_all_inv _ _ _ _ _ hd) g' hg' with hp | hp
    · exact Or.inr (hharmless hp)
    · rw [hty] at hp; cases hp
  | noSpec => exact Or.inl hx
  | setTyped l₁ g l₂ a hg hsa hla ha =>
    rw [hg] at hd hg'
    rcases List.mem_append.mp hg' with hm | hm
    · exact Or.inl (mem_value_single.mpr ⟨hsa ▸ hs, hla ▸ hl, g', ha ▸ List.mem_append_left _ hm, hty, hn⟩)
    · rcases List.mem_cons.mp hm with rfl | hm
      · exact Or.inr (hharmless (spec_of_mem hd).2)
      · exact Or.inl (mem_value_single.mpr
          ⟨hsa ▸ hs, hla ▸ hl, g', ha ▸ List.mem_append_right _ (List.mem_cons_of_mem _ hm), hty, hn⟩)
  | split l₁ g l₂ a b hg ha hsb hlb hb =>
    rw [hg] at hd hg'
    rw [value_cons, value_single_of_dead s ha, List.nil_append]
    rcases List.mem_append.mp hg' with hm | hm
    · exact Or.inl (mem_value_single.mpr ⟨hsb ▸ hs, hlb ▸ hl, g', hb ▸ List.mem_append_left _ hm, hty, hn⟩)
    · rcases List.mem_cons.mp hm with rfl | hm
      · exact Or.inr (hharmless (spec_of_mem hd).2)
      · exact Or.inl (mem_value_single.mpr ⟨hsb ▸ hs, hlb ▸ hl, g', hb ▸ List.mem_append_right _ hm, hty, hn⟩)

/-- the number of diagnostics of an item, given the two predicates by side -/
def itemCnt (h : Side → Nat → Bool) (it : Item) : Nat :=
  if it.live && !it.gspecs.isEmpty then gCnt (flag (h it.side)) GSpec.typed it.gspecs else 0

def itemsCnt (h : Side → Nat → Bool) : List Item → Nat
  | [] => 0
  | it :: r => itemCnt h it + itemsCnt h r

theorem itemDiags_length (m : Module) (k : Nat) (it : Item) : (itemDiags m k it).length = itemCnt m.has it := by
  rw [itemDiags_view, itemCnt]
  split
  · exact gDiags_length ..
  · rfl

theorem itemsDiags_length (m : Module) (its : List Item) (k : Nat) :
    (itemsDiags m its k).length = itemsCnt m.has its := by
  induction its generalizing k with
  | nil => rfl
  | cons it r ih => simp only [itemsDiags_cons, List.length_append, itemDiags_length, ih, itemsCnt]

/-- the count of an item only depends on the predicate of its side at the names of its value specifiers -/
theorem itemCnt_congr (h h' : Side → Nat → Bool) (it : Item)
    (hv : ∀ x ∈ value it.side [it], h' it.side x = h it.side x) :
    itemCnt h' it = itemCnt h it := by
  unfold itemCnt
  split
  · rename_i hc
    refine gCnt_congr _ _ _ _ fun g hg => ?_
    cases hty : g.typed
    · simp only [flag, hv _ (mem_value_single.mpr ⟨rfl, (Bool.and_eq_true_iff.mp hc).1, g, hg, hty, rfl⟩)]
    · simp only [flag, hty, Bool.not_true, Bool.false_and]
  · rfl

theorem itemsCnt_congr (h h' : Side → Nat → Bool) (its : List Item) (hv : ∀ s, ∀ x ∈ value s its, h' s x = h s x) :
    itemsCnt h' its = itemsCnt h its := by
  induction its with
  | nil => rfl
  | cons it r ih =>
    have hv (s : Side) := List.forall_mem_append.mp (value_cons s it r ▸ hv s)
    rw [itemsCnt, itemsCnt, itemCnt_congr h h' it (hv it.side).1, ih fun s => (hv s).2]

theorem itemsCnt_append (h : Side → Nat → Bool) (a b : List Item) :
    itemsCnt h (a ++ b) = itemsCnt h a + itemsCnt h b := by
  induction a with
  | nil => simp [itemsCnt]
  | cons it r ih => simp only [List.cons_append, itemsCnt, ih, Nat.add_assoc]

theorem fix_local_lt {m : Module} {k k' : Nat} {it : Item} {t : Target} {its : List Item} (h : FixView it t its)
    (hd : ⟨k', t⟩ ∈ itemDiags m k it) : itemsCnt m.has its < itemCnt m.has it := by
  have hpos : 0 < itemCnt m.has it := by rw [← itemDiags_length m k it]; exact List.length_pos_of_mem hd
  obtain ⟨hl, hne, hd⟩ := itemDiags_inv hd
  cases h with
  | all a ha => simpa [itemsCnt, itemCnt, ha] using hpos
  | noSpec i hi =>
    obtain ⟨_, g, hg, _⟩ := gDiags_spec_inv _ _ _ _ _ _ hd
    rw [hi] at hg; cases hg
  | setTyped l₁ g l₂ a hg hsa hla ha =>
    rw [hg] at hd
    obtain ⟨hne', hp⟩ := spec_of_mem hd
    have := (gCnt_fix (flag_disjoint (m.has it.side)) { g with typed := true } hp rfl rfl hne').1
    simp only [itemsCnt, itemCnt, hsa, hla, hl, ha, hg, isEmpty_mid, Bool.not_false, Bool.and_self, if_true]
    omega
  | split l₁ g l₂ a b hg ha hsb hlb hb =>
    rw [hg] at hd
    obtain ⟨hne', hp⟩ := spec_of_mem hd
    obtain ⟨_, h2, h3⟩ := gCnt_fix (flag_disjoint (m.has it.side)) { g with typed := true } hp rfl rfl hne'
    have h3 : (l₁ ++ l₂).isEmpty = false := by cases h : l₁ ++ l₂ with | nil => exact absurd h h3 | cons _ _ => rfl
    simp only [itemsCnt, itemCnt, ha, hsb, hlb, hl, hb, hg, h3, isEmpty_mid, Bool.not_false, Bool.and_self,
      Bool.false_and, if_true, Bool.false_eq_true, if_false]
    omega

/-- membership in a list "in the middle" is unchanged when the middle part only loses elements that do not matter -/
theorem contains_middle {x : Nat} {A B B' C : List Nat} (hsub : x ∈ B' → x ∈ B) (hlost : x ∈ B → x ∈ B') :
    (A ++ (B' ++ C)).contains x = (A ++ (B ++ C)).contains x := by
  rw [Bool.eq_iff_iff, List.contains_iff_mem, List.contains_iff_mem]
  simp only [List.mem_append]
  exact or_congr_right (or_congr_left ⟨hsub, hlost⟩)

/-- after a fix each of the two predicates is the same on every name that is a value on its own side -/
theorem has_stable (m : Module) (d : Diag) (pre : List Item) (it : Item) (post : List Item)
    (h1 : m.items = pre ++ it :: post) (h2 : d.item = pre.length) (h3 : d ∈ itemDiags m d.item it) (s : Side) :
    ∀ x ∈ value s m.items, (applyFix m d).has s x = m.has s x := by
  intro x hx
  have hx : m.has s.other x = true := by
    simp only [Module.has, Side.other_other, Bool.or_eq_true, List.contains_iff_mem]; exact Or.inr hx
  simp only [Module.has, applyFix_items m d pre it post h1 h2, h1, value_append, value_cons s.other it post]
  congr 1
  refine contains_middle (value_fix_subset s.other (fixItem_view it d.target) x) fun hm => ?_
  rcases value_fix_lost (fixItem_view it d.target) h3 s.other x hm with h | h
  · exact h
  · rw [hx] at h; cases h

theorem value_fix_sub (s : Side) (pre post : List Item) (it : Item) (t : Target) :
    ∀ x ∈ value s (pre ++ (fixItem it t ++ post)), x ∈ value s (pre ++ it :: post) := by
  intro x
  simp only [value_append, value_cons s it post, List.mem_append]
  exact Or.imp_right (Or.imp_left (value_fix_subset s (fixItem_view it t) x))

theorem length_diags_applyFix_lt (m : Module) (d : Diag) (h : d ∈ diags m) :
    (diags (applyFix m d)).length < (diags m).length := by
  obtain ⟨pre, it, post, h1, h2, h3⟩ := split_of_mem_itemsDiags m m.items 0 d h
  have h2 := h2.trans (Nat.zero_add _)
  unfold diags
  rw [itemsDiags_length, itemsDiags_length, applyFix_items m d pre it post h1 h2,
    itemsCnt_congr _ _ _ fun s x hx =>
      has_stable m d pre it post h1 h2 h3 s x (h1 ▸ value_fix_sub s pre post it d.target x hx),
    h1]
  have := fix_local_lt (fixItem_view it d.target) h3
  simp only [itemsCnt_append, itemsCnt]
  omega

/-- the first of the items replacing the fixed one does not report the fixed diagnostic (in any module `m'`): it is not
looked at, or the specifier is typed now -/
theorem not_mem_head_fix {m m' : Module} {k k' : Nat} {it : Item} {t : Target} {a : Item} {r : List Item}
    (h : FixView it t (a :: r)) (hd : ⟨k', t⟩ ∈ itemDiags m k it) : ⟨k', t⟩ ∉ itemDiags m' k a := by
  intro hd'
  obtain ⟨hl', _, hd'⟩ := itemDiags_inv hd'
  obtain ⟨_, _, hd⟩ := itemDiags_inv hd
  cases h with
  | all _ ha => rw [ha] at hl'; cases hl'
  | noSpec i hi =>
    obtain ⟨_, g, hg, _⟩ := gDiags_spec_inv _ _ _ _ _ _ hd
    rw [hi] at hg; cases hg
  | setTyped l₁ g l₂ _ hg hsa hla ha =>
    rw [ha] at hd'
    have := flag_disjoint _ _ (spec_of_mem hd').2
    cases this
  | split l₁ g l₂ _ b hg ha => rw [ha] at hl'; cases hl'

theorem not_mem_diags_applyFix (m : Module) (d : Diag) (h : d ∈ diags m) : d ∉ diags (applyFix m d) := by
  intro hd
  obtain ⟨pre, it, post, h1, h2, h3⟩ := split_of_mem_itemsDiags m m.items 0 d h
  have h2 : d.item = pre.length := h2.trans (Nat.zero_add _)
  obtain ⟨it', h4, _, h5⟩ := mem_itemsDiags (applyFix m d) _ 0 d hd
  rw [applyFix_items m d pre it post h1 h2, h2, Nat.sub_zero, List.getElem?_append_right (Nat.le_refl _),
    Nat.sub_self] at h4
  obtain ⟨k, t⟩ := d
  have hv := fixItem_view it t
  cases hf : fixItem it t with
  | nil => rw [hf] at hv; cases hv
  | cons a r =>
    rw [hf] at hv
    simp only [hf, List.cons_append, List.getElem?_cons_zero, Option.some.injEq] at h4
    exact not_mem_head_fix hv h3 (h4 ▸ h5)

end DL.Vms
