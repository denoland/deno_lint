/-! What the two scoping models (`DL.Scope`, `DL.Scope2`) have in common, for any type `ι` of scope identifiers: a stack
of frames seen as a function from names to scopes, pushing a frame onto it, and the invariant that links the lookup
function of a program to that of the program with one binding renamed.  Both models define `sw`, `act'` (and `DL.Scope2`
`renN`, `renL`) with the bodies used here, so the statements apply to them as they stand. -/
namespace DL.Binding

variable {ι : Type}

/-- the lookup function of an environment with the frame `fr` of scope `id` pushed onto it -/
def push (id : ι) (fr : List Nat) (lk : Nat → Option ι) : Nat → Option ι :=
  fun z => if z ∈ fr then some id else lk z

theorem push_eq_none_iff (id : ι) (fr : List Nat) (lk : Nat → Option ι) (z : Nat) :
    push id fr lk z = none ↔ z ∉ fr ∧ lk z = none := by
  unfold push
  by_cases h : z ∈ fr
  · simp [h]
  · simp [h]

theorem push_ne_none (id : ι) (fr : List Nat) {lk : Nat → Option ι} {z : Nat} (h : lk z ≠ none) :
    push id fr lk z ≠ none := fun hh => h ((push_eq_none_iff id fr lk z).mp hh).2

def sw (x y z : Nat) : Nat := if z = x then y else z
def renN (x y : Nat) (a : Bool) (z : Nat) : Nat := if a then sw x y z else z
def renL (x y : Nat) (a : Bool) (l : List Nat) : List Nat := if a then l.map (sw x y) else l

theorem sw_ne {x y z : Nat} (h : z ≠ x) : sw x y z = z := if_neg h
theorem sw_self (x y : Nat) : sw x y x = y := if_pos rfl

theorem renN_ne {x y z : Nat} (a : Bool) (h : z ≠ x) : renN x y a z = z := by
  cases a
  · rfl
  · exact sw_ne h

/-- `sw x y` is injective away from `y` -/
theorem sw_inj {x y z w : Nat} (hz : z ≠ y) (hw : w ≠ y) (h : sw x y z = sw x y w) : z = w := by
  unfold sw at h
  split at h <;> split at h
  · simp [*]
  · exact absurd h.symm hw
  · exact absurd h hz
  · exact h

theorem mem_map_sw {x y z : Nat} {fr : List Nat} (hy : y ∉ fr) (hz : z ≠ y) : sw x y z ∈ fr.map (sw x y) ↔ z ∈ fr := by
  rw [List.mem_map]
  constructor
  · rintro ⟨w, hw, he⟩
    exact sw_inj hz (fun h => hy (h ▸ hw)) he.symm ▸ hw
  · exact fun h => ⟨z, h, rfl⟩

theorem mem_renL {x y z : Nat} {fr : List Nat} (a : Bool) (hy : y ∉ fr) (hz : z ≠ y) :
    renN x y a z ∈ renL x y a fr ↔ z ∈ fr := by
  cases a
  · exact Iff.rfl
  · exact mem_map_sw hy hz

theorem map_sw_of_not_mem {x y : Nat} {l : List Nat} (h : x ∉ l) : l.map (sw x y) = l := by
  induction l with
  | nil => rfl
  | cons a r ih =>
    rw [List.mem_cons, not_or] at h
    rw [List.map_cons, ih h.2, sw_ne (Ne.symm h.1)]

/-- `lk` looks names up in the original, `lk'` in the program with the binding (`x`, scope `t`) renamed to `y`;
`active` = the binding is in scope and not shadowed -/
def Rel (t : ι) (x y : Nat) (active : Bool) (lk lk' : Nat → Option ι) : Prop :=
  (∀ z, z ≠ y → lk' (renN x y active z) = lk z) ∧ (active = true ↔ lk x = some t)

theorem Rel.init (t : ι) (x y : Nat) : Rel t x y false (fun _ => none) (fun _ => none) :=
  ⟨fun _ _ => rfl, nofun, nofun⟩

variable [DecidableEq ι]

/-- is the renaming of (`x`, scope `t`) active inside a scope `id` declaring `fr`? -/
def act (t : ι) (x : Nat) (active : Bool) (id : ι) (fr : List Nat) : Bool :=
  (id == t && decide (x ∈ fr)) || (active && !decide (x ∈ fr))

theorem act_of_mem {t : ι} {x : Nat} {fr : List Nat} (a : Bool) (id : ι) (h : x ∈ fr) :
    act t x a id fr = (id == t) := by simp [act, h]

theorem act_of_not_mem {t : ι} {x : Nat} {fr : List Nat} (a : Bool) (id : ι) (h : x ∉ fr) :
    act t x a id fr = a := by simp [act, h]

theorem Rel.step {t : ι} {x y : Nat} {active : Bool} {lk lk' : Nat → Option ι} (h : Rel t x y active lk lk') (id : ι)
    {fr : List Nat} (hy : y ∉ fr) :
    Rel t x y (act t x active id fr) (push id fr lk) (push id (renL x y (act t x active id fr) fr) lk') := by
  refine ⟨fun z hz => ?_, ?_⟩
  · unfold push
    by_cases hzf : z ∈ fr
    · rw [if_pos ((mem_renL _ hy hz).mpr hzf), if_pos hzf]
    · rw [if_neg (mt (mem_renL _ hy hz).mp hzf), if_neg hzf, ← h.1 z hz]
      -- a name outside the frame is switched inside the scope as it is outside
      by_cases hzx : z = x
      · rw [act_of_not_mem _ _ (hzx ▸ hzf)]
      · rw [renN_ne _ hzx, renN_ne _ hzx]
  · unfold push
    by_cases hxf : x ∈ fr
    · rw [act_of_mem _ _ hxf, if_pos hxf, beq_iff_eq, Option.some.injEq]
    · rw [act_of_not_mem _ _ hxf, if_neg hxf]; exact h.2

/-- one occurrence of `z`: its spelling is switched exactly when its binding is the renamed one -/
theorem Rel.renN_eq {t : ι} {x y : Nat} {active : Bool} {lk lk' : Nat → Option ι} (h : Rel t x y active lk lk')
    (z : Nat) : renN x y active z = if z = x ∧ lk z = some t then y else z := by
  by_cases hzx : z = x
  · subst hzx
    cases active
    · rw [if_neg (fun hh => by simpa using h.2.mpr hh.2)]; rfl
    · rw [if_pos ⟨rfl, h.2.mp rfl⟩]; exact sw_self z y
  · rw [renN_ne _ hzx, if_neg (fun hh => hzx hh.1)]

/-- two occurrences with the same binding, neither spelled `y`, are spelled alike after the renaming iff before -/
theorem swName_inj {t : ι} {x y n m : Nat} {b : Option ι} (hn : n ≠ y) (hm : m ≠ y) :
    (if n = x ∧ b = some t then y else n) = (if m = x ∧ b = some t then y else m) ↔ n = m := by
  by_cases hb : b = some t
  · simp only [hb, and_true]
    exact ⟨sw_inj hn hm, fun h => h ▸ rfl⟩
  · simp only [hb, and_false, if_false]

end DL.Binding
